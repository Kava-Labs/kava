/-
  Bit-exact model of cosmossdk.io/math v1.3.0 `LegacyDec` (18 decimals, mantissa in `Int`)
  and of the `sdkmath.Int` operations Kava uses.  Core Lean only (no Mathlib) so that the
  driver links as a `lean_exe`.  Tied to the Go library by the `num` correspondence stream.
-/
namespace KV

/-- 10^18, the Dec precision multiplier (`precisionReuse`). -/
def P : Int := 1000000000000000000
/-- 5·10^17 (`fivePrecision`). -/
def H : Int := 500000000000000000

/-- `big.Int.Quo`: truncated division (toward zero). Division by zero panics in Go; here 0. -/
def tquo (a b : Int) : Int :=
  if 0 ≤ a then (if 0 ≤ b then a / b else -(a / (-b)))
  else (if 0 ≤ b then -((-a) / b) else (-a) / (-b))

/-- `big.Int.Mod` is Euclidean, like Lean's `%` on `Int` for positive modulus. -/
def emod (a b : Int) : Int := a % b

/-- `chopPrecisionAndRound` on a non-negative argument: banker's rounding at 10^-18. -/
def chopRoundNonneg (d : Int) : Int :=
  if d % P = 0 then d / P
  else if d % P < H then d / P
  else if d % P > H then d / P + 1
  else if (d / P) % 2 = 0 then d / P else d / P + 1

def chopRound (d : Int) : Int :=
  if d < 0 then - chopRoundNonneg (-d) else chopRoundNonneg d

/-- `chopPrecisionAndTruncate`: `d.Quo(d, 10^18)`. -/
def chopTrunc (d : Int) : Int := tquo d P

/-- `chopPrecisionAndRoundUp`. -/
def chopRoundUp (d : Int) : Int :=
  if d < 0 then -(chopTrunc (-d))
  else if d % P = 0 then d / P else d / P + 1

structure Dec where
  m : Int
deriving DecidableEq, Repr, Inhabited

namespace Dec
def zero : Dec := ⟨0⟩
def one : Dec := ⟨P⟩
def smallest : Dec := ⟨1⟩
def ofInt (i : Int) : Dec := ⟨i * P⟩
def add (a b : Dec) : Dec := ⟨a.m + b.m⟩
def sub (a b : Dec) : Dec := ⟨a.m - b.m⟩
def neg (a : Dec) : Dec := ⟨-a.m⟩
def mul (a b : Dec) : Dec := ⟨chopRound (a.m * b.m)⟩
def mulTruncate (a b : Dec) : Dec := ⟨chopTrunc (a.m * b.m)⟩
def mulRoundUp (a b : Dec) : Dec := ⟨chopRoundUp (a.m * b.m)⟩
def mulInt (a : Dec) (i : Int) : Dec := ⟨a.m * i⟩
def quo (a b : Dec) : Dec := ⟨chopRound (tquo (a.m * P * P) b.m)⟩
def quoTruncate (a b : Dec) : Dec := ⟨chopTrunc (tquo (a.m * P * P) b.m)⟩
def quoRoundUp (a b : Dec) : Dec := ⟨chopRoundUp (tquo (a.m * P * P) b.m)⟩
def quoInt (a : Dec) (i : Int) : Dec := ⟨tquo a.m i⟩
def roundInt (a : Dec) : Int := chopRound a.m
def truncateInt (a : Dec) : Int := chopTrunc a.m
def ceil (a : Dec) : Dec :=
  let q := tquo a.m P
  let r := a.m - q * P
  if r ≤ 0 then ofInt q else ofInt (q + 1)
def lt (a b : Dec) : Bool := decide (a.m < b.m)
def le (a b : Dec) : Bool := decide (a.m ≤ b.m)
def isZero (a : Dec) : Bool := decide (a.m = 0)
def isPositive (a : Dec) : Bool := decide (0 < a.m)
def isNegative (a : Dec) : Bool := decide (a.m < 0)
def min (a b : Dec) : Dec := if a.m < b.m then a else b
def max (a b : Dec) : Dec := if a.m < b.m then b else a
end Dec

/-! ### Lemmas -/

set_option linter.unusedVariables false

theorem tquo_nonneg_eq (a b : Int) (ha : 0 ≤ a) (hb : 0 ≤ b) : tquo a b = a / b := by
  unfold tquo; rw [if_pos ha, if_pos hb]

theorem chopTrunc_nonneg_eq (a : Int) (ha : 0 ≤ a) : chopTrunc a = a / P :=
  tquo_nonneg_eq a P ha (by decide)

/-- The rounded value is the quotient or its successor, according to the side of one half on which the
    remainder lies. -/
theorem chopRoundNonneg_cases (d : Int) :
    chopRoundNonneg d = d / P ∧ d % P ≤ H ∨ chopRoundNonneg d = d / P + 1 ∧ H ≤ d % P := by
  unfold chopRoundNonneg
  rcases Int.lt_trichotomy (d % P) H with h | h | h
  · rw [if_pos h, ite_self]; exact .inl ⟨rfl, Int.le_of_lt h⟩
  · rw [h, if_neg (by decide), if_neg (by decide), if_neg (by decide)]
    by_cases h2 : d / P % 2 = 0
    · rw [if_pos h2]; exact .inl ⟨rfl, Int.le_refl _⟩
    · rw [if_neg h2]; exact .inr ⟨rfl, Int.le_refl _⟩
  · have h0 : d % P ≠ 0 := fun e => absurd (e ▸ h) (by decide)
    rw [if_neg h0, if_neg (Int.lt_asymm h), if_pos h]; exact .inr ⟨rfl, Int.le_of_lt h⟩

-- the bound holds for every `d`; `hd` is not used
theorem chopRoundNonneg_bound (d : Int) (hd : 0 ≤ d) :
    2 * (chopRoundNonneg d * P - d) ≤ P ∧ 2 * (d - chopRoundNonneg d * P) ≤ P := by
  have e := Int.ediv_mul_add_emod d P
  have c := chopRoundNonneg_cases d
  have h := Int.emod_lt_of_pos d (by decide : 0 < P)
  unfold P H at *
  omega

theorem chopRoundNonneg_mono (a b : Int) (ha : 0 ≤ a) (hab : a ≤ b) :
    chopRoundNonneg a ≤ chopRoundNonneg b := by
  rcases Int.lt_or_eq_of_le hab with h | rfl
  · -- both values are within half a unit of their arguments, so they cannot cross
    have h1 := (chopRoundNonneg_bound a ha).1
    have h2 := (chopRoundNonneg_bound b (Int.le_trans ha hab)).2
    unfold P at h1 h2; omega
  · exact Int.le_refl _

theorem chopRoundNonneg_zero : chopRoundNonneg 0 = 0 := by decide

theorem chopRoundNonneg_nonneg (a : Int) (ha : 0 ≤ a) : 0 ≤ chopRoundNonneg a :=
  chopRoundNonneg_zero ▸ chopRoundNonneg_mono 0 a (Int.le_refl 0) ha

theorem chopRound_mono (a b : Int) (hab : a ≤ b) : chopRound a ≤ chopRound b := by
  unfold chopRound
  by_cases hb : b < 0
  · rw [if_pos hb, if_pos (Int.lt_of_le_of_lt hab hb)]
    exact Int.neg_le_neg (chopRoundNonneg_mono (-b) (-a) (by omega) (Int.neg_le_neg hab))
  · rw [if_neg hb]
    have h2 := chopRoundNonneg_nonneg b (by omega)
    by_cases ha : a < 0
    · rw [if_pos ha]
      exact Int.le_trans (Int.neg_nonpos_of_nonneg (chopRoundNonneg_nonneg (-a) (by omega))) h2
    · rw [if_neg ha]; exact chopRoundNonneg_mono a b (by omega) hab

/-- An exact multiple of 10^-18 is not rounded. -/
theorem chopRoundNonneg_exact (a : Int) : chopRoundNonneg (a * P) = a := by
  unfold chopRoundNonneg
  rw [Int.mul_emod_left, if_pos rfl, Int.mul_ediv_cancel a (by decide)]

theorem chopRound_mul_P (a : Int) : chopRound (a * P) = a := by
  unfold chopRound
  split
  · rw [← Int.neg_mul, chopRoundNonneg_exact, Int.neg_neg]
  · exact chopRoundNonneg_exact a

/-- Dec `mul` by a factor ≥ 1 never decreases a non-negative value. -/
theorem chopRound_mul_ge_of_one_le (a f : Int) (ha : 0 ≤ a) (hf : P ≤ f) :
    a ≤ chopRound (a * f) := by
  have h := chopRound_mono (a * P) (a * f) (Int.mul_le_mul_of_nonneg_left hf ha)
  rwa [chopRound_mul_P] at h

theorem chopRound_nonneg (a : Int) (ha : 0 ≤ a) : 0 ≤ chopRound a :=
  (by decide : chopRound 0 = 0) ▸ chopRound_mono 0 a ha

end KV
