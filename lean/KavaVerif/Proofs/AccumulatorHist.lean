/-
  Lemmas for C09, part 2: operation histories.
  `Op` / `gstep` / `grun` run the model over ANY list of operations while accumulating ghost quantities
  (emission counted by the module, number of synchronisations, claimed amounts, each user's time
  integral).  `Step` says what one step can be; two potentials are monotone along every step:
    `Phi`         → C09_no_over_distribution
    `Within` (`2P·Dv ∓ Bv`)   → C09_integral
-/
import KavaVerif.Proofs.Accumulator
namespace KV.Acc
open KV

def sumOver (l : List Addr) (f : Addr → Int) : Int := (l.map f).foldr (· + ·) 0

theorem sumOver_nil (f : Addr → Int) : sumOver [] f = 0 := rfl
theorem sumOver_cons (x : Addr) (xs : List Addr) (f : Addr → Int) :
    sumOver (x :: xs) f = f x + sumOver xs f := rfl

theorem sumOver_congr (l : List Addr) (f g : Addr → Int) (h : ∀ a ∈ l, f a = g a) :
    sumOver l f = sumOver l g := by
  induction l with
  | nil => rfl
  | cons x xs ih =>
    rw [sumOver_cons, sumOver_cons, h x (List.mem_cons_self ..),
      ih (fun a ha => h a (List.mem_cons_of_mem _ ha))]

theorem sumOver_add_mul (l : List Addr) (f g : Addr → Int) (c : Int) :
    sumOver l (fun a => f a + c * g a) = sumOver l f + c * sumOver l g := by
  induction l with
  | nil => simp [sumOver]
  | cons x xs ih => rw [sumOver_cons, sumOver_cons, sumOver_cons, ih]; ring

theorem sumOver_point (l : List Addr) (f g : Addr → Int) (a : Addr) (hn : l.Nodup) (ha : a ∈ l)
    (h : ∀ x, x ≠ a → g x = f x) : sumOver l g = sumOver l f - f a + g a := by
  induction l with
  | nil => cases ha
  | cons x xs ih =>
    have hnd := List.nodup_cons.mp hn
    rw [sumOver_cons, sumOver_cons]
    by_cases hx : x = a
    · subst hx
      have : sumOver xs g = sumOver xs f :=
        sumOver_congr xs g f (fun y hy => h y (fun e => hnd.1 (e ▸ hy)))
      rw [this]; omega
    · have hm : a ∈ xs := by
        cases ha with
        | head => exact absurd rfl hx
        | tail _ h' => exact h'
      rw [ih hnd.2 hm, h x hx]; omega

theorem sumOver_const (l : List Addr) (c : Int) : sumOver l (fun _ => c) = l.length * c := by
  induction l with
  | nil => simp [sumOver]
  | cons x xs ih => rw [sumOver_cons, ih]; simp only [List.length_cons]; push_cast; ring

/-- pending reward before the two roundings, units 10^-36: (I − i)·s -/
def pend2 (σ : St) (a : Addr) : Int := (σ.I - (σ.u a).i) * (σ.u a).s

/-- accrued reward plus exact pending reward of one user, units 10^-36 -/
def worth (σ : St) (a : Addr) : Int := (σ.u a).r * P * P + pend2 σ a

def W (us : List Addr) (σ : St) : Int := sumOver us (worth σ)

def shares (us : List Addr) (σ : St) : Int := sumOver us (fun a => (σ.u a).s)

inductive Op where
  | acc (now : Int)
  | sync (a : Addr)
  | change (a : Addr) (s' : Int)
  | claim (a : Addr) (factor now claimEnd macc : Int)
  | rawWrite (a : Addr) (s' : Int)   -- a share write with no hook: what `Gen.shareWrites` excludes
deriving Repr, DecidableEq

/-- every share change goes through `change` (hook, then write) -/
def Op.hooked : Op → Bool
  | .rawWrite _ _ => false
  | _ => true

/-- the operation acts on a listed participant and writes non-negative shares -/
def Op.okFor (us : List Addr) : Op → Prop
  | .acc _ => True
  | .sync a => a ∈ us
  | .change a s' => a ∈ us ∧ 0 ≤ s'
  | .claim a _ _ _ _ => a ∈ us
  | .rawWrite a s' => a ∈ us ∧ 0 ≤ s'

instance (us : List Addr) (o : Op) : Decidable (o.okFor us) := by
  cases o <;> unfold Op.okFor <;> infer_instance

/-- ghost quantities the theorems speak about (none of them is stored by the code) -/
structure Ghost where
  emitted : Int          -- Σ_b (2·rate·secs_b·P + T_b) over accruing blocks; units ½·10^-36
  nsync : Int            -- synchronisations performed
  claimed : Int          -- Σ accrued amounts deducted by claims
  flo : Addr → Int       -- per user Σ_b ⌊rate·secs_b·P·s_u(b) / T_b⌋: the time integral, units 10^-36
  slack : Addr → Int     -- per user Σ_b ((P+2)·s_u(b) + P)
  nsyncU : Addr → Int    -- per user synchronisations
  claimedU : Addr → Int  -- per user claimed

def Ghost.zero : Ghost := ⟨0, 0, 0, fun _ => 0, fun _ => 0, fun _ => 0, fun _ => 0⟩

def bump (f : Addr → Int) (a : Addr) (v : Int) : Addr → Int := fun x => if x = a then f x + v else f x

def Ghost.synced (g : Ghost) (a : Addr) : Ghost :=
  { g with nsync := g.nsync + 1, nsyncU := bump g.nsyncU a 1 }

/-- one operation; a failed or panicking operation changes nothing (baseapp discards its writes) -/
def gstep (p : Period) (x : St × Ghost) : Op → St × Ghost
  | .acc now =>
    match accumulate p x.1 now with
    | .ok σ' =>
      let secs := accSecs p x.1 now
      if 0 < x.1.T ∧ 0 < secs then
        (σ', { x.2 with emitted := x.2.emitted + (2 * p.rate * secs * P + x.1.T),
                        flo := fun a => x.2.flo a + p.rate * secs * P * (x.1.u a).s / x.1.T,
                        slack := fun a => x.2.slack a + ((P + 2) * (x.1.u a).s + P) })
      else (σ', x.2)
    | _ => x
  | .sync a =>
    match sync x.1 a with
    | .ok σ' => (σ', x.2.synced a)
    | _ => x
  | .change a s' =>
    match change x.1 a s' with
    | .ok σ' => (σ', x.2.synced a)
    | _ => x
  | .claim a f now ce macc =>
    match claim x.1 a f now ce macc with
    | .ok (σ', _) =>
      let amt := (x.1.u a).r + pending x.1 a
      (σ', { (x.2.synced a) with claimed := x.2.claimed + amt, claimedU := bump x.2.claimedU a amt })
    | _ => x
  | .rawWrite a s' => (write x.1 a s', x.2)

def grun (p : Period) (x : St × Ghost) (ops : List Op) : St × Ghost := ops.foldl (gstep p) x

theorem grun_cons (p : Period) (x : St × Ghost) (o : Op) (ops : List Op) :
    grun p x (o :: ops) = grun p (gstep p x o) ops := rfl

/-- the ghost record after a `settle` of `a` paying out `c` -/
def Ghost.settled (g : Ghost) (a : Addr) (c : Int) : Ghost :=
  { g.synced a with claimed := g.claimed + c, claimedU := bump g.claimedU a c }

theorem Ghost.settled_zero (g : Ghost) (a : Addr) : g.settled a 0 = g.synced a := by
  have : bump g.claimedU a 0 = g.claimedU := by funext y; unfold bump; split <;> omega
  simp only [Ghost.settled, Ghost.synced, this, Int.add_zero]

/-- What one step of a history can be: at most the accrual time moved (the operation failed and nothing moved,
    or it was an accumulation with no shares or over no whole second); an accruing accumulation; a `settle`
    (a successful `sync`, `change` or `claim`); a share write with no hook. -/
inductive Step (p : Period) (x : St × Ghost) : Op → St × Ghost → Prop
  | idle (o : Op) (t : Int) (ht : (∀ now, o ≠ .acc now) → t = x.1.prev) : Step p x o ({ x.1 with prev := t }, x.2)
  | accrue (now : Int) (hT : 0 < x.1.T) (hsec : 0 < accSecs p x.1 now) : Step p x (.acc now)
      ({ x.1 with I := x.1.I + indexIncrement p.rate x.1.T (accSecs p x.1 now), prev := min p.stop now },
       { x.2 with emitted := x.2.emitted + (2 * p.rate * accSecs p x.1 now * P + x.1.T),
                  flo := fun a => x.2.flo a + p.rate * accSecs p x.1 now * P * (x.1.u a).s / x.1.T,
                  slack := fun a => x.2.slack a + ((P + 2) * (x.1.u a).s + P) })
  | settle (o : Op) (a : Addr) (s' c : Int) (hi : (x.1.u a).i ≤ x.1.I)
      (hok : ∀ us, o.okFor us → a ∈ us ∧ (0 ≤ (x.1.u a).s → 0 ≤ s')) : Step p x o (settle x.1 a s' c, x.2.settled a c)
  | raw (a : Addr) (s' : Int) : Step p x (.rawWrite a s') (write x.1 a s', x.2)

theorem Step.same (p : Period) (x : St × Ghost) (o : Op) : Step p x o x := .idle o x.1.prev (fun _ => rfl)

theorem gstep_step (p : Period) (x : St × Ghost) (o : Op) : Step p x o (gstep p x o) := by
  obtain ⟨σ, g⟩ := x
  cases o with
  | acc now =>
    by_cases h : σ.prev ≤ now ∧ p.start ≤ p.stop
    · by_cases hc : 0 < σ.T ∧ 0 < accSecs p σ now
      · simp only [gstep, accumulate_eq, if_pos h, if_pos hc]
        exact .accrue now hc.1 hc.2
      · simp only [gstep, accumulate_eq, if_pos h, if_neg hc, indexIncrement_zero hc, Int.add_zero]
        exact .idle _ _ (fun h' => absurd rfl (h' now))
    · simp only [gstep, accumulate_eq, if_neg h]
      exact .same ..
  | sync a =>
    by_cases h : (σ.u a).i ≤ σ.I
    · simp only [gstep, sync_eq, if_pos h, ← Ghost.settled_zero]
      exact .settle _ a _ 0 h (fun us ho => ⟨ho, id⟩)
    · simp only [gstep, sync_eq, if_neg h]
      exact .same ..
  | change a s' =>
    by_cases h : (σ.u a).i ≤ σ.I
    · simp only [gstep, change_eq, if_pos h, ← Ghost.settled_zero]
      exact .settle _ a s' 0 h (fun us ho => ⟨ho.1, fun _ => ho.2⟩)
    · simp only [gstep, change_eq, if_neg h]
      exact .same ..
  | claim a f now ce macc =>
    cases h : claim σ a f now ce macc with
    | err | panic => simp only [gstep, h]; exact .same ..
    | ok r =>
      obtain ⟨σ', pay⟩ := r
      have k := claim_ok h
      obtain rfl := k.state
      simp only [gstep, h]
      exact .settle _ a _ _ k.idx (fun us ho => ⟨ho, id⟩)
  | rawWrite a s' => exact .raw a s'

theorem grun_induct (p : Period) (inv : St × Ghost → Prop) (ops : List Op)
    (step : ∀ o ∈ ops, ∀ y, inv y → inv (gstep p y o)) (x : St × Ghost) (h : inv x) : inv (grun p x ops) := by
  induction ops generalizing x with
  | nil => exact h
  | cons o os ih =>
    exact ih (fun o' h' => step o' (List.mem_cons_of_mem _ h')) _ (step o (List.mem_cons_self ..) x h)

theorem pending_bound {σ : St} {a : Addr} (h : (σ.u a).i ≤ σ.I) :
    2 * (((σ.u a).r + pending σ a) * P * P - worth σ a) ≤ P * P + P ∧
    2 * (worth σ a - ((σ.u a).r + pending σ a) * P * P) ≤ P * P + P := by
  have := chopRound2_bound (pend2 σ a)
  unfold worth
  rw [pending_eq h, Int.add_mul, Int.add_mul]
  unfold pend2 at this ⊢
  omega

def IdxLe (σ : St) : Prop := ∀ a, (σ.u a).i ≤ σ.I

/-- total credited after synchronising everybody, against the pre-rounding worth -/
theorem credited_le_W (us : List Addr) (σ : St) (h : IdxLe σ) :
    2 * (sumOver us (fun a => (σ.u a).r + pending σ a) * P * P) ≤ 2 * W us σ + us.length * (P * P + P) := by
  induction us with
  | nil => exact Int.le_refl 0
  | cons a us ih =>
    have := (pending_bound (h a)).1
    simp only [W, sumOver_cons, List.length_cons] at ih ⊢
    push_cast
    linarith only [this, ih]

/-- a `settle` moves the worth of its user, net of what is paid out, by the two roundings only -/
theorem worth_settle (σ : St) (a : Addr) (s' c : Int) (h : (σ.u a).i ≤ σ.I) :
    2 * (worth (settle σ a s' c) a + c * P * P - worth σ a) ≤ P * P + P ∧
    2 * (worth σ a - (worth (settle σ a s' c) a + c * P * P)) ≤ P * P + P := by
  have e : worth (settle σ a s' c) a = ((σ.u a).r + pending σ a) * P * P - c * P * P := by
    simp only [worth, pend2, settle, upd_self, Int.sub_self, Int.zero_mul, Int.add_zero, Int.sub_mul]
  have := pending_bound h
  rw [e]; omega

theorem worth_settle_ne {σ : St} {a : Addr} {s' c : Int} {y : Addr} (h : y ≠ a) :
    worth (settle σ a s' c) y = worth σ y := by
  simp only [worth, pend2, settle, upd_ne h]

theorem W_settle {us : List Addr} {σ : St} {a : Addr} {s' c : Int} (hn : us.Nodup) (ha : a ∈ us) :
    W us (settle σ a s' c) = W us σ - worth σ a + worth (settle σ a s' c) a :=
  sumOver_point us _ _ a hn ha (fun _ => worth_settle_ne)

theorem shares_settle {us : List Addr} {σ : St} {a : Addr} {s' c : Int} (hn : us.Nodup) (ha : a ∈ us) :
    shares us (settle σ a s' c) = shares us σ - (σ.u a).s + s' := by
  have := sumOver_point us (fun y => (σ.u y).s) (fun y => ((settle σ a s' c).u y).s) a hn ha
    (fun y hy => by simp only [settle, upd_ne hy])
  simp only [settle, upd_self] at this
  exact this

theorem worth_accumulate (σ : St) (inc t : Int) (a : Addr) :
    worth { σ with I := σ.I + inc, prev := t } a = worth σ a + inc * (σ.u a).s := by
  simp only [worth, pend2]; ring

theorem W_accumulate (us : List Addr) (σ : St) (inc t : Int) :
    W us { σ with I := σ.I + inc, prev := t } = W us σ + inc * shares us σ := by
  unfold W shares
  rw [← sumOver_add_mul]
  exact sumOver_congr us _ _ (fun a _ => worth_accumulate σ inc t a)

/-- potential of the no-over-distribution bound -/
def Phi (us : List Addr) (x : St × Ghost) : Int :=
  2 * (W us x.1 + x.2.claimed * P * P) - x.2.emitted - x.2.nsync * (P * P + P)

theorem step_phi {p : Period} {x y : St × Ghost} {o : Op} (k : Step p x o y) (us : List Addr)
    (hr : 0 ≤ p.rate) (hn : us.Nodup) (hs : shares us x.1 ≤ x.1.T) (hh : o.hooked = true) (ho : o.okFor us) :
    Phi us y ≤ Phi us x ∧ shares us y.1 ≤ y.1.T := by
  cases k with
  | idle _ t => exact ⟨Int.le_refl _, hs⟩
  | accrue now hT hsec =>
    refine ⟨?_, hs⟩
    obtain ⟨b, -⟩ := indexIncrement_bound hr hT hsec
    have hle := Int.mul_le_mul_of_nonneg_left hs (indexIncrement_nonneg p.rate x.1.T (accSecs p x.1 now) hr)
    simp only [Phi, W_accumulate]
    linarith only [b, hle]
  | settle _ a s' c hi hok =>
    obtain ⟨ha, -⟩ := hok us ho
    obtain ⟨b, -⟩ := worth_settle x.1 a s' c hi
    refine ⟨?_, ?_⟩
    · simp only [Phi, Ghost.settled, Ghost.synced, W_settle hn ha]
      linarith only [b]
    · rw [shares_settle hn ha]
      show _ ≤ x.1.T - (x.1.u a).s + s'
      omega
  | raw => cases hh

theorem grun_phi (p : Period) (us : List Addr) (ops : List Op) (x : St × Ghost)
    (hr : 0 ≤ p.rate) (hn : us.Nodup) (hs : shares us x.1 ≤ x.1.T)
    (hh : ∀ o ∈ ops, o.hooked = true) (ho : ∀ o ∈ ops, o.okFor us) :
    Phi us (grun p x ops) ≤ Phi us x ∧ shares us (grun p x ops).1 ≤ (grun p x ops).1.T :=
  grun_induct p (fun y => Phi us y ≤ Phi us x ∧ shares us y.1 ≤ y.1.T) ops
    (fun o h y hy =>
      have k := step_phi (gstep_step p y o) us hr hn hy.2 (hh o h) (ho o h)
      ⟨Int.le_trans k.1 hy.1, k.2⟩)
    x ⟨Int.le_refl _, hs⟩

theorem step_idxLe {p : Period} {x y : St × Ghost} {o : Op} (k : Step p x o y) (hr : 0 ≤ p.rate) (h : IdxLe x.1) :
    IdxLe y.1 := by
  cases k with
  | idle _ t => exact h
  | accrue now =>
    exact fun y => Int.le_trans (h y) (Int.le_add_of_nonneg_right (indexIncrement_nonneg _ _ _ hr))
  | settle _ a s' c =>
    intro y
    simp only [settle, upd]
    split
    · exact Int.le_refl _
    · exact h y
  | raw a s' =>
    intro y
    simp only [write, upd]
    split
    · exact h a
    · exact h y

theorem grun_idxLe (p : Period) (ops : List Op) (x : St × Ghost) (hr : 0 ≤ p.rate) (h : IdxLe x.1) :
    IdxLe (grun p x ops).1 :=
  grun_induct p (fun y => IdxLe y.1) ops (fun o _ y hy => step_idxLe (gstep_step p y o) hr hy) x h

/-- accrued + claimed + exact pending of user `a`, minus the time integral so far; units 10^-36 -/
def Dv (a : Addr) (x : St × Ghost) : Int :=
  worth x.1 a + x.2.claimedU a * P * P - x.2.flo a

/-- the allowance: P·(P²+P) per synchronisation of `a` plus (P+2)·s_a(b) + P per accruing block;
    units 1/(2P)·10^-36 -/
def Bv (a : Addr) (x : St × Ghost) : Int :=
  P * x.2.nsyncU a * (P * P + P) + x.2.slack a

def NonnegShares (σ : St) : Prop := ∀ a, 0 ≤ (σ.u a).s

/-- from `x` to `y`, `a`'s accrual has drifted from the time integral by no more than the allowance has grown -/
def Within (a : Addr) (x y : St × Ghost) : Prop :=
  2 * P * Dv a y - Bv a y ≤ 2 * P * Dv a x - Bv a x ∧ 2 * P * Dv a x + Bv a x ≤ 2 * P * Dv a y + Bv a y

theorem Within.refl (a : Addr) (x : St × Ghost) : Within a x x := ⟨Int.le_refl _, Int.le_refl _⟩

theorem Within.trans {a : Addr} {x y z : St × Ghost} (h1 : Within a x y) (h2 : Within a y z) : Within a x z :=
  ⟨Int.le_trans h2.1 h1.1, Int.le_trans h1.2 h2.2⟩

theorem step_within {p : Period} {x y : St × Ghost} {o : Op} (k : Step p x o y) (us : List Addr) (a : Addr)
    (hr : 0 ≤ p.rate) (hs : NonnegShares x.1) (hh : o.hooked = true) (ho : o.okFor us) :
    Within a x y ∧ NonnegShares y.1 := by
  have hP := Int.le_of_lt P_pos
  cases k with
  | idle _ t => exact ⟨Within.refl a x, hs⟩
  | accrue now hT hsec =>
    obtain ⟨b1, b2⟩ := increment_share_bound hr hT hsec (hs a)
    have b2P := Int.mul_le_mul_of_nonneg_left b2 hP
    have hsa := hs a
    refine ⟨?_, hs⟩
    simp only [Within, Dv, Bv, worth_accumulate]
    exact ⟨by linarith only [b2P, hsa], by linarith only [b1, hP]⟩
  | settle _ b s' c hi hok =>
    have hns : NonnegShares (settle x.1 b s' c) := by
      intro y
      simp only [settle, upd]
      split
      · exact (hok us ho).2 (hs b)
      · exact hs y
    by_cases hab : a = b
    · subst hab
      obtain ⟨b1, b2⟩ := worth_settle x.1 a s' c hi
      have c1 := Int.mul_le_mul_of_nonneg_left b1 hP
      have c2 := Int.mul_le_mul_of_nonneg_left b2 hP
      refine ⟨?_, hns⟩
      simp only [Within, Dv, Bv, Ghost.settled, Ghost.synced, bump, if_pos]
      exact ⟨by linarith only [c1], by linarith only [c2]⟩
    · simp only [Within, Dv, Bv, Ghost.settled, Ghost.synced, bump, if_neg hab, worth_settle_ne hab]
      exact ⟨⟨Int.le_refl _, Int.le_refl _⟩, hns⟩
  | raw => cases hh

theorem grun_integral (p : Period) (us : List Addr) (ops : List Op) (x : St × Ghost) (a : Addr)
    (hr : 0 ≤ p.rate) (hs : NonnegShares x.1)
    (hh : ∀ o ∈ ops, o.hooked = true) (ho : ∀ o ∈ ops, o.okFor us) : Within a x (grun p x ops) :=
  (grun_induct p (fun y => Within a x y ∧ NonnegShares y.1) ops
    (fun o h y hy =>
      have k := step_within (gstep_step p y o) us a hr hy.2 (hh o h) (ho o h)
      ⟨hy.1.trans k.1, k.2⟩)
    x ⟨Within.refl a x, hs⟩).1

/-- block times of a history -/
def accTimes : List Op → List Int
  | [] => []
  | .acc now :: os => now :: accTimes os
  | _ :: os => accTimes os

/-- block times never decrease, starting from `τ` -/
def Chain : Int → List Int → Prop
  | _, [] => True
  | τ, t :: ts => τ ≤ t ∧ Chain t ts

instance instDecidableChain : (τ : Int) → (ts : List Int) → Decidable (Chain τ ts)
  | _, [] => isTrue trivial
  | τ, t :: ts =>
    match (inferInstance : Decidable (τ ≤ t)), instDecidableChain t ts with
    | isTrue h1, isTrue h2 => isTrue ⟨h1, h2⟩
    | isFalse h1, _ => isFalse (fun h => h1 h.1)
    | _, isFalse h2 => isFalse (fun h => h2 h.2)

/-- consecutive pieces of the period cut by the block times -/
def pieces (p : Period) : Int → List Int → List Int
  | _, [] => []
  | τ, t :: ts => (clip p t - clip p τ) :: pieces p t ts

/-- the nanosecond windows the model counts at the `acc` operations of a history -/
def histWindows (p : Period) : St × Ghost → List Op → List Int
  | _, [] => []
  | x, .acc now :: os => (elapsed x.1.prev now p.start p.stop).getD 0 :: histWindows p (gstep p x (.acc now)) os
  | x, .sync a :: os => histWindows p (gstep p x (.sync a)) os
  | x, .change a s :: os => histWindows p (gstep p x (.change a s)) os
  | x, .claim a f n c m :: os => histWindows p (gstep p x (.claim a f n c m)) os
  | x, .rawWrite a s :: os => histWindows p (gstep p x (.rawWrite a s)) os

def lastD (τ : Int) : List Int → Int
  | [] => τ
  | t :: ts => lastD t ts

def sumL : List Int → Int
  | [] => 0
  | x :: xs => x + sumL xs

theorem step_prev {p : Period} {x y : St × Ghost} {o : Op} (k : Step p x o y) (h : ∀ now, o ≠ .acc now) :
    y.1.prev = x.1.prev := by
  cases k with
  | idle _ t ht => exact ht h
  | accrue now => exact absurd rfl (h now)
  | settle | raw => rfl

theorem gstep_acc_prev {p : Period} {x : St × Ghost} {now : Int} (h1 : x.1.prev ≤ now) (h2 : p.start ≤ p.stop) :
    (gstep p x (.acc now)).1.prev = min p.stop now := by
  simp only [gstep, accumulate_eq, if_pos (And.intro h1 h2)]
  split <;> rfl

theorem histWindows_eq (p : Period) (ops : List Op) (x : St × Ghost) (τ : Int)
    (h2 : p.start ≤ p.stop) (h3 : p.stop - p.start ≤ maxDur)
    (hp : x.1.prev ≤ τ ∧ clip p x.1.prev = clip p τ) (hc : Chain τ (accTimes ops)) :
    histWindows p x ops = pieces p τ (accTimes ops) := by
  induction ops generalizing x τ with
  | nil => rfl
  | cons o os ih =>
    cases o with
    | acc now =>
      simp only [accTimes, Chain] at hc
      simp only [histWindows, accTimes, pieces]
      have hle : x.1.prev ≤ now := by omega
      rw [elapsed_eq hle h2 h3, Option.getD_some, hp.2]
      congr 1
      apply ih _ now _ hc.2
      rw [gstep_acc_prev hle h2]
      exact ⟨by omega, clip_min_stop p now⟩
    | _ =>
      simp only [histWindows, accTimes] at hc ⊢
      apply ih _ τ _ hc
      rw [step_prev (gstep_step p x _) (fun _ h => by cases h)]; exact hp

theorem pieces_sum (p : Period) (ts : List Int) (τ : Int) :
    sumL (pieces p τ ts) = clip p (lastD τ ts) - clip p τ := by
  induction ts generalizing τ with
  | nil => simp [pieces, sumL, lastD]
  | cons t ts ih => simp only [pieces, sumL, lastD, ih]; omega

theorem pieces_nonneg (p : Period) (ts : List Int) (τ : Int) (hc : Chain τ ts) :
    ∀ d ∈ pieces p τ ts, 0 ≤ d := by
  induction ts generalizing τ with
  | nil => intro d hd; cases hd
  | cons t ts ih =>
    intro d hd
    simp only [pieces, List.mem_cons] at hd
    cases hd with
    | inl h => have := clip_mono p τ t hc.1; omega
    | inr h => exact ih t hc.2 d h

end KV.Acc
