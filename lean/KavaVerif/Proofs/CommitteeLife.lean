/-
  Helper lemmas for C17 (b): the committee proposal lifecycle (Model/Committee.lean).
  Each operation has one lemma that walks its guards (`enact_cases`, `submit_ok_shape`, `vote_ok_shape`,
  `processOne_shape`); the invariant `Inv` over (store, ghost event log), the frame facts and the timing
  facts are read off those.  The begin block's loop is a fold of single turns (`processAll_eq`).
-/
import KavaVerif.Model.Committee
set_option linter.unusedSimpArgs false
set_option linter.unusedVariables false
namespace KV.Com
open KV

variable {Ext C Pm : Type}

def closedPids : List Event → List Nat
  | [] => []
  | .closed p _ :: es => p :: closedPids es
  | .enacted _ :: es => closedPids es

def enactedPids : List Event → List Nat
  | [] => []
  | .enacted p :: es => p :: enactedPids es
  | .closed _ _ :: es => enactedPids es

theorem closedPids_append (a b : List Event) : closedPids (a ++ b) = closedPids a ++ closedPids b := by
  induction a with
  | nil => rfl
  | cons e es ih => cases e <;> simp only [List.cons_append, closedPids, ih]

theorem enactedPids_append (a b : List Event) : enactedPids (a ++ b) = enactedPids a ++ enactedPids b := by
  induction a with
  | nil => rfl
  | cons e es ih => cases e <;> simp only [List.cons_append, enactedPids, ih]

theorem closedPids_sublist (l : List Event) : (closedPids l).Sublist (l.map Event.pid) := by
  induction l with
  | nil => exact .slnil
  | cons e es ih =>
    cases e with
    | enacted q => exact ih.cons _
    | closed q o => exact ih.cons_cons _

theorem enactedPids_sublist (l : List Event) : (enactedPids l).Sublist (l.map Event.pid) := by
  induction l with
  | nil => exact .slnil
  | cons e es ih =>
    cases e with
    | enacted q => exact ih.cons_cons _
    | closed q o => exact ih.cons _

theorem enacted_mem_enactedPids (l : List Event) (p : Nat) (h : Event.enacted p ∈ l) : p ∈ enactedPids l := by
  induction l with
  | nil => cases h
  | cons e es ih =>
    rcases List.mem_cons.mp h with h1 | h1
    · subst h1; exact List.mem_cons_self
    · cases e with
      | enacted q => exact List.mem_cons_of_mem _ (ih h1)
      | closed q o => exact ih h1

/-- The invariant of (committee store, event log). -/
structure Inv (s : St Ext C Pm) : Prop where
  ids_lt : ∀ p, p ∈ s.proposals → p.id < s.nextId
  ids_nodup : (s.proposals.map (·.id)).Nodup
  log_lt : ∀ e, e ∈ s.log → e.pid < s.nextId
  open_not_logged : ∀ p, p ∈ s.proposals → ∀ e, e ∈ s.log → e.pid ≠ p.id
  closed_nodup : (closedPids s.log).Nodup
  enacted_nodup : (enactedPids s.log).Nodup
  enacted_closed : ∀ pid, Event.enacted pid ∈ s.log → Event.closed pid .passed ∈ s.log
  votes_open : ∀ v, v ∈ s.votes → ∃ p, p ∈ s.proposals ∧ p.id = v.pid

theorem nodup_map_filter {α β : Type} {f : α → β} (q : α → Bool) {l : List α} (h : (l.map f).Nodup) :
    ((l.filter q).map f).Nodup :=
  List.Nodup.sublist (List.Sublist.map f List.filter_sublist) h

theorem nodup_of_map_nodup {α β : Type} (f : α → β) (l : List α) (h : (l.map f).Nodup) : l.Nodup := by
  induction l with
  | nil => exact List.nodup_nil
  | cons a t ih =>
    simp only [List.map_cons, List.nodup_cons] at h ⊢
    exact ⟨fun hm => h.1 (List.mem_map_of_mem hm), ih h.2⟩

/-- the invariant does not look at the committees or the external state -/
theorem inv_congr {s s' : St Ext C Pm} (h : Inv s) (h1 : s'.proposals = s.proposals) (h2 : s'.votes = s.votes)
    (h3 : s'.nextId = s.nextId) (h4 : s'.log = s.log) : Inv s' := by
  constructor
  · rw [h1, h3]; exact h.ids_lt
  · rw [h1]; exact h.ids_nodup
  · rw [h4, h3]; exact h.log_lt
  · rw [h1, h4]; exact h.open_not_logged
  · rw [h4]; exact h.closed_nodup
  · rw [h4]; exact h.enacted_nodup
  · rw [h4]; exact h.enacted_closed
  · rw [h1, h2]; exact h.votes_open

/-- Removing an open proposal `p` with its votes while logging events `evs` that all speak of `p` (and are
    themselves duplicate-free, every enactment among them closed as passed) preserves the invariant:
    no earlier event speaks of `p`, so nothing in the log is doubled. -/
theorem inv_close_events {s s' : St Ext C Pm} (h : Inv s) {p : Proposal C} (hp : p ∈ s.proposals)
    (evs : List Event) (hpid : ∀ e, e ∈ evs → e.pid = p.id)
    (hcl : (closedPids evs).Nodup) (hen : (enactedPids evs).Nodup)
    (hec : ∀ pid, Event.enacted pid ∈ evs → Event.closed pid .passed ∈ evs)
    (h1 : s'.proposals = s.proposals.filter (fun q => q.id != p.id))
    (h2 : s'.votes = s.votes.filter (fun v => v.pid != p.id))
    (h3 : s'.nextId = s.nextId) (h4 : s'.log = s.log ++ evs) : Inv s' := by
  have hfresh := h.open_not_logged p hp
  have hapart : ∀ {a b : List Nat}, a.Sublist (s.log.map Event.pid) → b.Sublist (evs.map Event.pid) →
      ∀ x, x ∈ a → ∀ y, y ∈ b → x ≠ y := by
    intro a b ha hb x hx y hy e
    obtain ⟨ea, hea, rfl⟩ := List.mem_map.1 (ha.subset hx)
    obtain ⟨eb, heb, rfl⟩ := List.mem_map.1 (hb.subset hy)
    exact hfresh ea hea (e.trans (hpid eb heb))
  constructor
  · intro q hq
    rw [h1] at hq; rw [h3]
    exact h.ids_lt q (List.mem_filter.1 hq).1
  · rw [h1]; exact nodup_map_filter _ h.ids_nodup
  · intro e he
    rw [h4] at he; rw [h3]
    rcases List.mem_append.1 he with he | he
    · exact h.log_lt e he
    · rw [hpid e he]; exact h.ids_lt p hp
  · intro q hq e he
    rw [h1] at hq; rw [h4] at he
    obtain ⟨hq1, hq2⟩ := List.mem_filter.1 hq
    rcases List.mem_append.1 he with he | he
    · exact h.open_not_logged q hq1 e he
    · rw [hpid e he]; exact fun e' => bne_iff_ne.1 hq2 e'.symm
  · rw [h4, closedPids_append]
    exact List.nodup_append.2 ⟨h.closed_nodup, hcl, hapart (closedPids_sublist _) (closedPids_sublist _)⟩
  · rw [h4, enactedPids_append]
    exact List.nodup_append.2 ⟨h.enacted_nodup, hen, hapart (enactedPids_sublist _) (enactedPids_sublist _)⟩
  · intro pid hin
    rw [h4] at hin ⊢
    rcases List.mem_append.1 hin with hin | hin
    · exact List.mem_append_left _ (h.enacted_closed pid hin)
    · exact List.mem_append_right _ (hec pid hin)
  · intro v hv
    rw [h2] at hv; rw [h1]
    obtain ⟨hv1, hv2⟩ := List.mem_filter.1 hv
    obtain ⟨q, hq, hqv⟩ := h.votes_open v hv1
    exact ⟨q, List.mem_filter.2 ⟨hq, by rw [hqv]; exact hv2⟩, hqv⟩

theorem inv_close {s : St Ext C Pm} (h : Inv s) {p : Proposal C} (hp : p ∈ s.proposals) (o : Outcome) :
    Inv (close s p.id o) :=
  inv_close_events h hp [.closed p.id o] (fun e he => by cases List.mem_singleton.1 he; rfl)
    (List.pairwise_singleton _ _) List.nodup_nil (fun _ he => by cases List.mem_singleton.1 he) rfl rfl rfl rfl

theorem inv_enact_close {s : St Ext C Pm} (h : Inv s) {p : Proposal C} (hp : p ∈ s.proposals) (e : Ext) :
    Inv (close { s with ext := e, log := s.log ++ [.enacted p.id] } p.id .passed) := by
  refine inv_close_events h hp [.enacted p.id, .closed p.id .passed] ?_
    (List.pairwise_singleton _ _) (List.pairwise_singleton _ _) ?_ rfl rfl rfl (List.append_assoc _ _ _)
  · intro ev hev
    simp only [List.mem_cons, List.not_mem_nil, or_false] at hev
    rcases hev with rfl | rfl <;> rfl
  · intro pid hin
    simp only [List.mem_cons, Event.enacted.injEq, reduceCtorEq, List.not_mem_nil, or_false] at hin
    rw [hin]; exact List.mem_cons_of_mem _ List.mem_cons_self

theorem validatePub_of_handler_none {env : Env Ext C Pm} {ext : Ext} {c : C} (h : env.handler c ext = none) :
    validatePub env ext c = false := by
  unfold validatePub; rw [h]; exact Bool.and_false _

/-- what `enact` has checked, on the state it runs on, when it installs the handler's result `e` -/
structure Enactable (env : Env Ext C Pm) (s : St Ext C Pm) (p : Proposal C) (com : Committee Pm) (e : Ext) :
    Prop where
  committee : getCommittee s p.cid = some com
  permitted : env.permits com.perms p.content s.ext = true
  valid : validatePub env s.ext p.content = true
  handled : env.handler p.content s.ext = some e

/-- The "unexpected handler error" panic of `enact` is unreachable: the dry run in `validatePub` has just
    succeeded on the same state. -/
theorem enact_cases (env : Env Ext C Pm) (s : St Ext C Pm) (p : Proposal C) :
    (∃ com e, Enactable env s p com e ∧
      enact env s p = .ok { s with ext := e, log := s.log ++ [.enacted p.id] }) ∨
    enact env s p = .err := by
  fun_cases enact env s p with
  | case1 | case2 | case3 => exact Or.inr rfl
  | case4 com hc hp hv hh =>
    rw [validatePub_of_handler_none hh] at hv; exact absurd rfl hv
  | case5 com hc hp hv e hh =>
    rw [Bool.not_eq_true, Bool.not_eq_false'] at hp hv
    exact Or.inl ⟨com, e, ⟨hc, hp, hv, hh⟩, rfl⟩

theorem enactAndClose_cases (env : Env Ext C Pm) (s : St Ext C Pm) (p : Proposal C) :
    (∃ com e, Enactable env s p com e ∧
        enactAndClose env s p = .ok (close { s with ext := e, log := s.log ++ [.enacted p.id] } p.id .passed)) ∨
    (enact env s p = .err ∧ enactAndClose env s p = .ok (close s p.id .invalid)) := by
  unfold enactAndClose
  rcases enact_cases env s p with ⟨com, e, hen, heq⟩ | heq
  · rw [heq]; exact Or.inl ⟨com, e, hen, rfl⟩
  · rw [heq]; exact Or.inr ⟨rfl, rfl⟩

theorem inv_enactAndClose (env : Env Ext C Pm) (s s' : St Ext C Pm) (h : Inv s) (p : Proposal C)
    (hp : p ∈ s.proposals) (hr : enactAndClose env s p = .ok s') : Inv s' := by
  rcases enactAndClose_cases env s p with ⟨_, e, _, heq⟩ | ⟨_, heq⟩
  · rw [heq] at hr; cases hr
    exact inv_enact_close h hp e
  · rw [heq] at hr; cases hr
    exact inv_close h hp .invalid

/-- What `ProcessProposals` does with one proposal, and when: the five ways through `processOne`. -/
inductive POShape (env : Env Ext C Pm) (now : Int) (s : St Ext C Pm) (p : Proposal C) : St Ext C Pm → Prop where
  | orphan (hc : getCommittee s p.cid = none) : POShape env now s p (close s p.id .failed)
  | waiting (com : Committee Pm) (hc : getCommittee s p.cid = some com) (hearly : now < p.deadline)
      (hno : com.fptp = true → result env s com p.id = false) : POShape env now s p s
  | failed (com : Committee Pm) (hc : getCommittee s p.cid = some com) (hdue : p.deadline ≤ now)
      (hres : result env s com p.id = false) : POShape env now s p (close s p.id .failed)
  | invalid (com : Committee Pm) (hc : getCommittee s p.cid = some com)
      (hres : result env s com p.id = true) (hdue : p.deadline ≤ now ∨ com.fptp = true)
      (herr : enact env s p = .err) : POShape env now s p (close s p.id .invalid)
  | enacted (com : Committee Pm) (e : Ext) (hres : result env s com p.id = true)
      (hdue : p.deadline ≤ now ∨ com.fptp = true) (hen : Enactable env s p com e) :
      POShape env now s p (close { s with ext := e, log := s.log ++ [.enacted p.id] } p.id .passed)

section
variable (env : Env Ext C Pm) (now : Int) (s : St Ext C Pm) (p : Proposal C)

theorem processOne_shape : ∃ s', processOne env now s p = .ok s' ∧ POShape env now s p s' := by
  have hE : ∀ com, getCommittee s p.cid = some com → result env s com p.id = true →
      (p.deadline ≤ now ∨ com.fptp = true) → ∃ s', enactAndClose env s p = .ok s' ∧ POShape env now s p s' := by
    intro com hc hres hdue
    rcases enactAndClose_cases env s p with ⟨com', e, hen, heq⟩ | ⟨herr, heq⟩
    · cases hen.committee.symm.trans hc
      exact ⟨_, heq, .enacted _ e hres hdue hen⟩
    · exact ⟨_, heq, .invalid com hc hres hdue herr⟩
  fun_cases processOne env now s p with
  | case1 hc => exact ⟨_, rfl, .orphan hc⟩
  | case2 com hc hearly hf hres => exact hE com hc hres (Or.inr hf)
  | case3 com hc hearly hf hres => exact ⟨_, rfl, .waiting com hc hearly fun _ => Bool.eq_false_iff.2 hres⟩
  | case4 com hc hearly hf => exact ⟨_, rfl, .waiting com hc hearly fun h => absurd h hf⟩
  | case5 com hc hearly hres => exact hE com hc hres (Or.inl (Int.not_lt.1 hearly))
  | case6 com hc hearly hres => exact ⟨_, rfl, .failed com hc (Int.not_lt.1 hearly) (Bool.eq_false_iff.2 hres)⟩

/-- the state `p`'s turn in the begin block leaves -/
def turn : St Ext C Pm :=
  match processOne env now s p with
  | .ok s1 => s1
  | _ => s

theorem processOne_eq : processOne env now s p = .ok (turn env now s p) := by
  obtain ⟨s1, h1, _⟩ := processOne_shape env now s p
  rw [turn, h1]

/-- the begin block's loop neither fails nor panics, whatever the handlers do: it folds the turns -/
theorem processAll_eq (ps : List (Proposal C)) :
    processAll env now s ps = .ok (ps.foldl (turn env now) s) := by
  induction ps generalizing s with
  | nil => rfl
  | cons p ps ih => rw [processAll, processOne_eq, List.foldl_cons]; exact ih _
end

/-- `s'` has the committees of `s` and its proposals, except at most those with an id in `ids` -/
structure Frame (ids : List Nat) (s s' : St Ext C Pm) : Prop where
  committees : s'.committees = s.committees
  sub : ∀ q, q ∈ s'.proposals → q ∈ s.proposals
  keep : ∀ q, q ∈ s.proposals → q.id ∉ ids → q ∈ s'.proposals

theorem Frame.refl {ids : List Nat} {s : St Ext C Pm} : Frame ids s s := ⟨rfl, fun _ h => h, fun _ h _ => h⟩

theorem Frame.trans {a b : List Nat} {s s1 s2 : St Ext C Pm} (h1 : Frame a s s1) (h2 : Frame b s1 s2) :
    Frame (a ++ b) s s2 :=
  ⟨h2.committees.trans h1.committees, fun q hq => h1.sub q (h2.sub q hq), fun q hq hn =>
    h2.keep q (h1.keep q hq fun m => hn (List.mem_append_left _ m)) fun m => hn (List.mem_append_right _ m)⟩

theorem close_frame (s : St Ext C Pm) (pid : Nat) (o : Outcome) : Frame [pid] s (close s pid o) :=
  ⟨rfl, fun q hq => (List.mem_filter.1 hq).1,
    fun q hq hn => List.mem_filter.2 ⟨hq, bne_iff_ne.2 fun e => hn (List.mem_singleton.2 e)⟩⟩

theorem close_removes {s : St Ext C Pm} {pid : Nat} {o : Outcome} (q : Proposal C)
    (hq : q ∈ (close s pid o).proposals) : q.id ≠ pid :=
  bne_iff_ne.1 (List.mem_filter.1 hq).2

theorem votesFor_close (s : St Ext C Pm) (pid pid' : Nat) (o : Outcome) (hne : pid' ≠ pid) :
    votesFor (close s pid o) pid' = votesFor s pid' := by
  unfold votesFor close
  rw [List.filter_filter]
  apply List.filter_congr
  intro v _
  cases hv : v.pid == pid' with
  | false => rfl
  | true => rw [beq_iff_eq.1 hv, bne_iff_ne.2 hne]; rfl

theorem getCommittee_congr {s s' : St Ext C Pm} (h : s'.committees = s.committees) (cid : Nat) :
    getCommittee s' cid = getCommittee s cid := by
  unfold getCommittee; rw [h]

variable {env : Env Ext C Pm} {now : Int} {s s' : St Ext C Pm} {p : Proposal C}

theorem processOne_inv (hr : processOne env now s p = .ok s') : POShape env now s p s' := by
  obtain ⟨s1, h1, sh⟩ := processOne_shape env now s p
  rw [h1] at hr; cases hr; exact sh

theorem processOne_effect (h : processOne env now s p = .ok s') :
    s' = s ∨ (∃ o, o ≠ Outcome.passed ∧ s' = close s p.id o) ∨
    ∃ com e, getCommittee s p.cid = some com ∧ env.permits com.perms p.content s.ext = true ∧
      env.handler p.content s.ext = some e ∧
      s' = close { s with ext := e, log := s.log ++ [.enacted p.id] } p.id .passed := by
  cases processOne_inv h with
  | waiting => exact Or.inl rfl
  | orphan => exact Or.inr (Or.inl ⟨.failed, nofun, rfl⟩)
  | failed => exact Or.inr (Or.inl ⟨.failed, nofun, rfl⟩)
  | invalid => exact Or.inr (Or.inl ⟨.invalid, nofun, rfl⟩)
  | enacted com e _ _ hen => exact Or.inr (Or.inr ⟨com, e, hen.committee, hen.permitted, hen.handled, rfl⟩)

theorem inv_processOne (h : Inv s) (hp : p ∈ s.proposals) (hr : processOne env now s p = .ok s') : Inv s' := by
  cases processOne_inv hr with
  | waiting => exact h
  | enacted _ e => exact inv_enact_close h hp e
  | _ => exact inv_close h hp _

theorem processOne_frame (hr : processOne env now s p = .ok s') : Frame [p.id] s s' := by
  cases processOne_inv hr with
  | waiting => exact .refl
  | enacted _ e =>
    have f := close_frame { s with ext := e, log := s.log ++ [.enacted p.id] } p.id .passed
    exact ⟨f.committees, f.sub, f.keep⟩
  | _ => exact close_frame s p.id _

theorem processOne_due_closes (hdue : p.deadline ≤ now) (hr : processOne env now s p = .ok s') :
    ∀ q, q ∈ s'.proposals → q.id ≠ p.id := by
  cases processOne_inv hr with
  | waiting _ _ hearly => exact absurd hdue (Int.not_le.2 hearly)
  | _ => exact close_removes

theorem inv_processAll {ps : List (Proposal C)} (h : Inv s) (hsub : ∀ p, p ∈ ps → p ∈ s.proposals)
    (hnd : (ps.map (·.id)).Nodup) (hr : processAll env now s ps = .ok s') : Inv s' := by
  fun_induction processAll env now s ps with
  | case1 => cases hr; exact h
  | case2 s p ps s1 h1 ih =>
    obtain ⟨hnd1, hnd2⟩ := List.nodup_cons.1 hnd
    refine ih (inv_processOne h (hsub p List.mem_cons_self) h1) (fun q hq => ?_) hnd2 hr
    exact (processOne_frame h1).keep q (hsub q (List.mem_cons_of_mem _ hq))
      fun m => hnd1 (List.mem_map.2 ⟨q, hq, List.mem_singleton.1 m⟩)
  | case3 | case4 => cases hr

theorem processAll_frame {ps : List (Proposal C)} (hr : processAll env now s ps = .ok s') :
    Frame (ps.map (·.id)) s s' := by
  fun_induction processAll env now s ps with
  | case1 => cases hr; exact .refl
  | case2 s p ps s1 h1 ih => exact (processOne_frame h1).trans (ih hr)
  | case3 | case4 => cases hr

theorem processOne_early_deadline_untouched {com : Committee Pm} (hc : getCommittee s p.cid = some com) (hf : com.fptp = false) (hearly : now < p.deadline) :
    processOne env now s p = .ok s := by
  unfold processOne
  rw [hc]
  simp only [hearly, ite_true, hf, Bool.false_eq_true, ite_false]

theorem processAll_split {pre post : List (Proposal C)} (hr : processAll env now s (pre ++ p :: post) = .ok s') :
    ∃ si si', processAll env now s pre = .ok si ∧ processOne env now si p = .ok si' ∧
      processAll env now si' post = .ok s' := by
  rw [processAll_eq, List.foldl_append, List.foldl_cons] at hr
  exact ⟨_, _, processAll_eq .., processOne_eq .., (processAll_eq ..).trans hr⟩

theorem processAll_due_closed {ps : List (Proposal C)} (hp : p ∈ ps) (hdue : p.deadline ≤ now)
    (hr : processAll env now s ps = .ok s') : ∀ q, q ∈ s'.proposals → q.id ≠ p.id := by
  obtain ⟨pre, post, rfl⟩ := List.append_of_mem hp
  obtain ⟨si, si', _, hb, hc⟩ := processAll_split hr
  exact fun q hq => processOne_due_closes hdue hb q ((processAll_frame hc).sub q hq)

/-- a begin block before the deadline leaves a proposal of a deadline-tally committee in the store: the turns
    before its own keep it and the committees, its own turn leaves the state as it is, the later turns keep it -/
theorem processAll_early_kept {ps : List (Proposal C)} {com : Committee Pm} (hps : p ∈ ps)
    (hnd : (ps.map (·.id)).Nodup) (hp : p ∈ s.proposals) (hc : getCommittee s p.cid = some com)
    (hf : com.fptp = false) (hearly : now < p.deadline) (hr : processAll env now s ps = .ok s') :
    p ∈ s'.proposals := by
  obtain ⟨pre, post, rfl⟩ := List.append_of_mem hps
  rw [List.map_append, List.nodup_append] at hnd
  obtain ⟨_, hpost, hpre⟩ := hnd
  obtain ⟨si, si', ha, hb, hr⟩ := processAll_split hr
  have fpre := processAll_frame ha
  rw [← getCommittee_congr fpre.committees] at hc
  cases (processOne_early_deadline_untouched hc hf hearly).symm.trans hb
  exact (processAll_frame hr).keep p (fpre.keep p hp fun m => hpre p.id m p.id List.mem_cons_self rfl)
    (List.nodup_cons.1 hpost).1

theorem inv_closeAll {ps : List (Proposal C)} (h : Inv s) (hsub : ∀ p, p ∈ ps → p ∈ s.proposals)
    (hnd : (ps.map (·.id)).Nodup) : Inv (closeAll s ps) := by
  induction ps generalizing s with
  | nil => exact h
  | cons p ps ih =>
    obtain ⟨hnd1, hnd2⟩ := List.nodup_cons.1 hnd
    refine ih (inv_close h (hsub p List.mem_cons_self) .failed) (fun q hq => ?_) hnd2
    exact (close_frame s p.id .failed).keep q (hsub q (List.mem_cons_of_mem _ hq))
      fun m => hnd1 (List.mem_map.2 ⟨q, hq, List.mem_singleton.1 m⟩)

theorem inv_closeAll_of (h : Inv s) (cid : Nat) :
    Inv (closeAll s (s.proposals.filter (fun p => p.cid == cid))) :=
  inv_closeAll h (fun p hp => (List.mem_filter.mp hp).1) (nodup_map_filter _ h.ids_nodup)

theorem closeAll_log_enacted (ps : List (Proposal C)) :
    ∀ s : St Ext C Pm, enactedPids (closeAll s ps).log = enactedPids s.log := by
  induction ps with
  | nil => exact fun s => rfl
  | cons p ps ih =>
    intro s
    rw [closeAll, ih, close, enactedPids_append]
    exact List.append_nil _

/-- what an accepted `submit` has checked, and the state it leaves -/
structure Submitted (env : Env Ext C Pm) (s : St Ext C Pm) (now : Int) (pr : Addr) (cid : Nat) (c : C)
    (com : Committee Pm) (s' : St Ext C Pm) : Prop where
  committee : getCommittee s cid = some com
  member : com.members.contains pr = true
  permitted : env.permits com.perms c s.ext = true
  valid : validatePub env s.ext c = true
  state : s' = { s with proposals := s.proposals ++ [{ id := s.nextId, cid := cid, deadline := now + com.duration, content := c }]
                        nextId := s.nextId + 1 }

theorem submit_ok_shape {pr : Addr} {cid : Nat} {c : C} (h : submit env s now pr cid c = .ok s') :
    ∃ com, Submitted env s now pr cid c com s' := by
  revert h
  fun_cases submit env s now pr cid c with
  | case1 | case2 | case3 | case4 => exact nofun
  | case5 com hc h1 h2 h3 =>
    rw [Bool.not_eq_true, Bool.not_eq_false'] at h1 h2 h3
    exact fun h => ⟨com, hc, h1, h2, h3, (Res.ok.inj h).symm⟩

theorem inv_submit {pr : Addr} {cid : Nat} {c : C} (h : Inv s) (hr : submit env s now pr cid c = .ok s') :
    Inv s' := by
  obtain ⟨com, hs⟩ := submit_ok_shape hr
  rw [hs.state]
  constructor
  · intro p hp
    rcases List.mem_append.1 hp with hp | hp
    · exact Nat.lt_succ_of_lt (h.ids_lt p hp)
    · cases List.mem_singleton.1 hp; exact Nat.lt_succ_self _
  · rw [List.map_append]
    refine List.nodup_append.2 ⟨h.ids_nodup, List.pairwise_singleton _ _, fun a ha b hb e => ?_⟩
    obtain ⟨q, hq, rfl⟩ := List.mem_map.1 ha
    cases List.mem_singleton.1 hb
    exact Nat.lt_irrefl _ (e ▸ h.ids_lt q hq)
  · exact fun e he => Nat.lt_succ_of_lt (h.log_lt e he)
  · intro p hp e he
    rcases List.mem_append.1 hp with hp | hp
    · exact h.open_not_logged p hp e he
    · cases List.mem_singleton.1 hp; exact Nat.ne_of_lt (h.log_lt e he)
  · exact h.closed_nodup
  · exact h.enacted_nodup
  · exact h.enacted_closed
  · intro v hv
    obtain ⟨p, hp, hpv⟩ := h.votes_open v hv
    exact ⟨p, List.mem_append_left _ hp, hpv⟩

theorem mem_setVote {vs : List Vote} {v w : Vote} :
    w ∈ setVote vs v ↔ (w ∈ vs ∧ ¬ (w.pid = v.pid ∧ w.voter = v.voter)) ∨ w = v := by
  unfold setVote
  rw [List.mem_append, List.mem_filter, List.mem_singleton, Bool.not_eq_true', ← Bool.not_eq_true,
    Bool.and_eq_true, beq_iff_eq, beq_iff_eq]

theorem getProposal_some {pid : Nat} {pr : Proposal C} (h : getProposal s pid = some pr) :
    pr ∈ s.proposals ∧ pr.id = pid := by
  unfold getProposal at h
  have h2 := List.find?_some h
  exact ⟨List.mem_of_find?_eq_some h, beq_iff_eq.1 h2⟩

/-- what an accepted `vote` has checked, and the state it leaves -/
structure Voted (s : St Ext C Pm) (now : Int) (pid : Nat) (voter : Addr) (vt : VoteType)
    (pr : Proposal C) (com : Committee Pm) (s' : St Ext C Pm) : Prop where
  proposal : getProposal s pid = some pr
  early : now < pr.deadline
  committee : getCommittee s pr.cid = some com
  member : com.token = false → com.members.contains voter = true ∧ vt = .yes
  state : s' = { s with votes := setVote s.votes ⟨pid, voter, vt⟩ }

theorem vote_ok_shape {pid : Nat} {voter : Addr} {vt : VoteType} (h : vote s now pid voter vt = .ok s') :
    ∃ pr com, Voted s now pid voter vt pr com s' := by
  revert h
  fun_cases vote s now pid voter vt with
  | case1 | case2 | case3 | case4 | case5 => exact nofun
  | case6 pr hp hd com hc h1 h2 =>
    refine fun h => ⟨pr, com, hp, Int.not_le.1 hd, hc, fun ht => ?_, (Res.ok.inj h).symm⟩
    rw [ht, Bool.not_false, Bool.true_and, Bool.not_eq_true] at h1 h2
    rw [Bool.not_eq_false'] at h1
    exact ⟨h1, bne_eq_false_iff_eq.1 h2⟩

theorem inv_vote {pid : Nat} {voter : Addr} {vt : VoteType} (h : Inv s) (hr : vote s now pid voter vt = .ok s') :
    Inv s' := by
  obtain ⟨pr, _, hv⟩ := vote_ok_shape hr
  obtain ⟨hpm, hpid⟩ := getProposal_some hv.proposal
  rw [hv.state]
  refine ⟨h.ids_lt, h.ids_nodup, h.log_lt, h.open_not_logged, h.closed_nodup, h.enacted_nodup,
    h.enacted_closed, fun v hv => ?_⟩
  rcases mem_setVote.1 hv with hv | rfl
  · exact h.votes_open v hv.1
  · exact ⟨pr, hpm, hpid⟩

theorem inv_step {op : Op Ext C Pm} (h : Inv s) (hr : step env s op = .ok s') : Inv s' := by
  cases op with
  | submit now pr cid c => exact inv_submit h hr
  | vote now pid v vt => exact inv_vote h hr
  | beginBlock now => exact inv_processAll h (fun _ hp => hp) h.ids_nodup hr
  | setCommittee com => cases hr; exact inv_congr (inv_closeAll_of h com.id) rfl rfl rfl rfl
  | deleteCommittee cid => cases hr; exact inv_congr (inv_closeAll_of h cid) rfl rfl rfl rfl
  | ext f => cases hr; exact inv_congr h rfl rfl rfl rfl

theorem inv_run {ops : List (Op Ext C Pm)} (h : Inv s) (hr : run env s ops = some s') : Inv s' := by
  fun_induction run env s ops with
  | case1 => cases hr; exact h
  | case2 s op ops s1 h1 ih => exact ih (inv_step h h1) hr
  | case3 s op ops h1 ih => exact ih h hr
  | case4 => cases hr

end KV.Com
