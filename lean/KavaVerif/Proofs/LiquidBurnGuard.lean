/-
  Helper lemmas for C12: MsgBurnDerivative names a validator AND carries a coin; only the named validator's
  own derivative redeems shares of the module's delegation to it (Model/LiquidBurnGuard.lean).

  * a burn whose coin is not the named validator's derivative is refused (`stepBurn_mismatch_refused`) — refused =
    `.err` = the state is unchanged in every history (`runM_mismatch_skip`);
  * an accepted burn message IS the per-validator burn of Model/Liquid.lean (`stepBurn_ok_is_burn`), so message
    histories are `Op` histories (`runM_eq_run`) and everything proved about `run` (backing, …) holds for them;
  * what the comparison is for: without it (`burnUnguarded`) a holder of validator 0's derivative empties the module's
    delegation to validator 1 and validator 1's derivative is no longer backed (`burnUnguarded_breaks_backing`,
    literal witness `exTwo`).
-/
import KavaVerif.Model.LiquidBurnGuard
import KavaVerif.Proofs.LiquidHist

namespace KV.Liquid

theorem burnMsg_mismatch (g : Cfg) (M : Addr) (c : VSt) (d : Addr) (amount : Int) :
    burnMsg g M c d false amount = .err := rfl

theorem burnMsg_match (g : Cfg) (M : Addr) (c : VSt) (d : Addr) (amount : Int) :
    burnMsg g M c d true amount = burn g M c d amount := rfl

theorem stepBurn_mismatch_refused {g : Cfg} {M : Addr} {s : Chain} {d v : Nat} {dn : CoinDenom} {amount : Int}
    (h : dn ≠ .deriv v) : stepBurn g M s d v dn amount = .err := by
  unfold stepBurn
  split
  · rfl
  · rw [decide_eq_false h, burnMsg_mismatch]; rfl

theorem stepBurn_matched (g : Cfg) (M : Addr) (s : Chain) (d v : Nat) (amount : Int) :
    stepBurn g M s d v (.deriv v) amount = step g M s (.burn d v amount) := by
  unfold stepBurn step
  rw [decide_eq_true rfl, burnMsg_match]

theorem stepBurn_ok_is_burn {g : Cfg} {M : Addr} {s s' : Chain} {d v : Nat} {dn : CoinDenom} {amount : Int}
    (h : stepBurn g M s d v dn amount = .ok s') : dn = .deriv v ∧ step g M s (.burn d v amount) = .ok s' := by
  by_cases hd : dn = .deriv v
  · subst hd; exact ⟨rfl, by rw [← stepBurn_matched]; exact h⟩
  · rw [stepBurn_mismatch_refused hd] at h; cases h

theorem stepM_toOp (g : Cfg) (M : Addr) (s : Chain) (m : MOp) :
    (∀ op, m.toOp = some op → stepM g M s m = step g M s op) ∧ (m.toOp = none → stepM g M s m = .err) := by
  cases m with
  | plain op => exact ⟨fun op' h => by cases h; rfl, fun h => by cases h⟩
  | burnCoin d v dn a =>
    by_cases hd : dn = .deriv v
    · subst hd
      refine ⟨fun op h => ?_, fun h => ?_⟩
      · simp only [MOp.toOp, ite_true] at h; cases h; exact stepBurn_matched g M s d v a
      · simp only [MOp.toOp, ite_true] at h; cases h
    · refine ⟨fun op h => ?_, fun _ => stepBurn_mismatch_refused hd⟩
      simp only [MOp.toOp, if_neg hd] at h; cases h

/-- message histories are `Op` histories: the mismatched burns drop out -/
theorem runM_eq_run (g : Cfg) (M : Addr) (ms : List MOp) : ∀ s : Chain, runM g M s ms = run g M s (ms.filterMap MOp.toOp) := by
  induction ms with
  | nil => intro s; rfl
  | cons m ms ih =>
    intro s
    cases hm : m.toOp with
    | none =>
      have h1 := (stepM_toOp g M s m).2 hm
      simp only [runM, h1, List.filterMap_cons, hm]
      exact ih s
    | some op =>
      have h1 := (stepM_toOp g M s m).1 op hm
      simp only [runM, h1, List.filterMap_cons, hm, run]
      cases step g M s op with
      | ok s' => exact ih s'
      | err => exact ih s
      | panic => rfl

theorem runM_mismatch_skip {g : Cfg} {M : Addr} {s : Chain} {d v : Nat} {dn : CoinDenom} {amount : Int} (ms : List MOp)
    (h : dn ≠ .deriv v) : runM g M s (.burnCoin d v dn amount :: ms) = runM g M s ms := by
  simp only [runM, stepM, stepBurn_mismatch_refused h]

/-- validator 0: slashed (93 tokens / 100 shares), the module (0) holds 10 shares backing 10 units, 9 of them held by
    account 1.  validator 1: healthy (100 / 100), the module holds 10 shares backing the 10 units of account 3. -/
def exTwo : Chain := fun w =>
  if w = 0 then
    { val := some { tokens := 93, shares := ⟨100 * P⟩, status := .bonded, minSelf := 1, jailed := false, oper := 9 },
      del := fun a => if a = 0 then some ⟨10 * P⟩ else if a = 1 then some ⟨40 * P⟩ else if a = 9 then some ⟨50 * P⟩ else none,
      redel := fun _ => false, ubd := fun _ => 0, bal := fun a => if a = 2 then 1 else if a = 1 then 9 else 0, supply := 10 }
  else if w = 1 then
    { val := some { tokens := 100, shares := ⟨100 * P⟩, status := .bonded, minSelf := 1, jailed := false, oper := 8 },
      del := fun a => if a = 0 then some ⟨10 * P⟩ else if a = 8 then some ⟨90 * P⟩ else none,
      redel := fun _ => false, ubd := fun _ => 0, bal := fun a => if a = 3 then 10 else 0, supply := 10 }
  else { val := none, del := fun _ => none, redel := fun _ => false, ubd := fun _ => 0, bal := fun _ => 0, supply := 0 }

theorem exTwo_backed : Backed 0 (exTwo 0) ∧ Backed 0 (exTwo 1) := by decide

/-- WITHOUT the comparison: account 1 burns 9 units of validator 0's derivative naming validator 1 — accepted, and
    validator 1's derivative (10 units, all held by account 3) is left with one module share behind it; account 1
    has turned 9 slashed shares (8.37 tokens) into 9 full ones. -/
theorem burnUnguarded_breaks_backing :
    (burnUnguarded cfg 0 exTwo 1 0 1 9).okAnd (fun s' => decide (¬ Backed 0 (s' 1) ∧ (s' 1).supply = 10 ∧ (s' 0).supply = 1)) = true := by
  decide

/-- WITH it (the code): the same message is refused, for every state -/
theorem stepBurn_exTwo_refused : (stepBurn cfg 0 exTwo 1 1 (.deriv 0) 9).isErr = true := by
  rw [stepBurn_mismatch_refused (by decide)]; rfl

end KV.Liquid
