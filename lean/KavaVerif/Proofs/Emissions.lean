/-
  Lemmas for C19: staking rewards (one call, histories), the switch-over, the chain block, mint amounts.
  The history with a rate per block (`runBlocksR`) is the general one; a constant rate (`runBlocks`) and params
  updates between blocks (`runHist`) are read as instances of it.  Property statements live in Props/C19.lean.
-/
import KavaVerif.Model.Emissions

namespace KV.Em
open KV

theorem P_val : P = 1000000000000000000 := rfl
theorem NS_val : NS = 1000000000 := rfl

theorem accrued_m (now last : Int) (err rate : Dec) (hd : last ≤ now) (hr : 0 ≤ rate.m) :
    (accrued now last err rate).m = rate.m * (now - last) / NS + err.m := by
  have hx : 0 ≤ rate.m * (now - last) := Int.mul_nonneg hr (Int.sub_nonneg.mpr hd)
  simp only [accrued, Dec.add, Dec.quoInt, Dec.mul, Dec.ofInt, Int.mul_right_comm _ P, chopRound_mul_P,
    Int.mul_comm _ rate.m, tquo_nonneg_eq _ _ hx (by decide : 0 ≤ NS)]

theorem truncateDec_split {a : Dec} (h : 0 ≤ a.m) :
    Dec.truncateInt (truncateDec a) = a.m / P ∧ Dec.sub a (truncateDec a) = ⟨a.m % P⟩ := by
  have h2 : 0 ≤ a.m / P * P := Int.mul_nonneg (Int.ediv_nonneg h (by decide)) (by decide)
  simp only [truncateDec, Dec.truncateInt, Dec.ofInt, Dec.sub, chopTrunc_nonneg_eq _ h,
    chopTrunc_nonneg_eq _ h2, Int.mul_ediv_cancel _ (by decide : P ≠ 0), Int.emod_def, Int.mul_comm P, true_and]

theorem calc_eq {now last : Int} {err rate : Dec} {pool : Int}
    (ha : 0 ≤ (accrued now last err rate).m) (hp : 0 ≤ pool) :
    calculateStakingRewards now last err rate (Dec.ofInt pool) =
      (min (pool * P) (accrued now last err rate).m / P, ⟨min (pool * P) (accrued now last err rate).m % P⟩) := by
  unfold calculateStakingRewards
  generalize accrued now last err rate = acc at *
  have hm : (if (Dec.ofInt pool).m < acc.m then Dec.ofInt pool else acc).m = min (pool * P) acc.m := by
    rw [apply_ite Dec.m]; simp only [Dec.ofInt]; omega
  have := truncateDec_split (hm ▸ Int.le_min.mpr ⟨Int.mul_nonneg hp (by decide), ha⟩)
  simp only [this, hm]

/-- what one call on an initialised state guarantees of its result `r` = (paid, carried error) -/
structure StepBounds (now last : Int) (err rate : Dec) (pool : Int) (r : Int × Dec) : Prop where
  err_nonneg : 0 ≤ r.2.m
  err_lt : r.2.m < P
  paid_nonneg : 0 ≤ r.1
  paid_le : r.1 ≤ pool
  upper : NS * (r.1 * P + r.2.m - err.m) ≤ rate.m * (now - last)
  /-- unless the pool caps it, all that accrued is paid or carried on, up to the `QuoInt64` truncation (< 10^-18) -/
  lower : ¬ (Dec.ofInt pool).m < (accrued now last err rate).m →
    rate.m * (now - last) - NS * (r.1 * P + r.2.m - err.m) < NS

theorem calc_step {now last : Int} {err rate : Dec} {pool : Int}
    (hd : last ≤ now) (hr : 0 ≤ rate.m) (he : 0 ≤ err.m) (hp : 0 ≤ pool) :
    StepBounds now last err rate pool (calculateStakingRewards now last err rate (Dec.ofInt pool)) := by
  have hx : 0 ≤ rate.m * (now - last) := Int.mul_nonneg hr (Int.sub_nonneg.mpr hd)
  have ha := accrued_m now last err rate hd hr
  have h0 : 0 ≤ (accrued now last err rate).m := ha ▸ Int.add_nonneg (Int.ediv_nonneg hx (by decide)) he
  rw [calc_eq h0 hp]
  refine ⟨Int.emod_nonneg _ (by decide), Int.emod_lt_of_pos _ (by decide),
    Int.ediv_nonneg (Int.le_min.mpr ⟨Int.mul_nonneg hp (by decide), h0⟩) (by decide),
    Int.ediv_le_of_le_mul (by decide) (Int.min_le_left ..), ?_, fun hc => ?_⟩
  all_goals simp only [Int.ediv_mul_add_emod]
  · exact Int.le_trans
      (Int.mul_le_mul_of_nonneg_left (Int.sub_right_le_of_le_add (ha ▸ Int.min_le_right ..)) (by decide))
      (Int.mul_ediv_self_le (by decide))
  · rw [Int.min_eq_right (Int.not_lt.mp hc : _ ≤ pool * P), ha, Int.add_sub_cancel, ← Int.emod_def]
    exact Int.emod_lt_of_pos _ (by decide)

abbrev seen (bs : List (Int × Int × Dec)) : List (Int × Int) := bs.map fun b => (b.1, b.2.1)

abbrev withRate (rate : Dec) (bs : List (Int × Int)) : List (Int × Int × Dec) := bs.map fun b => (b.1, b.2, rate)

/-- the slack `NS * length` of the last conjunct is one `QuoInt64` truncation per block: that part of the accrual is
    not carried forward -/
theorem runBlocksR_spec : ∀ {bs : List (Int × Int × Dec)} {t0 : Int} {e0 : Dec}, 0 ≤ e0.m → e0.m < P →
    okBlocksR t0 bs →
    (runBlocksR t0 e0 bs).2.1 = lastTime t0 (seen bs) ∧
    (0 ≤ (runBlocksR t0 e0 bs).2.2.m ∧ (runBlocksR t0 e0 bs).2.2.m < P) ∧
    paidWithin (runBlocksR t0 e0 bs).1 (seen bs) ∧
    NS * (sumL (runBlocksR t0 e0 bs).1 * P + (runBlocksR t0 e0 bs).2.2.m) ≤ rateTime t0 bs + NS * e0.m ∧
    (uncappedR t0 e0 bs = true →
      rateTime t0 bs + NS * e0.m - NS * (sumL (runBlocksR t0 e0 bs).1 * P + (runBlocksR t0 e0 bs).2.2.m)
        ≤ NS * (bs.length : Int)) := by
  intro bs
  induction bs with
  | nil =>
    intro t0 e0 h0 h1 _
    simp only [runBlocksR, rateTime, sumL, List.map, lastTime, paidWithin, List.length_nil, Int.zero_mul,
      Int.zero_add, Int.sub_self, Int.natCast_zero, Int.mul_zero, Int.le_refl, and_self, implies_true, h0, h1]
  | cons b bs ih =>
    obtain ⟨now, pool, rate⟩ := b
    intro t0 e0 h0 h1 ⟨hs1, hs2, hs3, hs4⟩
    have c := calc_step hs1 hs3 h0 hs2
    obtain ⟨i1, i2, i3, i4, i5⟩ := ih c.err_nonneg c.err_lt hs4
    simp only [runBlocksR, rateTime, sumL, List.map, lastTime, paidWithin, uncappedR, List.length_cons,
      Bool.and_eq_true, Bool.not_eq_true', decide_eq_false_iff_not]
    generalize calculateStakingRewards now t0 e0 rate (Dec.ofInt pool) = r at *
    generalize runBlocksR now r.2 bs = rest at *
    have c5 := c.upper
    have c6 := c.lower
    simp only [P_val, NS_val, Int.add_mul] at c5 c6 i4 i5 ⊢
    refine ⟨i1, i2, ⟨c.paid_nonneg, c.paid_le, i3⟩, by omega, fun hu => ?_⟩
    have k1 := c6 hu.1
    have k2 := i5 hu.2
    omega

theorem runBlocks_eq (rate : Dec) : ∀ (bs : List (Int × Int)) (t : Int) (e : Dec),
    runBlocks rate t e bs = runBlocksR t e (withRate rate bs)
  | [], _, _ => rfl
  | (now, pool) :: bs, t, e => by simp only [runBlocks, runBlocksR, List.map, runBlocks_eq rate bs]

theorem uncapped_eq (rate : Dec) : ∀ (bs : List (Int × Int)) (t : Int) (e : Dec),
    uncapped rate t e bs = uncappedR t e (withRate rate bs)
  | [], _, _ => rfl
  | (now, pool) :: bs, t, e => by simp only [uncapped, uncappedR, List.map, uncapped_eq rate bs]

theorem rateTime_withRate (rate : Dec) : ∀ (bs : List (Int × Int)) (t : Int),
    rateTime t (withRate rate bs) = rate.m * (lastTime t bs - t)
  | [], t => by simp only [List.map, rateTime, lastTime, Int.sub_self, Int.mul_zero]
  | (now, pool) :: bs, t => by
    simp only [List.map, rateTime, lastTime, rateTime_withRate rate bs, ← Int.mul_add]
    congr 1; omega

theorem okBlocksR_withRate {rate : Dec} (hr : 0 ≤ rate.m) : ∀ {bs : List (Int × Int)} {t : Int},
    sortedFrom t bs → (∀ b ∈ bs, 0 ≤ b.2) → okBlocksR t (withRate rate bs)
  | [], _, _, _ => trivial
  | _ :: _, _, hs, hp =>
    ⟨hs.1, hp _ (List.mem_cons_self ..), hr, okBlocksR_withRate hr hs.2 fun b hb => hp b (List.mem_cons_of_mem _ hb)⟩

theorem seen_withRate (rate : Dec) (bs : List (Int × Int)) : seen (withRate rate bs) = bs := by
  simp only [List.map_map, Function.comp_def, List.map_id']

theorem runHist_blocks : ∀ (hs : List HStep) (rate : Dec) (last : Int) (err : Dec),
    (runHist rate last err hs).1 = (runBlocksR last err (blocksOf rate hs)).1 ∧
    (runHist rate last err hs).2.1 = (runBlocksR last err (blocksOf rate hs)).2.1 ∧
    (runHist rate last err hs).2.2.1 = (runBlocksR last err (blocksOf rate hs)).2.2
  | [], _, _, _ => ⟨rfl, rfl, rfl⟩
  | .block now pool :: hs, rate, last, err => by
    obtain ⟨i1, i2, i3⟩ := runHist_blocks hs rate now (calculateStakingRewards now last err rate (Dec.ofInt pool)).2
    simp only [runHist, blocksOf, runBlocksR, i1, i2, i3, and_self]
  | .update rate' :: hs, _, last, err => by
    simp only [runHist, blocksOf]
    exact runHist_blocks hs rate' last err

-- string comparisons over the generated table: the kernel evaluates them much faster than the elaborator
theorem order3_val : order3 = ["community", "mint", "kavadist"] := by decide +kernel

theorem disable_none (now : Int) {p : CommParams} (x : Infl) (h : p.upgradeTime = none) :
    checkAndDisable now p x = (false, p, x) := by
  unfold checkAndDisable; rw [h]

theorem disable_before {now : Int} {p : CommParams} (x : Infl) {u : Int} (h : p.upgradeTime = some u)
    (hlt : now < u) : checkAndDisable now p x = (false, p, x) := by
  unfold checkAndDisable; rw [h]; simp only [gt_iff_lt, hlt, ite_true]

theorem disable_fires {now : Int} {p : CommParams} (x : Infl) {u : Int} (h : p.upgradeTime = some u)
    (hge : u ≤ now) : checkAndDisable now p x =
      (true, { upgradeTime := none, rate := p.upgradeRate, upgradeRate := p.upgradeRate },
        { mintMin := Dec.zero, mintMax := Dec.zero, kavadistActive := false, communityTax := Dec.zero }) := by
  unfold checkAndDisable; rw [h]
  simp only [gt_iff_lt, Int.not_lt.mpr hge, ite_false]

theorem runDisable_quiet (p : CommParams) (x : Infl) :
    ∀ (ts : List Int), (∀ u, p.upgradeTime = some u → ∀ t ∈ ts, t < u) →
      runDisable p x ts = (List.replicate ts.length false, p, x) := by
  intro ts
  induction ts with
  | nil => intro _; rfl
  | cons t ts ih =>
    intro h
    have hd : checkAndDisable t p x = (false, p, x) := by
      cases hu : p.upgradeTime with
      | none => exact disable_none t x hu
      | some u => exact disable_before x hu (h u hu t (List.mem_cons_self ..))
    unfold runDisable
    rw [hd]
    simp only [ih (fun u hu s hs => h u hu s (List.mem_cons_of_mem _ hs)), List.length_cons,
      List.replicate_succ]

theorem runDisable_once (p : CommParams) (x : Infl) (u : Int) (h : p.upgradeTime = some u) :
    ∀ (pre : List Int) (t : Int) (post : List Int), (∀ s ∈ pre, s < u) → u ≤ t →
      runDisable p x (pre ++ t :: post) =
        (List.replicate pre.length false ++ true :: List.replicate post.length false,
          { upgradeTime := none, rate := p.upgradeRate, upgradeRate := p.upgradeRate },
          { mintMin := Dec.zero, mintMax := Dec.zero, kavadistActive := false, communityTax := Dec.zero }) := by
  intro pre
  induction pre with
  | nil =>
    intro t post _ ht
    simp only [List.nil_append, runDisable, disable_fires x h ht, List.length_nil,
      List.replicate_zero]
    rw [runDisable_quiet _ _ post (by intro u' hu'; cases hu')]
  | cons s pre ih =>
    intro t post hpre ht
    have hs : s < u := hpre s (List.mem_cons_self ..)
    simp only [List.cons_append, runDisable, disable_before x h hs, List.length_cons,
      List.replicate_succ]
    rw [ih t post (fun r hr => hpre r (List.mem_cons_of_mem _ hr)) ht]

theorem payout_init (rate : Dec) (now : Int) {s : StakingSt} (hl : s.last = none) :
    payout rate now s = .ok ({ s with last := some now }, 0) := by
  unfold payout; rw [hl]

theorem payout_eq (rate : Dec) (now : Int) {last : Int} {s : StakingSt} (hl : s.last = some last) {r : Int × Dec}
    (hr : calculateStakingRewards now last s.err rate (Dec.ofInt s.pool) = r) (h0 : 0 ≤ r.1) (h1 : r.1 ≤ s.pool) :
    payout rate now s = .ok ({ last := some now, err := r.2, pool := s.pool - r.1, fee := s.fee + r.1 }, r.1) := by
  unfold payout
  rw [hl]
  simp only [hr]
  by_cases hz : r.1 = 0
  · simp only [hz, ite_true, Int.sub_zero, Int.add_zero]
  · simp only [hz, ite_false, Int.not_lt.mpr h0, Int.not_lt.mpr h1]

theorem payout_total (rate : Dec) (now : Int) (s : StakingSt) (hr : 0 ≤ rate.m)
    (hl : ∀ l, s.last = some l → l ≤ now) (he : 0 ≤ s.err.m) (hp : 0 ≤ s.pool) :
    ∃ r, payout rate now s = .ok r := by
  cases hq : s.last with
  | none => exact ⟨_, payout_init rate now hq⟩
  | some l =>
    have c := calc_step (hl l hq) hr he hp
    exact ⟨_, payout_eq rate now hq rfl c.paid_nonneg c.paid_le⟩

theorem disable_rate_nonneg (now : Int) (p : CommParams) (x : Infl) (h1 : 0 ≤ p.rate.m)
    (h2 : 0 ≤ p.upgradeRate.m) : 0 ≤ (checkAndDisable now p x).2.1.rate.m := by
  unfold checkAndDisable
  split
  · exact h1
  · split
    · exact h1
    · exact h2

theorem community_infl {now inflow : Int} {s s' : CommSt} {f : Bool} {paid : Int}
    (h : communityBeginBlock now inflow s = .ok (s', f, paid)) :
    (f, s'.params, s'.infl) = checkAndDisable now s.params s.infl := by
  unfold communityBeginBlock at h
  simp only [] at h
  split at h
  · cases h; rfl
  · cases h
  · cases h

theorem community_ok {now inflow : Int} {s : CommSt} (hr : 0 ≤ s.params.rate.m)
    (hur : 0 ≤ s.params.upgradeRate.m) (hl : ∀ l, s.stk.last = some l → l ≤ now)
    (he : 0 ≤ s.stk.err.m) (hp : 0 ≤ s.stk.pool) (hin : 0 ≤ inflow) :
    ∃ r, communityBeginBlock now inflow s = .ok r := by
  unfold communityBeginBlock
  obtain ⟨⟨stk', paid⟩, h⟩ := payout_total (checkAndDisable now s.params s.infl).2.1.rate now
    (if (checkAndDisable now s.params s.infl).1 then { s.stk with pool := s.stk.pool + inflow } else s.stk)
    (disable_rate_nonneg now s.params s.infl hr hur) (by split <;> exact hl) (by split <;> exact he)
    (by split; exact Int.add_nonneg hp hin; exact hp)
  simp only [h]
  exact ⟨_, rfl⟩

theorem chain_eq (v : Variant) (zp : Bool) (pow : Int → Int → Int) (now inflow mintProv : Int) (c : Chain) :
    chainBeginBlock v zp pow now inflow mintProv c =
      match communityBeginBlock now inflow c.comm with
      | .ok (s, f, p) =>
        kavadistBeginBlock v zp pow now
          { comm := s, kd := c.kd, supply := c.supply + mintProv, fired := f, paid := p, kdMints := [], kdMinted := 0 }
      | .err => .err
      | .panic => .panic := by
  unfold chainBeginBlock
  rw [order3_val]
  simp only [List.foldl, moduleStep]
  cases hcb : communityBeginBlock now inflow c.comm with
  | ok r => obtain ⟨s, f, p⟩ := r; simp
  | err => simp
  | panic => simp

theorem kavadist_inactive {v : Variant} {zp : Bool} {pow : Int → Int → Int} {now : Int} {c : Chain}
    (h : c.comm.infl.kavadistActive = false) :
    kavadistBeginBlock v zp pow now c = .ok { c with kdMints := [], kdMinted := 0 } := by
  unfold kavadistBeginBlock
  simp [h, mintPeriodInflation, applyMints]

theorem mintPeriodInflation_infra_nil {v : Variant} {a : Bool} {now : Int} {s : KdSt} (h : s.infra = []) :
    (mintPeriodInflation v a now s).2.2.1 = [] := by
  unfold mintPeriodInflation
  split
  · rfl
  · split
    · rfl
    · rw [h]; rfl

/-- only a zero-coin infrastructure mint on a tree with the nil dereference stops x/kavadist's begin blocker -/
theorem kavadist_ok (v : Variant) (zp : Bool) (pow : Int → Int → Int) (now : Int) (c : Chain)
    (h : zp = false ∨ c.kd.infra = []) : ∃ c', kavadistBeginBlock v zp pow now c = .ok c' := by
  unfold kavadistBeginBlock
  rcases h with h | h
  · simp only [h, Bool.false_and, Bool.false_eq_true, ite_false]
    exact ⟨_, rfl⟩
  · simp only [mintPeriodInflation_infra_nil h, applyMints, List.any_nil, Bool.and_false,
      Bool.false_eq_true, ite_false]
    exact ⟨_, rfl⟩

theorem chain_ok (v : Variant) (zp : Bool) (pow : Int → Int → Int) (now inflow mintProv : Int) (c : Chain)
    (hr : 0 ≤ c.comm.params.rate.m) (hur : 0 ≤ c.comm.params.upgradeRate.m)
    (hl : ∀ l, c.comm.stk.last = some l → l ≤ now) (he : 0 ≤ c.comm.stk.err.m) (hp : 0 ≤ c.comm.stk.pool)
    (hin : 0 ≤ inflow) (hk : zp = false ∨ c.kd.infra = []) :
    ∃ c', chainBeginBlock v zp pow now inflow mintProv c = .ok c' := by
  rw [chain_eq]
  obtain ⟨⟨s, f, p⟩, h⟩ := community_ok hr hur hl he hp hin
  rw [h]
  exact kavadist_ok v zp pow now _ hk

theorem chopTrunc_mono {a b : Int} (h : a ≤ b) : chopTrunc a ≤ chopTrunc b := by
  simp only [chopTrunc, tquo, P_val]
  omega

theorem mintAmount_eq (pow : Int → Int → Int) (supply : Int) (rate : Dec) (secs : Int) :
    mintAmount pow supply rate secs =
      chopTrunc (supply * pow (inflationInt rate) secs - supply * P) := by
  simp only [mintAmount, Dec.mul, Dec.smallest, Dec.ofInt, Dec.sub, Dec.truncateInt, Int.mul_one,
    chopRound_mul_P, Int.mul_right_comm _ P]
end KV.Em
