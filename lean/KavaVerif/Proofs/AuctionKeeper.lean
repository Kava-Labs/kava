/-
  Helper lemmas for C06, part 3: the keeper state machine — invariant definitions, store lemmas,
  one specification lemma per bid function (record update, validation, complete coin flow), the dispatch
  of a bid and the record it stores, and one inversion lemma per keeper operation (what a successful call
  did). Core Lean only.
-/
import KavaVerif.Proofs.AuctionBank
set_option linter.unusedVariables false

namespace KV.Auc

/-- the auction module account is a blocked address of x/bank (app.go: every module account except
    five named ones); the harness asserts it on the real app -/
def EnvOk (env : Env) : Prop := env.blocked env.M = true

/-- so an address that x/bank let a module-to-account transfer reach is not the module account -/
theorem EnvOk.ne_M {env : Env} (hE : EnvOk env) {x : Addr} (h : env.blocked x = false) : x ≠ env.M :=
  fun hx => by rw [hx, hE] at h; cases h

/-- well-formedness of one stored auction -/
def AWF (env : Env) (a : Auction) : Prop :=
  0 ≤ a.lot ∧ 0 ≤ a.bid ∧ 0 ≤ a.debt ∧ a.endT ≤ a.maxEnd ∧ a.initiator ≠ env.M ∧
  (a.kind = .collateral → a.bid ≤ a.maxBid ∧ weightsValid a.retAddrs a.retW = true)

def WF (env : Env) (s : St) : Prop :=
  ∀ i a, s.auc i = some a → a.id = i ∧ i < s.nextId ∧ AWF env a

/-- "The auction module account always holds exactly the coins its open auctions account for" -/
def Custody (env : Env) (s : St) : Prop := ∀ d, s.bal env.M d = totalCoins s d

/-- "every stored auction appears in the expiry index exactly once": the index is strictly sorted
    (hence duplicate free) and holds exactly the keys (end time, id) of the stored auctions -/
def IndexExact (s : St) : Prop :=
  Sorted s.index ∧ ∀ e i, (e, i) ∈ s.index ↔ ∃ a, s.auc i = some a ∧ a.endT = e

def Inv (env : Env) (s : St) : Prop := WF env s ∧ Custody env s ∧ IndexExact s

section
variable {env : Env} {s : St} {a : Auction} {i : Nat}

theorem AWF.lot_nonneg (h : AWF env a) : 0 ≤ a.lot := h.1
theorem AWF.debt_nonneg (h : AWF env a) : 0 ≤ a.debt := h.2.2.1
theorem AWF.end_le_max (h : AWF env a) : a.endT ≤ a.maxEnd := h.2.2.2.1
theorem AWF.initiator_ne (h : AWF env a) : a.initiator ≠ env.M := h.2.2.2.2.1
theorem AWF.bid_le_max (h : AWF env a) (hk : a.kind = .collateral) : a.bid ≤ a.maxBid := (h.2.2.2.2.2 hk).1
theorem AWF.weights (h : AWF env a) (hk : a.kind = .collateral) : weightsValid a.retAddrs a.retW = true :=
  (h.2.2.2.2.2 hk).2

theorem Inv.id_eq (hI : Inv env s) (ha : s.auc i = some a) : a.id = i := (hI.1 i a ha).1
theorem Inv.lt_nextId (hI : Inv env s) (ha : s.auc i = some a) : i < s.nextId := (hI.1 i a ha).2.1
theorem Inv.awf (hI : Inv env s) (ha : s.auc i = some a) : AWF env a := (hI.1 i a ha).2.2

end

theorem setAuction_bal (s : St) (a : Auction) : (setAuction s a).bal = s.bal := rfl
theorem setAuction_nextId (s : St) (a : Auction) : (setAuction s a).nextId = s.nextId := rfl
theorem setAuction_auc (s : St) (a : Auction) : (setAuction s a).auc = updA s.auc a.id (some a) := rfl
theorem deleteAuction_bal (s : St) (i : Nat) : (deleteAuction s i).bal = s.bal := rfl
theorem deleteAuction_nextId (s : St) (i : Nat) : (deleteAuction s i).nextId = s.nextId := rfl
theorem deleteAuction_auc (s : St) (i : Nat) : (deleteAuction s i).auc = updA s.auc i none := rfl

theorem deleteAuction_index (s : St) (i0 : Nat) (h : IndexExact s) : IndexExact (deleteAuction s i0) := by
  obtain ⟨hs, hm⟩ := h
  unfold IndexExact deleteAuction updA
  cases hex : s.auc i0 with
  | none =>
    refine ⟨hs, fun e i => (hm e i).trans ?_⟩
    show _ ↔ ∃ a, (if i = i0 then none else s.auc i) = some a ∧ a.endT = e
    split
    · next hi => rw [hi, hex]
    · exact Iff.rfl
  | some ex =>
    refine ⟨idxRemove_sorted _ _ hs, fun e i => ?_⟩
    show (e, i) ∈ idxRemove (ex.endT, i0) s.index ↔ ∃ a, (if i = i0 then none else s.auc i) = some a ∧ a.endT = e
    rw [idxRemove_mem, hm, ne_eq, Prod.mk.injEq]
    split
    · next hi =>
      rw [hi, hex]
      exact ⟨fun ⟨⟨x, hx, he⟩, hne⟩ => absurd ⟨by cases hx; exact he.symm, rfl⟩ hne, fun ⟨_, h, _⟩ => by cases h⟩
    · next hi => exact ⟨fun h => h.1, fun h => ⟨h, fun hh => hi hh.2⟩⟩

/-- `SetAuction` removes the key of the record it overwrites, then inserts the new one -/
theorem setAuction_index (s : St) (a : Auction) (hkey : ∀ ex, s.auc a.id = some ex → ex.id = a.id)
    (h : IndexExact s) : IndexExact (setAuction s a) := by
  have e1 : (setAuction s a).index = idxInsert (a.endT, a.id) (deleteAuction s a.id).index := by
    unfold setAuction deleteAuction
    cases hex : s.auc a.id with
    | none => rfl
    | some ex => simp only [hkey ex hex]
  obtain ⟨hs, hm⟩ := deleteAuction_index s a.id h
  refine ⟨e1 ▸ idxInsert_sorted _ _ hs, fun e i => ?_⟩
  rw [e1, idxInsert_mem, hm, Prod.mk.injEq, deleteAuction_auc, setAuction_auc]
  unfold updA
  split
  · next hi =>
    exact ⟨fun h => ⟨a, rfl, (h.resolve_right fun ⟨_, hx, _⟩ => by cases hx).1.symm⟩,
      fun ⟨x, hx, he⟩ => Or.inl ⟨by cases hx; exact he.symm, hi⟩⟩
  · next hi => exact ⟨fun h => h.resolve_left fun hh => hi hh.2, Or.inr⟩

theorem totalCoins_set (s : St) (a : Auction) (hid : a.id < s.nextId) (d : Denom) :
    totalCoins (setAuction s a) d = totalCoins s d - modCoinsO (s.auc a.id) d + modCoins a d :=
  totalCoins_updA s.auc a.id (some a) d s.nextId hid

theorem totalCoins_delete (s : St) (i : Nat) (hid : i < s.nextId) (d : Denom) :
    totalCoins (deleteAuction s i) d = totalCoins s d - modCoinsO (s.auc i) d :=
  (totalCoins_updA s.auc i none d s.nextId hid).trans (Int.add_zero _)

theorem totalCoins_bal (s : St) (b : Bal) (d : Denom) : totalCoins { s with bal := b } d = totalCoins s d := rfl

theorem storeNew_auc_other (s : St) (a : Auction) (i : Nat) (hi : i ≠ s.nextId) :
    (storeNew s a).auc i = s.auc i := if_neg hi

theorem totalCoins_storeNew (s : St) (a : Auction) (d : Denom) :
    totalCoins (storeNew s a) d = totalCoins s d + modCoins a d := by
  show sumTo s.nextId (fun j => modCoinsO (updA s.auc s.nextId _ j) d)
    + modCoinsO (updA s.auc s.nextId _ s.nextId) d = _
  rw [sumTo_congr _ _ (fun j => modCoinsO (s.auc j) d) fun j hj => by unfold updA; rw [if_neg (Nat.ne_of_lt hj)]]
  unfold updA; rw [if_pos rfl]; rfl

theorem endTime_le (now d maxEnd : Int) : endTime now d maxEnd ≤ maxEnd := by
  unfold endTime; omega

theorem endTime_le_bid (now d maxEnd : Int) : endTime now d maxEnd ≤ now + d := by
  unfold endTime; omega

theorem touch_fields (p : Params) (now dur : Int) (a : Auction) :
    (touch p now dur a).id = a.id ∧ (touch p now dur a).kind = a.kind ∧
    (touch p now dur a).initiator = a.initiator ∧ (touch p now dur a).lotD = a.lotD ∧
    (touch p now dur a).lot = a.lot ∧ (touch p now dur a).bidder = a.bidder ∧
    (touch p now dur a).bidD = a.bidD ∧ (touch p now dur a).bid = a.bid ∧
    (touch p now dur a).debtD = a.debtD ∧ (touch p now dur a).debt = a.debt ∧
    (touch p now dur a).maxBid = a.maxBid ∧ (touch p now dur a).retAddrs = a.retAddrs ∧
    (touch p now dur a).retW = a.retW ∧ (touch p now dur a).hasBids = true ∧
    (touch p now dur a).maxEnd = (if a.hasBids then a.maxEnd else now + p.maxDur) ∧
    (touch p now dur a).endT = endTime now dur (if a.hasBids then a.maxEnd else now + p.maxDur) :=
  ⟨rfl, rfl, rfl, rfl, rfl, rfl, rfl, rfl, rfl, rfl, rfl, rfl, rfl, rfl, rfl, rfl⟩

theorem touch_end_le (p : Params) (now dur : Int) (a : Auction) :
    (touch p now dur a).endT ≤ (touch p now dur a).maxEnd := endTime_le _ _ _

theorem touch_modCoins (p : Params) (now dur : Int) (a : Auction) (d : Denom) :
    modCoins (touch p now dur a) d = modCoins a d := rfl

theorem incOf_pos (old : Int) (inc : Dec) : 1 ≤ incOf old inc := by
  simp only [incOf]; omega

theorem minBidCollateral_le {old maxBid amt : Int} {inc : Dec} (h : minBidCollateral old inc maxBid ≤ amt) :
    old + incOf old inc ≤ amt ∨ maxBid ≤ amt := by
  simp only [minBidCollateral] at h; omega

theorem debtReturn_bounds (a : Auction) (hb : 0 ≤ a.bid) (hd : 0 ≤ a.debt) :
    0 ≤ debtReturn a ∧ debtReturn a ≤ a.debt := by
  unfold debtReturn; omega

theorem fwdDebtReturn_bounds (a : Auction) (amt : Int) (hb : a.bid < amt) (hd : 0 ≤ a.debt) :
    0 ≤ fwdDebtReturn a amt ∧ fwdDebtReturn a amt ≤ a.debt := by
  unfold fwdDebtReturn; omega

section
variable {env : Env} {p : Params} {now : Int} {b b' : Bal} {a a' : Auction} {bidder old x y : Addr}
  {denom d : Denom} {amt n : Int}

theorem refundIf_eff {c : Prop} [Decidable c]
    (h : (if c then refund env b bidder old d n else some b) = some b') :
    (c → env.blocked old = false) ∧
    ∀ z e, b' z e = b z e - ind (z = bidder ∧ e = d) (if c then n else 0)
                          + ind (z = old ∧ e = d) (if c then n else 0) := by
  split at h
  · next hc => rw [if_pos hc]; exact ⟨fun _ => (refund_eff h).1, (refund_eff h).2⟩
  · next hc => cases h; simp only [if_neg hc, ind_zero]; exact ⟨fun h => absurd h hc, fun _ _ => by omega⟩

theorem sendIf_eff {c : Prop} [Decidable c] (h : sendIf c b x y d n = some b') (hn : ¬ c → n = 0)
    (z : Addr) (e : Denom) : b' z e = b z e - ind (z = x ∧ e = d) n + ind (z = y ∧ e = d) n := by
  unfold sendIf at h
  split at h
  · exact send_eff h z e
  · next hc => cases h; rw [hn hc, ind_zero, ind_zero]; omega

theorem refundDebt_eff (h : refundDebt env b a bidder = some b') :
    (bidder ≠ a.bidder → a.bidder ≠ a.initiator → env.blocked a.bidder = false) ∧
    ∀ z e, b' z e = b z e - ind (z = bidder ∧ e = a.bidD) (if bidder ≠ a.bidder then a.bid else 0)
                        + ind (z = a.bidder ∧ e = a.bidD) (if bidder ≠ a.bidder then a.bid else 0) := by
  revert h
  fun_cases refundDebt env b a bidder <;> intro h
  · cases h
  · next hc b0 h0 hi =>
    refine ⟨fun _ hn => absurd hi hn, fun z e => ?_⟩
    rw [if_pos hc, send_eff h, send_eff h0, Int.add_sub_cancel, hi]
  · next hc b0 h0 hi =>
    obtain ⟨hb, e2⟩ := sendM2A_eff h
    exact ⟨fun _ _ => hb, fun z e => by rw [if_pos hc, e2, send_eff h0, Int.add_sub_cancel]⟩
  · next hc => cases h; simp only [if_neg hc, ind_zero]; exact ⟨fun h => absurd h hc, fun _ _ => by omega⟩

theorem bidSurplus_spec (h : bidSurplus env p now b a bidder denom amt = .ok b' a') :
    a' = touch p now p.fwdDur { a with bidder := bidder, bid := amt } ∧
    (denom = a.bidD ∧ minBidSurplus a.bid p.incS ≤ amt) ∧
    (bidder ≠ a.bidder ∧ a.bid ≠ 0 → env.blocked a.bidder = false) ∧
    ∀ z e, b' z e = b z e
        - ind (z = bidder ∧ e = a.bidD) (if bidder ≠ a.bidder ∧ a.bid ≠ 0 then a.bid else 0)
        + ind (z = a.bidder ∧ e = a.bidD) (if bidder ≠ a.bidder ∧ a.bid ≠ 0 then a.bid else 0)
        - ind (z = bidder ∧ e = a.bidD) (amt - a.bid) := by
  revert h
  fun_cases bidSurplus env p now b a bidder denom amt <;> intro h <;> cases h
  rename_i hden hmin b1 h1 b2 h2 _ h3
  obtain ⟨hblk, e1⟩ := refundIf_eff h1
  refine ⟨rfl, ⟨Decidable.not_not.mp hden, Int.not_lt.mp hmin⟩, hblk, fun z e => ?_⟩
  rw [burn_eff h3, send_eff h2, e1, Int.add_sub_cancel]

theorem bidCollateralFwd_spec (h : bidCollateralFwd env p now b a bidder denom amt = .ok b' a') :
    a' = touch p now (if amt = a.maxBid then p.revDur else p.fwdDur)
           { a with debt := a.debt - fwdDebtReturn a amt, bidder := bidder, bid := amt } ∧
    (denom = a.bidD ∧ a.bid ≠ a.maxBid ∧ minBidCollateral a.bid p.incC a.maxBid ≤ amt ∧ amt ≤ a.maxBid) ∧
    (bidder ≠ a.bidder ∧ a.bid ≠ 0 → env.blocked a.bidder = false) ∧
    ∀ z e, b' z e = b z e
        - ind (z = bidder ∧ e = a.bidD) (if bidder ≠ a.bidder ∧ a.bid ≠ 0 then a.bid else 0)
        + ind (z = a.bidder ∧ e = a.bidD) (if bidder ≠ a.bidder ∧ a.bid ≠ 0 then a.bid else 0)
        - ind (z = bidder ∧ e = a.bidD) (amt - a.bid) + ind (z = a.initiator ∧ e = a.bidD) (amt - a.bid)
        - ind (z = env.M ∧ e = a.debtD) (fwdDebtReturn a amt)
        + ind (z = a.initiator ∧ e = a.debtD) (fwdDebtReturn a amt) := by
  revert h
  fun_cases bidCollateralFwd env p now b a bidder denom amt <;> intro h <;> cases h
  rename_i hden hph hmin hmax b1 h1 b2 h2 h3
  obtain ⟨hblk, e1⟩ := refundIf_eff h1
  refine ⟨rfl, ⟨Decidable.not_not.mp hden, hph, Int.not_lt.mp hmin, Int.not_lt.mp hmax⟩, hblk, fun z e => ?_⟩
  rw [sendIf_eff h3 (fun hd => by unfold fwdDebtReturn; rw [if_neg hd]), send_eff h2, e1]

theorem bidDebt_spec (h : bidDebt env p now b a bidder denom amt = .ok b' a') :
    a' = touch p now p.fwdDur { a with debt := a.debt - debtReturn a, bidder := bidder, lot := amt } ∧
    (denom = a.lotD ∧ amt ≤ maxLot a.lot p.incD ∧ 0 ≤ amt) ∧
    (bidder ≠ a.bidder → a.bidder ≠ a.initiator → env.blocked a.bidder = false) ∧
    ∀ z e, b' z e = b z e
        - ind (z = bidder ∧ e = a.bidD) (if bidder ≠ a.bidder then a.bid else 0)
        + ind (z = a.bidder ∧ e = a.bidD) (if bidder ≠ a.bidder then a.bid else 0)
        - ind (z = env.M ∧ e = a.debtD) (debtReturn a)
        + ind (z = a.initiator ∧ e = a.debtD) (debtReturn a) := by
  revert h
  fun_cases bidDebt env p now b a bidder denom amt <;> intro h <;> cases h
  rename_i hden hmax hneg b1 h1 h2
  obtain ⟨hblk, e1⟩ := refundDebt_eff h1
  refine ⟨rfl, ⟨Decidable.not_not.mp hden, Int.not_lt.mp hmax, Int.not_lt.mp hneg⟩, hblk, fun z e => ?_⟩
  rw [sendIf_eff h2 (fun hd => by unfold debtReturn; rw [if_neg hd]), e1]

end

theorem bidCollateralRev_spec (env : Env) (hE : EnvOk env) (p : Params) (now : Int) (b b' : Bal)
    (a a' : Auction) (bidder : Addr) (denom : Denom) (amt : Int)
    (h : bidCollateralRev env p now b a bidder denom amt = .ok b' a') :
    denom = a.lotD ∧ a.bid = a.maxBid ∧ amt ≤ maxLot a.lot p.incC ∧ 0 ≤ amt ∧
    a' = touch p now p.revDur { a with bidder := bidder, lot := amt } ∧
    (bidder ≠ a.bidder → env.blocked a.bidder = false) ∧
    ∃ parts, lrSplit (a.lot - amt) a.retW = some parts ∧
      (∃ b1, payAll env a.lotD b1 a.retAddrs parts = some b') ∧
      ∀ z e, b' z e = b z e
        - ind (z = bidder ∧ e = a.bidD) (if bidder ≠ a.bidder then a.bid else 0)
        + ind (z = a.bidder ∧ e = a.bidD) (if bidder ≠ a.bidder then a.bid else 0)
        - ind (z = env.M ∧ e = a.lotD) (paid a.retAddrs parts)
        + ind (e = a.lotD) (credit z a.retAddrs parts) := by
  revert h
  fun_cases bidCollateralRev env p now b a bidder denom amt <;> intro h <;> cases h
  rename_i hden hph hmax hneg b1 h1 parts hsp h2
  obtain ⟨hblk, e1⟩ := refundIf_eff h1
  refine ⟨Decidable.not_not.mp hden, Decidable.not_not.mp hph, Int.not_lt.mp hmax, Int.not_lt.mp hneg, rfl, hblk, parts, hsp,
    ⟨b1, h2⟩, fun z e => ?_⟩
  rw [payAll_eff h2, e1]

section
variable {env : Env} {p : Params} {now : Int} {s s' : St} {b b' : Bal} {a a' : Auction} {id : Nat}
  {bidder seller buyer frm to : Addr} {denom lotD bidD debtD d : Denom} {amt lot bid debt maxBid n : Int}
  {addrs : List Addr} {ws : List Int}

theorem bidDispatch_surplus (hk : a.kind = .surplus) :
    bidDispatch env p now b a bidder denom amt = bidSurplus env p now b a bidder denom amt := by
  unfold bidDispatch; rw [hk]

theorem bidDispatch_debt (hk : a.kind = .debt) :
    bidDispatch env p now b a bidder denom amt = bidDebt env p now b a bidder denom amt := by
  unfold bidDispatch; rw [hk]

theorem bidDispatch_fwd (hk : a.kind = .collateral) (hph : a.bid ≠ a.maxBid) :
    bidDispatch env p now b a bidder denom amt = bidCollateralFwd env p now b a bidder denom amt := by
  unfold bidDispatch; rw [hk]; exact if_pos hph

theorem bidDispatch_rev (hk : a.kind = .collateral) (hph : a.bid = a.maxBid) :
    bidDispatch env p now b a bidder denom amt = bidCollateralRev env p now b a bidder denom amt := by
  unfold bidDispatch; rw [hk]; exact if_neg (fun hn => hn hph)

theorem bidDispatch_cases (h : bidDispatch env p now b a bidder denom amt = .ok b' a') :
    (a.kind = .surplus ∧ bidSurplus env p now b a bidder denom amt = .ok b' a') ∨
    (a.kind = .debt ∧ bidDebt env p now b a bidder denom amt = .ok b' a') ∨
    (a.kind = .collateral ∧ a.bid ≠ a.maxBid ∧ bidCollateralFwd env p now b a bidder denom amt = .ok b' a') ∨
    (a.kind = .collateral ∧ a.bid = a.maxBid ∧ bidCollateralRev env p now b a bidder denom amt = .ok b' a') := by
  revert h
  fun_cases bidDispatch env p now b a bidder denom amt <;> intro h
  · next hk => exact .inl ⟨hk, h⟩
  · next hk => exact .inr (.inl ⟨hk, h⟩)
  · next hk hph => exact .inr (.inr (.inl ⟨hk, hph, h⟩))
  · next hk hph => exact .inr (.inr (.inr ⟨hk, Decidable.not_not.mp hph, h⟩))

/-- the normal form of the record an accepted bid stores: the old one with a new bidder and, by kind and
    phase, a new bid, lot or corresponding debt, then `touch`ed. Id, kind, initiator, denominations, max bid
    and return weights are kept; `hasBids`, `maxEnd`, `endT` are those `touch` sets (`touch_fields`). -/
theorem bidDispatch_record (hE : EnvOk env)
    (h : bidDispatch env p now b a bidder denom amt = .ok b' a') :
    ∃ dur debt bid lot, (dur = p.fwdDur ∨ dur = p.revDur) ∧
      a' = touch p now dur { a with debt := debt, bidder := bidder, bid := bid, lot := lot } := by
  rcases bidDispatch_cases h with ⟨_, h⟩ | ⟨_, h⟩ | ⟨_, _, h⟩ | ⟨_, _, h⟩
  · exact ⟨_, _, _, _, .inl rfl, (bidSurplus_spec h).1⟩
  · exact ⟨_, _, _, _, .inl rfl, (bidDebt_spec h).1⟩
  · refine ⟨_, _, _, _, ?_, (bidCollateralFwd_spec h).1⟩
    split
    · exact .inr rfl
    · exact .inl rfl
  · exact ⟨_, _, _, _, .inr rfl, (bidCollateralRev_spec env hE p now b b' a a' bidder denom amt h).2.2.2.2.1⟩

theorem bidDispatch_id (hE : EnvOk env)
    (h : bidDispatch env p now b a bidder denom amt = .ok b' a') : a'.id = a.id := by
  obtain ⟨_, _, _, _, _, rfl⟩ := bidDispatch_record hE h
  rfl

theorem placeBid_spec (h : placeBid env p now s id bidder denom amt = .ok s') :
    ∃ a a' b', s.auc id = some a ∧ now ≤ a.endT ∧
      bidDispatch env p now s.bal a bidder denom amt = .ok b' a' ∧
      s' = setAuction { s with bal := b' } a' := by
  revert h
  fun_cases placeBid env p now s id bidder denom amt <;> intro h <;> cases h
  rename_i a ha hend b' a' hd
  exact ⟨a, a', b', ha, Int.not_lt.mp hend, hd, rfl⟩

theorem placeBid_at (ha : s.auc id = some a) (h : placeBid env p now s id bidder denom amt = .ok s') :
    ∃ a', now ≤ a.endT ∧ bidDispatch env p now s.bal a bidder denom amt = .ok s'.bal a' ∧
      s'.auc = updA s.auc a'.id (some a') := by
  obtain ⟨a0, a', b', ha0, hend, hd, rfl⟩ := placeBid_spec h
  cases ha.symm.trans ha0
  exact ⟨a', hend, hd, rfl⟩

theorem closeAuction_spec (h : closeAuction env now s id = .ok s') :
    ∃ a b', s.auc id = some a ∧ a.endT ≤ now ∧ payout env s.bal a = some (some b') ∧
      s' = deleteAuction { s with bal := b' } id := by
  revert h
  fun_cases closeAuction env now s id <;> intro h <;> cases h
  rename_i a ha hend b' hp
  exact ⟨a, b', ha, Int.not_lt.mp hend, hp, rfl⟩

theorem closeAuction_notFound (h : closeAuction env now s id = .notFound) : s.auc id = none := by
  revert h
  fun_cases closeAuction env now s id <;> intro h <;> cases h
  assumption

theorem startSurplus_spec (h : startSurplus env s seller lotD lot bidD = .ok s') :
    0 ≤ lot ∧ ∃ b, send s.bal seller env.M lotD lot = some b ∧
      s' = storeNew { s with bal := b } (newSurplus env seller lotD lot bidD) := by
  revert h
  fun_cases startSurplus env s seller lotD lot bidD <;> intro h <;> cases h
  rename_i hl b hb
  exact ⟨Int.not_lt.mp hl, b, hb, rfl⟩

theorem startDebt_spec (h : startDebt env s buyer bidD bid lotD lot debtD debt = .ok s') :
    0 ≤ debt ∧ ∃ b, send s.bal buyer env.M debtD debt = some b ∧
      s' = storeNew { s with bal := b } (newDebt env buyer bidD bid lotD lot debtD debt) := by
  revert h
  fun_cases startDebt env s buyer bidD bid lotD lot debtD debt <;> intro h <;> cases h
  rename_i _ hl b hb
  exact ⟨Int.not_lt.mp hl, b, hb, rfl⟩

theorem startCollateral_spec
    (h : startCollateral env s seller lotD lot bidD maxBid addrs ws debtD debt = .ok s') :
    weightsValid addrs ws = true ∧ 0 ≤ lot ∧ 0 ≤ debt ∧ ∃ b1 b2, send s.bal seller env.M lotD lot = some b1 ∧
      send b1 seller env.M debtD debt = some b2 ∧
      s' = storeNew { s with bal := b2 } (newCollateral env seller lotD lot bidD maxBid addrs ws debtD debt) := by
  revert h
  fun_cases startCollateral env s seller lotD lot bidD maxBid addrs ws debtD debt <;> intro h <;> cases h
  rename_i hw hl b1 h1 hd b2 h2
  exact ⟨Decidable.not_not.mp hw, Int.not_lt.mp hl, Int.not_lt.mp hd, b1, b2, h1, h2, rfl⟩

theorem xfer_spec (h : step env p now s (.xfer frm to d n) = .ok s') :
    frm ≠ env.M ∧ to ≠ env.M ∧ ∃ b, send s.bal frm to d n = some b ∧ s' = { s with bal := b } := by
  simp only [step] at h
  obtain ⟨hm, h⟩ := of_guard h nofun
  obtain ⟨b, hb, h⟩ := of_bank h nofun
  cases h
  exact ⟨fun h => hm (Or.inl h), fun h => hm (Or.inr h), b, hb, rfl⟩

theorem beginBlock_spec (h : beginBlock env now s = .ok s') :
    closeAll env now s ((s.index.filter (fun k => decide (k.1 ≤ now))).map (·.2)) = .ok s' := by
  revert h
  fun_cases beginBlock env now s <;> intro h <;> cases h
  assumption

theorem closeAll_spec {ids : List Nat} (h : closeAll env now s ids = .ok s') :
    s'.nextId = s.nextId ∧ ∀ i, s'.auc i = if i ∈ ids then none else s.auc i := by
  revert h
  fun_induction closeAll env now s ids <;> intro h
  · cases h; exact ⟨rfl, fun _ => rfl⟩
  · next s id ids s1 hc ih =>
    obtain ⟨a, b', _, _, _, rfl⟩ := closeAuction_spec hc
    refine ⟨(ih h).1, fun i => ?_⟩
    rw [(ih h).2 i]
    by_cases hi : i = id <;> by_cases hm : i ∈ ids <;> simp [deleteAuction_auc, updA, hi, hm]
  · next s id ids hc ih =>
    refine ⟨(ih h).1, fun i => ?_⟩
    rw [(ih h).2 i]
    by_cases hi : i = id <;> simp [hi, closeAuction_notFound hc]
  · cases h
  · cases h

end

end KV.Auc
