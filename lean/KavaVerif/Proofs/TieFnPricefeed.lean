/-
  Source tie ("tie 1b") for x/pricefeed/keeper/keeper.go: the Lean definitions REGENERATED from the Go source on every run
  (Generated/FnPricefeed.lean, tools/extract/fn*.go) equal the hand-written model functions the C18 theorems are
  about.  An edit of a Go function changes the generated definition and its equality proof stops checking.
-/
import KavaVerif.Generated.FnPricefeed
import KavaVerif.Model.Pricefeed
import KavaVerif.Proofs.TieFnBase

namespace KV.TieFn
open KV KV.Go

/-- `calculateMeanPrice` on the `Price` fields (Dec mantissas) = `mean`; never panics (the divisor is the constant 2) -/
theorem pricefeed_calculateMeanPrice (a b : Int) :
    GoFn.Pricefeed.calculateMeanPrice_translated = true ∧
    GoFn.Pricefeed.calculateMeanPrice ⟨⟨a⟩⟩ ⟨⟨b⟩⟩ = R.ok ⟨KV.PF.mean a b⟩ := by
  refine ⟨rfl, ?_⟩
  simp only [GoFn.Pricefeed.calculateMeanPrice, KV.PF.mean, show Go.decQuo _ (Dec.ofInt 2) = R.ok _ from rfl]
  rfl

end KV.TieFn
