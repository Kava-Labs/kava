/-
  Helper lemmas for C06, part 5: which rules an accepted bid met, "exactly once"
  counting, "closed stays closed", the maximum end time is never written twice. Core Lean only.
-/
import KavaVerif.Proofs.AuctionInv

namespace KV.Auc

section
variable {env : Env} {p : Params} {now : Int} {s : St} {b b' : Bal} {a a' : Auction} {id : Nat}
  {bidder : Addr} {denom : Denom} {amt : Int}

theorem placeBid_after_end (ha : s.auc id = some a) (hlate : a.endT < now) :
    placeBid env p now s id bidder denom amt = .err := by
  unfold placeBid; rw [ha]; exact if_pos hlate

theorem closeAuction_before_end (ha : s.auc id = some a) (hearly : now < a.endT) :
    closeAuction env now s id = .err := by
  unfold closeAuction; rw [ha]; exact if_pos hearly

theorem closeAuction_missing (ha : s.auc id = none) : closeAuction env now s id = .notFound := by
  unfold closeAuction; rw [ha]

end

theorem filter_length_one {α : Type} (p : α → Bool) (l : List α) (x : α) (hn : l.Nodup) (hx : x ∈ l)
    (hp : p x = true) (hu : ∀ y, y ∈ l → p y = true → y = x) : (l.filter p).length = 1 := by
  induction l with
  | nil => cases hx
  | cons y ys ih =>
    have hnd := List.nodup_cons.mp hn
    by_cases hyx : y = x
    · subst hyx
      have hnone : ys.filter p = [] :=
        List.filter_eq_nil_iff.mpr fun z hz hpz => hnd.1 (hu z (List.mem_cons_of_mem _ hz) hpz ▸ hz)
      simp [List.filter, hp, hnone]
    · have hpy : p y = false := Bool.eq_false_iff.mpr fun hpy => hyx (hu y List.mem_cons_self hpy)
      simp only [List.filter, hpy]
      exact ih hnd.2 ((List.mem_cons.mp hx).resolve_left (Ne.symm hyx))
        (fun z hz hpz => hu z (List.mem_cons_of_mem _ hz) hpz)

theorem index_once {s : St} (h : IndexExact s) {i : Nat} {a : Auction} (ha : s.auc i = some a) :
    (s.index.filter (fun k => decide (k.2 = i))).length = 1 := by
  obtain ⟨hs, hm⟩ := h
  apply filter_length_one _ _ (a.endT, i) (sorted_nodup _ hs) ((hm a.endT i).mpr ⟨a, ha, rfl⟩) (by simp)
  intro ⟨e, j⟩ hy hpy
  obtain rfl : j = i := by simpa using hpy
  obtain ⟨x, hx, hxe⟩ := (hm e j).mp hy
  rw [ha] at hx; cases hx
  rw [hxe]

theorem Inv.index_facts {env : Env} {s : St} (hI : Inv env s) :
    Sorted s.index ∧
    (∀ i a, s.auc i = some a → a.id = i ∧ (a.endT, i) ∈ s.index ∧
        (s.index.filter (fun k => decide (k.2 = i))).length = 1) ∧
    (∀ k, k ∈ s.index → ∃ a, s.auc k.2 = some a ∧ a.endT = k.1) :=
  ⟨hI.2.2.1, fun i a ha => ⟨(hI.1 i a ha).1, (hI.2.2.2 a.endT i).mpr ⟨a, ha, rfl⟩, index_once hI.2.2 ha⟩,
    fun k hk => (hI.2.2.2 k.1 k.2).mp hk⟩

/-- what a successful operation does to a slot below `nextId`: nothing, or it frees it, or it stores
    there the record an accepted bid made of the one that was there -/
theorem step_slot {env : Env} (hE : EnvOk env) {p : Params} {now : Int} {s s' : St} {op : Op} (hwf : WF env s)
    (h : step env p now s op = .ok s') (i : Nat) (hi : i < s.nextId) :
    s.nextId ≤ s'.nextId ∧ (s'.auc i = s.auc i ∨ s'.auc i = none ∨
      ∃ a a', s.auc i = some a ∧ s'.auc i = some a' ∧
        ∃ b b' bidder denom amt, bidDispatch env p now b a bidder denom amt = .ok b' a') := by
  have fresh : ∀ b a, (storeNew { s with bal := b } a).auc i = s.auc i := fun b a =>
    storeNew_auc_other _ a i (Nat.ne_of_lt hi)
  cases op with
  | startSurplus seller lotD lot bidD =>
    obtain ⟨_, b, _, rfl⟩ := startSurplus_spec h
    exact ⟨Nat.le_succ _, Or.inl (fresh _ _)⟩
  | startDebt buyer bidD bid lotD lot debtD debt =>
    obtain ⟨_, b, _, rfl⟩ := startDebt_spec h
    exact ⟨Nat.le_succ _, Or.inl (fresh _ _)⟩
  | startCollateral seller lotD lot bidD maxBid addrs ws debtD debt =>
    obtain ⟨_, _, _, b1, b2, _, _, rfl⟩ := startCollateral_spec h
    exact ⟨Nat.le_succ _, Or.inl (fresh _ _)⟩
  | placeBid id bidder denom amt =>
    obtain ⟨a, a', b', ha, _, hd, rfl⟩ := placeBid_spec h
    have hid : a'.id = id := (bidDispatch_id hE hd).trans (hwf id a ha).1
    refine ⟨Nat.le_refl _, ?_⟩
    rw [setAuction_auc, hid]; unfold updA
    split
    · next hi => exact Or.inr (Or.inr ⟨a, a', hi ▸ ha, rfl, _, b', bidder, denom, amt, hd⟩)
    · exact Or.inl rfl
  | close id =>
    obtain ⟨_, b', _, _, _, rfl⟩ := closeAuction_spec h
    refine ⟨Nat.le_refl _, ?_⟩
    rw [deleteAuction_auc]; unfold updA
    split
    · exact Or.inr (Or.inl rfl)
    · exact Or.inl rfl
  | beginBlock =>
    obtain ⟨hn, hauc⟩ := closeAll_spec (beginBlock_spec h)
    refine ⟨Nat.le_of_eq hn.symm, ?_⟩
    rw [hauc i]
    split
    · exact Or.inr (Or.inl rfl)
    · exact Or.inl rfl
  | xfer frm to d n =>
    obtain ⟨_, _, b, _, rfl⟩ := xfer_spec h
    exact ⟨Nat.le_refl _, Or.inl rfl⟩

theorem step_keeps_none {env : Env} (hE : EnvOk env) {p : Params} {now : Int} {s s' : St} {op : Op} {i : Nat}
    (hwf : WF env s) (hn : s.auc i = none) (hlt : i < s.nextId) (h : step env p now s op = .ok s') :
    s'.auc i = none ∧ i < s'.nextId := by
  obtain ⟨hle, h1 | h1 | ⟨a, _, ha, _⟩⟩ := step_slot hE hwf h i hlt
  · exact ⟨h1.trans hn, Nat.lt_of_lt_of_le hlt hle⟩
  · exact ⟨h1, Nat.lt_of_lt_of_le hlt hle⟩
  · rw [hn] at ha; cases ha

/-- `hasBids` and `maxEnd` of the auction stored under `i`, or "gone" -/
def CapKept (a : Auction) (o : Option Auction) : Prop :=
  o = none ∨ ∃ a', o = some a' ∧ a'.hasBids = true ∧ a'.maxEnd = a.maxEnd

theorem closeAll_capKept (env : Env) (now : Int) (ids : List Nat) (s s' : St) (i : Nat) (a : Auction)
    (hc : CapKept a (s.auc i)) (h : closeAll env now s ids = .ok s') : CapKept a (s'.auc i) := by
  rw [(closeAll_spec h).2 i]
  split
  · exact Or.inl rfl
  · exact hc

/-- Whatever the operation and whatever the parameters in force when it runs: an auction that has received
    a bid either is gone afterwards (closed) or still has `hasBids` and the SAME maximum end time. -/
theorem step_capKept (env : Env) (hE : EnvOk env) (p : Params) (now : Int) (s s' : St) (op : Op) (i : Nat)
    (a : Auction) (hwf : WF env s) (ha : s.auc i = some a) (hb : a.hasBids = true)
    (h : step env p now s op = .ok s') : CapKept a (s'.auc i) ∧ s.nextId ≤ s'.nextId := by
  obtain ⟨hle, h1 | h1 | ⟨a0, a', ha0, ha', _, _, _, _, _, hd⟩⟩ := step_slot hE hwf h i (hwf i a ha).2.1
  · exact ⟨Or.inr ⟨a, h1.trans ha, hb, rfl⟩, hle⟩
  · exact ⟨Or.inl h1, hle⟩
  · obtain rfl : a = a0 := Option.some.inj (ha.symm.trans ha0)
    obtain ⟨_, _, _, _, _, rfl⟩ := bidDispatch_record hE hd
    exact ⟨Or.inr ⟨_, ha', rfl, if_pos hb⟩, hle⟩

/-- … and so over every history, with the parameters changing arbitrarily between the operations -/
theorem runP_capKept (env : Env) (hE : EnvOk env) (ops : List (Params × Int × Op)) (s : St) (hI : Inv env s)
    (hops : ∀ x, x ∈ ops → OpOk env x.2.2) (i : Nat) (a : Auction) (hlt : i < s.nextId)
    (hc : CapKept a (s.auc i)) : CapKept a ((runP env s ops).auc i) := by
  -- carried along the history: the invariant, that `i` stays below `nextId`, and the claim
  refine (runP_induct (P := fun s => Inv env s ∧ i < s.nextId ∧ CapKept a (s.auc i))
    (fun p now op s s1 hop ⟨hI, hlt, hc⟩ hs => ⟨step_inv hE hI hop hs, ?_⟩)
    ops s ⟨hI, hlt, hc⟩ hops).2.2
  rcases hc with hn | ⟨a1, ha1, hb1, hm1⟩
  · obtain ⟨hn1, hlt1⟩ := step_keeps_none hE hI.1 hn hlt hs
    exact ⟨hlt1, Or.inl hn1⟩
  · obtain ⟨hk, hmono⟩ := step_capKept env hE p now s s1 op i a1 hI.1 ha1 hb1 hs
    refine ⟨Nat.lt_of_lt_of_le hlt hmono, ?_⟩
    rcases hk with hn | ⟨a2, ha2, hb2, hm2⟩
    · exact Or.inl hn
    · exact Or.inr ⟨a2, ha2, hb2, hm2.trans hm1⟩

/-- "A bid is accepted only if it improves on the standing one by the configured increment and
    respects the maximum bid" — as a predicate over the record before and after the bid -/
def BidRules (p : Params) (a a' : Auction) (bidder : Addr) (denom : Denom) (amt : Int) : Prop :=
  a'.bidder = bidder ∧
  match a.kind with
  | .surplus => denom = a.bidD ∧ a.bid + incOf a.bid p.incS ≤ amt ∧ a'.bid = amt ∧ a'.lot = a.lot
  | .debt => denom = a.lotD ∧ amt ≤ a.lot - incOf a.lot p.incD ∧ 0 ≤ amt ∧ a'.lot = amt ∧ a'.bid = a.bid
  | .collateral =>
    if a.bid ≠ a.maxBid then
      denom = a.bidD ∧ (a.bid + incOf a.bid p.incC ≤ amt ∨ amt = a.maxBid) ∧ a.bid < amt ∧ amt ≤ a.maxBid ∧
        a'.bid = amt ∧ a'.lot = a.lot
    else denom = a.lotD ∧ amt ≤ a.lot - incOf a.lot p.incC ∧ 0 ≤ amt ∧ a'.lot = amt ∧ a'.bid = a.bid

section
variable {env : Env} {p : Params} {now : Int} {b b' : Bal} {a a' : Auction} {bidder : Addr} {denom : Denom}
  {amt : Int}

theorem bidDispatch_rules (hE : EnvOk env) (hA : AWF env a)
    (h : bidDispatch env p now b a bidder denom amt = .ok b' a') : BidRules p a a' bidder denom amt := by
  unfold BidRules
  rcases bidDispatch_cases h with ⟨hk, h⟩ | ⟨hk, h⟩ | ⟨hk, hph, h⟩ | ⟨hk, hph, h⟩ <;> rw [hk]
  · obtain ⟨rfl, ⟨hd, hmin⟩, _⟩ := bidSurplus_spec h
    exact ⟨rfl, hd, hmin, rfl, rfl⟩
  · obtain ⟨rfl, ⟨hd, hmax, hnn⟩, _⟩ := bidDebt_spec h
    exact ⟨rfl, hd, hmax, hnn, rfl, rfl⟩
  · obtain ⟨rfl, ⟨hd, _, hmin, hmaxb⟩, _⟩ := bidCollateralFwd_spec h
    have := incOf_pos a.bid p.incC
    have := hA.bid_le_max hk
    have := minBidCollateral_le hmin
    refine ⟨rfl, ?_⟩
    rw [if_pos hph]
    exact ⟨hd, by omega, by omega, hmaxb, rfl, rfl⟩
  · obtain ⟨hd, _, hmax, hnn, rfl, _⟩ := bidCollateralRev_spec env hE p now b b' a a' bidder denom amt h
    exact ⟨rfl, by rw [if_neg (fun hn => hn hph)]; exact ⟨hd, hmax, hnn, rfl, rfl⟩⟩

/-- the first bid of a debt auction leaves in the record the part of the escrowed debt that was not handed back -/
theorem bidDebt_first_bid_debt (hk : a.kind = .debt) (hfirst : a.bidder = a.initiator)
    (h : bidDispatch env p now b a bidder denom amt = .ok b' a') :
    a'.debt = a.debt - (if a.bid < a.debt then a.bid else a.debt) := by
  rw [bidDispatch_debt hk] at h
  rw [(bidDebt_spec h).1]
  exact congrArg (a.debt - ·) (if_pos hfirst)

end

end KV.Auc
