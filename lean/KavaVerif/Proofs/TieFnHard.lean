/-
  Source tie ("tie 1b") for x/hard/keeper/interest.go: the Lean definitions REGENERATED from the Go source on every run
  (Generated/FnHard.lean, tools/extract/fn*.go) equal the hand-written model functions the C08 theorems are
  about.  An edit of a Go function changes the generated definition and its equality proof stops checking.
  Encoding: `sdk.Dec` = `KV.Dec`; `types.InterestRateModel` = the generated structure of its four Dec fields.
-/
import KavaVerif.Generated.FnHard
import KavaVerif.Model.Hard
import KavaVerif.Proofs.TieFnBase

namespace KV.TieFn
open KV KV.Go

/-- closed form of `CalculateUtilizationRatio` (no hand model in Model/Hard.lean: the borrow rate only enters
    the model through the per-second factor `phi`) -/
def hardUtilization (cash borrows reserves : Dec) : Dec :=
  if borrows.m = 0 then Dec.zero
  else if (cash.m + borrows.m - reserves.m) ≤ 0 then Dec.one
  else Dec.min Dec.one (Dec.quo borrows ⟨cash.m + borrows.m - reserves.m⟩)

/-- closed form of `CalculateBorrowRate` -/
def hardBorrowRate (m : GoFn.Hard.InterestRateModel) (cash borrows reserves : Dec) : Dec :=
  let u := hardUtilization cash borrows reserves
  if u.m ≤ m.Kink.m then Dec.add (Dec.mul u m.BaseMultiplier) m.BaseRateAPY
  else Dec.add (Dec.mul (Dec.sub u m.Kink) m.JumpMultiplier) (Dec.add (Dec.mul m.Kink m.BaseMultiplier) m.BaseRateAPY)

/-- both ratios divide by the total supply `t` only after testing that it is positive -/
theorem decQuo_of_pos (x t d : Dec) (f : Dec → Dec) :
    (if 0 < t.m then Go.decQuo x t >>= fun q => R.ok (f q) else R.ok d)
      = R.ok (if t.m ≤ 0 then d else f (x.quo t)) := by
  by_cases h : 0 < t.m
  · rw [if_pos h, if_neg (Int.not_le.mpr h), Go.decQuo, if_neg (Int.ne_of_gt h)]; rfl
  · rw [if_neg h, if_pos (Int.not_lt.mp h)]

theorem hard_CalculateUtilizationRatio (cash borrows reserves : Dec) :
    GoFn.Hard.CalculateUtilizationRatio_translated = true ∧
    GoFn.Hard.CalculateUtilizationRatio cash borrows reserves = R.ok (hardUtilization cash borrows reserves) := by
  refine ⟨rfl, ?_⟩
  simp only [GoFn.Hard.CalculateUtilizationRatio, hardUtilization]
  dsimp only [Go.decEq, Dec.isPositive, Dec.add, Dec.sub, Dec.zero]
  tie_norm
  rw [apply_ite R.ok]
  exact ite_congr rfl (fun _ => rfl) fun _ => decQuo_of_pos _ _ _ (Dec.min Dec.one)

/-- the utilization ratio lies in [0, 1] whenever borrows are non-negative (so `CalculateBorrowRate` is evaluated
    on a utilization the interest-rate model is meant for) -/
theorem hard_utilization_range (cash borrows reserves : Dec) (hb : 0 ≤ borrows.m) :
    0 ≤ (hardUtilization cash borrows reserves).m ∧ (hardUtilization cash borrows reserves).m ≤ P := by
  unfold hardUtilization
  by_cases h1 : borrows.m = 0
  · rw [if_pos h1]; exact ⟨by decide, by decide⟩
  rw [if_neg h1]
  by_cases h2 : cash.m + borrows.m - reserves.m ≤ 0
  · rw [if_pos h2]; exact ⟨by decide, by decide⟩
  rw [if_neg h2]
  -- a non-negative quotient, capped at one
  have hn : 0 ≤ borrows.m * P * P := Int.mul_nonneg (Int.mul_nonneg hb (by decide)) (by decide)
  have hT : 0 ≤ cash.m + borrows.m - reserves.m := Int.le_of_lt (Int.not_le.mp h2)
  have hq : 0 ≤ (Dec.quo borrows ⟨cash.m + borrows.m - reserves.m⟩).m :=
    chopRound_nonneg _ (tquo_nonneg_eq _ _ hn hT ▸ Int.ediv_nonneg hn hT)
  unfold Dec.min
  by_cases h3 : Dec.one.m < (Dec.quo borrows ⟨cash.m + borrows.m - reserves.m⟩).m
  · rw [if_pos h3]; exact ⟨by decide, by decide⟩
  · rw [if_neg h3]; exact ⟨hq, Int.not_lt.mp h3⟩

theorem hard_CalculateBorrowRate (m : GoFn.Hard.InterestRateModel) (cash borrows reserves : Dec) :
    GoFn.Hard.CalculateBorrowRate_translated = true ∧
    GoFn.Hard.CalculateBorrowRate m cash borrows reserves = R.ok (hardBorrowRate m cash borrows reserves) := by
  refine ⟨rfl, ?_⟩
  simp only [GoFn.Hard.CalculateBorrowRate, (hard_CalculateUtilizationRatio cash borrows reserves).2, hardBorrowRate, Dec.le]
  tie_norm
  exact (apply_ite R.ok _ _ _).symm

/-- `CalculateSupplyInterestFactor` on the integer-valued arguments `AccrueInterest` passes (`sdk.NewDecFromInt` of
    the new supply interest, cash, borrowed and reserve amounts) = the model's `Hard.supplyFactor` -/
theorem hard_CalculateSupplyInterestFactor (newInterest cash borrows reserves : Int) :
    GoFn.Hard.CalculateSupplyInterestFactor_translated = true ∧
    GoFn.Hard.CalculateSupplyInterestFactor (Dec.ofInt newInterest) (Dec.ofInt cash) (Dec.ofInt borrows) (Dec.ofInt reserves)
      = R.ok (KV.Hard.supplyFactor newInterest cash borrows reserves) := by
  refine ⟨rfl, ?_⟩
  simp only [GoFn.Hard.CalculateSupplyInterestFactor, KV.Hard.supplyFactor]
  dsimp only [Dec.isPositive]
  tie_norm
  exact decQuo_of_pos _ _ _ (·.add Dec.one)

end KV.TieFn
