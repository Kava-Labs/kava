/-
  Helper lemmas for property C16 (Model/Authz.lean).
  1. What the regenerated search guards denote (closed by `decide` on the generated table: if the source
     comparison is inverted or dropped these lemmas — and everything built on them — stop checking).
  2. `ite_err_eq_ok`: a handler that succeeded passed every guard of its chain.
  3. List / coin / balance frame lemmas, and what a successful bep3 `createSwap` went through.
-/
import KavaVerif.Model.Authz
set_option linter.unusedVariables false

namespace KV.Authz
open KV.Gen.C16

/-! ### denotation of the generated guards

`C16_guards_denote` (Props/C16.lean) evaluates every handler's guard; the guards of the two search loops,
which it does not list, are evaluated here. -/

/-- the loops of `GetOracle` / `HasMember` return from inside on a match -/
theorem search_guards : ∀ g ∈ [gGetOracle, gHasMember], g.exits = true ∧ ∀ b, condTrue g b = b := by
  decide +kernel

section
variable {α : Type} [DecidableEq α]

theorem searchHit_eq_mem {g : Guard} (h : g.exits = true ∧ ∀ b, condTrue g b = b) (l : List α) (v : α) :
    searchHit g l v = decide (v ∈ l) := by
  rw [Bool.eq_iff_iff]; simp [searchHit, h]

theorem searchHit_gGetOracle (l : List α) (v : α) : searchHit gGetOracle l v = decide (v ∈ l) :=
  searchHit_eq_mem (search_guards _ (.head _)) l v

theorem searchHit_gHasMember (l : List α) (v : α) : searchHit gHasMember l v = decide (v ∈ l) :=
  searchHit_eq_mem (search_guards _ (.tail _ (.head _))) l v

theorem hasMember_iff (c : Committee α) (a : α) : hasMember c a = true ↔ a ∈ c.members := by
  unfold hasMember; rw [searchHit_gHasMember]; simp

theorem getOracle_iff (s : PF α) (m : Nat) (a : α) :
    getOracle s m a = true ↔ ∃ os, getOracles s m = some os ∧ a ∈ os := by
  unfold getOracle
  cases h : getOracles s m with
  | none => simp
  | some os => simp [searchHit_gGetOracle]

/-! ### results -/

theorem not_ok {σ : Type} {r : Res σ} (h : ∀ s', r ≠ .ok s') (s : σ) : r.isOk = false ∧ after s r = s := by
  cases r with
  | ok s' => exact absurd rfl (h s')
  | _ => exact ⟨rfl, rfl⟩

/-- A handler is a chain of `if … then .err else …`: it succeeds only past every guard.  As a `simp` lemma
    (with the handler's definition and the denotation of its guards) this turns `h … = .ok s'` into the
    conjunction of the negated guards and the equation for `s'`. -/
theorem ite_err_eq_ok {σ : Type} {c : Prop} [Decidable c] {r : Res σ} {s' : σ} :
    (if c then .err else r) = .ok s' ↔ ¬ c ∧ r = .ok s' := by
  split <;> simp [*]

theorem ite_panic_eq_ok {σ : Type} {c : Prop} [Decidable c] {r : Res σ} {s' : σ} :
    (if c then .panic else r) = .ok s' ↔ ¬ c ∧ r = .ok s' := by
  split <;> simp [*]

/-! ### coins and balances -/

theorem upd_same {κ β : Type} [DecidableEq κ] (f : κ → β) (k : κ) (v : β) : upd f k v k = v :=
  if_pos rfl

theorem upd_other {κ β : Type} [DecidableEq κ] (f : κ → β) (v : β) {k x : κ} (h : x ≠ k) : upd f k v x = f x :=
  if_neg h

/-- a two-level table updated at `(k, a)` -/
theorem upd_upd_other {κ ι β : Type} [DecidableEq κ] [DecidableEq ι] (f : κ → ι → β) (k k' : κ) (v : β) {a x : ι}
    (h : x ≠ a) : upd f k (upd (f k) a v) k' x = f k' x := by
  by_cases hk : k' = k
  · subst hk; rw [upd_same, upd_other _ _ h]
  · rw [upd_other _ _ hk]

theorem credit_other (b : Bal α) (a a' : α) (cs : Coins) (d : Nat) (h : a' ≠ a) :
    credit b a cs d a' = b d a' := by
  unfold credit
  induction cs generalizing b with
  | nil => rfl
  | cons c t ih => rw [List.foldl_cons, ih, if_neg fun e => h e.2]

theorem calcWithdraw_eq_some {g : Guard} {avail req amt : Coins} (h : calcWithdraw g avail req = some amt) :
    amt = req.map fun c => if condTrue g (decide (c.2 > amountOf avail c.1)) then (c.1, amountOf avail c.1) else c := by
  unfold calcWithdraw at h
  split at h
  · cases h
  · exact (Option.some.inj h).symm

/-- every coin of `CalculateWithdrawAmount`'s result is at most the recorded amount of its denomination -/
theorem calcWithdraw_capped (g : Guard) (hg : ∀ b, condTrue g b = b) (avail req amt : Coins)
    (h : calcWithdraw g avail req = some amt) : ∀ c ∈ amt, c.2 ≤ amountOf avail c.1 := by
  rw [calcWithdraw_eq_some h]
  simp only [List.mem_map, hg, decide_eq_true_eq]
  rintro _ ⟨r, -, rfl⟩
  split
  · exact Int.le_refl _
  · omega

/-- and never more than what was asked for -/
theorem calcWithdraw_le_request (g : Guard) (hg : ∀ b, condTrue g b = b) (avail req amt : Coins)
    (h : calcWithdraw g avail req = some amt) : amt.length = req.length := by
  rw [calcWithdraw_eq_some h, List.length_map]

theorem refund_other (coll : α → Int) (deps : List (α × Int)) (a : α)
    (h : ∀ d ∈ deps, d.1 ≠ a) : refund coll deps a = coll a := by
  unfold refund
  induction deps generalizing coll with
  | nil => rfl
  | cons d t ih =>
    rw [List.foldl_cons, ih _ fun d' hd' => h d' (List.mem_cons_of_mem _ hd')]
    exact upd_other _ _ fun e => h d List.mem_cons_self e.symm

theorem setCdp_same (s : CdpSt α) (o : α) (t : Nat) (c : Option (Cdp α)) : (setCdp s o t c).cdp o t = c :=
  if_pos ⟨rfl, rfl⟩

theorem setCdp_other (s : CdpSt α) {o owner : α} {t t' : Nat} (c : Option (Cdp α)) (h : o ≠ owner ∨ t' ≠ t) :
    (setCdp s owner t c).cdp o t' = s.cdp o t' :=
  if_neg (not_and_of_not_or_not h)

theorem depositOf_setDeposit_other (c : Cdp α) (a b : α) (v : Int) (h : b ≠ a) :
    depositOf (setDeposit c a v) b = depositOf c b := by
  unfold depositOf setDeposit
  dsimp only
  split
  · -- `b`'s entries pass the filter
    rw [List.find?_filter]
    congr 2; funext d
    by_cases hd : d.1 = b <;> simp [hd, h]
  · -- rewriting `a`'s entries in place changes neither whether an entry is `b`'s nor `b`'s entries
    have hf : ((fun d : α × Int => decide (d.1 = b)) ∘ fun d => if d.1 = a then (a, v) else d) =
        fun d => decide (d.1 = b) := by
      funext d
      by_cases hd : d.1 = a <;> simp [hd, h.symm]
    rw [List.find?_map, hf, Option.map_map]
    cases hfind : c.deps.find? (fun d => decide (d.1 = b)) with
    | none => rfl
    | some d =>
      have hd : d.1 = b := by simpa using List.find?_some hfind
      simp [hd, h]

/-! ### bep3: what a successful `CreateAtomicSwap` went through -/

theorem createIncoming_ok {s s' : B3 α} {w : Swap α} (h : createIncoming s w = .ok s') :
    w.recipient ≠ s.deputy ∧
    s' = { s with hasAcc := upd s.hasAcc w.recipient true, incoming := s.incoming + w.amount,
                  swaps := { w with incoming := true } :: s.swaps } := by
  simp only [createIncoming, ite_err_eq_ok, Res.ok.injEq] at h
  exact ⟨h.1, h.2.2.2.symm⟩

theorem createOutgoing_ok {s s' : B3 α} {w : Swap α} {span : Nat} (h : createOutgoing s w span = .ok s') :
    w.recipient = s.deputy ∧
    s' = { s with outgoing := s.outgoing + w.amount, bal := upd s.bal w.sender (s.bal w.sender - w.amount),
                  swaps := { w with incoming := false } :: s.swaps } := by
  simp only [createOutgoing, ite_err_eq_ok, Bool.not_eq_true', decide_eq_false_iff_not, Decidable.not_not,
    Res.ok.injEq] at h
  exact ⟨h.1, h.2.2.2.2.2.symm⟩

/-- A created swap passed the recipient's module-account test and then went down the branch chosen by
    `sender = deputy`. -/
theorem createSwap_ok {s s' : B3 α} {rnh : Nat} {ts : Int} {span : Nat} {sender recipient : α} {so : Nat}
    {amt : Int} {dok : Bool} (hg : ∀ b, condTrue gBep3 b = b)
    (h : createSwap s rnh ts span sender recipient so amt dok = .ok s') :
    s.isMacc recipient = false ∧ ∃ w : Swap α, w.sender = sender ∧ w.recipient = recipient ∧
      (if sender = s.deputy then createIncoming s w else createOutgoing s w span) = .ok s' := by
  simp only [createSwap, ite_err_eq_ok, hg, Bool.not_eq_true', Bool.not_eq_false, preChecks, Bool.and_eq_true,
    decide_eq_true_eq] at h
  -- `h.1` is `preChecks`, whose second test is the recipient's
  exact ⟨h.1.1.1.1.1.2, _, rfl, rfl, h.2⟩

/-! ### committee votes -/

theorem mem_setVote {vs : List (Vote α)} {v w : Vote α} :
    w ∈ setVote vs v ↔ w = v ∨ w ∈ vs ∧ (w.proposal ≠ v.proposal ∨ w.voter ≠ v.voter) := by
  simp only [setVote, List.mem_cons, List.mem_filter, Bool.not_eq_true', Bool.and_eq_false_iff,
    beq_eq_false_iff_ne, decide_eq_false_iff_not, ne_eq]

end

theorem incSupply_frame {α : Type} (s s1 : Iss α) (a : Asset α) (amt : Int) (h : incSupply s a amt = some s1) :
    s1.assets = s.assets ∧ s1.bal = s.bal ∧ s1.total = s.total ∧ s1.bankBlocked = s.bankBlocked := by
  unfold incSupply at h
  split at h
  · cases h
  · split at h
    · split at h <;> cases h
      exact ⟨rfl, rfl, rfl, rfl⟩
    · cases h; exact ⟨rfl, rfl, rfl, rfl⟩

end KV.Authz
