/-
  Source tie ("tie 1b") for x/swap/types/base_pool.go: the Lean definitions REGENERATED from the Go source on
  every run (Generated/FnSwap.lean, tools/extract/fn*.go) equal the hand-written model functions of
  Model/Swap.lean that the C07 theorems are about.  An edit of a Go function changes the generated definition
  and its equality proof stops checking.

  Encoding: `sdkmath.Int` / `big.Int` = `Int`, `sdk.Dec` = `KV.Dec`, `*BasePool` = the generated structure
  `GoFn.Swap.BasePool` (fields reservesA, reservesB, totalShares) = `swPool` of the model's `Pool`.  A method
  that assigns fields of its pointer receiver returns the receiver after the call as first component.
  The model writes a Go panic as `none` (`R.ofOption`), and the `error` of the two constructors as `none`.
-/
import KavaVerif.Generated.FnSwap
import KavaVerif.Model.Swap
import KavaVerif.Proofs.TieFnBase

namespace KV.TieFn
open KV KV.Go KV.SW

/-- model pool ↔ translated `BasePool` -/
def swPool (p : Pool) : GoFn.Swap.BasePool := ⟨p.a, p.b, p.s⟩

/-- a guard in front of the rest of a `do` block -/
theorem ite_bind {α β : Type} (c : Prop) [Decidable c] (x y : R α) (f : α → R β) :
    ((if c then x else y) >>= f) = if c then x >>= f else y >>= f :=
  apply_ite (· >>= f) c x y

theorem bigQuo_of_ne {a b : Int} (h : b ≠ 0) : Go.bigQuo a b = R.ok (tquo a b) := if_neg h

theorem bigQuo_eq_pquo (x d : Int) : Go.bigQuo x d = R.ofOption (pquo x d) := by
  unfold Go.bigQuo pquo; split <;> rfl

theorem isqrtAux_eq : ∀ (f n : Nat), Go.isqrtAux f n = SW.isqrtAux f n := by
  intro f
  induction f with
  | zero => intro n; rfl
  | succ k ih => intro n; simp only [Go.isqrtAux, SW.isqrtAux, ih]

theorem swap_calculateInitialShares (a b : Int) (h : 0 ≤ a * b) :
    GoFn.Swap.calculateInitialShares_translated = true ∧
    GoFn.Swap.calculateInitialShares a b = R.ok (initialShares a b) := by
  refine ⟨rfl, ?_⟩
  have h' : ¬ a * b < 0 := by omega
  simp only [GoFn.Swap.calculateInitialShares, Go.bigSqrt, initialShares, isqrt, isqrtAux_eq, h', if_false]

theorem swap_NewBasePool (a b : Int) :
    GoFn.Swap.NewBasePool_translated = true ∧
    GoFn.Swap.NewBasePool a b = (match newBasePool a b with | none => R.err | some p => R.ok (swPool p)) := by
  refine ⟨rfl, ?_⟩
  simp only [GoFn.Swap.NewBasePool, newBasePool]
  tie_norm
  by_cases h : a ≤ 0 ∨ b ≤ 0
  · rw [if_pos h, if_pos h]
  · rw [if_neg h, if_neg h, (swap_calculateInitialShares a b (Int.mul_nonneg (by omega) (by omega))).2]; rfl

theorem swap_NewBasePoolWithExistingShares (a b s : Int) :
    GoFn.Swap.NewBasePoolWithExistingShares_translated = true ∧
    GoFn.Swap.NewBasePoolWithExistingShares a b s
      = (match newBasePoolWithShares a b s with | none => R.err | some p => R.ok (swPool p)) := by
  refine ⟨rfl, ?_⟩
  simp only [GoFn.Swap.NewBasePoolWithExistingShares, newBasePoolWithShares]
  tie_norm
  by_cases h : a ≤ 0 ∨ b ≤ 0
  · rw [if_pos h, if_pos h]
  · rw [if_neg h, if_neg h]; split <;> rfl

theorem swap_ShareValue (p : Pool) (sh : Int) :
    GoFn.Swap.ShareValue_translated = true ∧
    GoFn.Swap.ShareValue (swPool p) sh = R.ofOption (shareValue p sh) := by
  refine ⟨rfl, ?_⟩
  dsimp only [swPool]
  simp only [GoFn.Swap.ShareValue, GoFn.Swap.assertSharesArePositive, GoFn.Swap.assertSharesAreLessThanTotal,
    shareValue, ite_bind, apply_ite R.ofOption]
  tie_norm
  refine ite_congr rfl (fun h1 => ite_congr rfl (fun _ => rfl) fun h2 => ?_) fun _ => rfl
  rw [bigQuo_of_ne (by omega), bigQuo_of_ne (by omega)]; rfl

theorem swap_AddLiquidity (p : Pool) (da db : Int) :
    GoFn.Swap.AddLiquidity_translated = true ∧
    GoFn.Swap.AddLiquidity (swPool p) da db
      = R.ofOption ((addLiquidity p da db).map fun r => (swPool r.1, r.2.1, r.2.2.1, r.2.2.2)) := by
  refine ⟨rfl, ?_⟩
  dsimp only [swPool]
  simp only [GoFn.Swap.AddLiquidity, GoFn.Swap.assertDepositsArePositive, GoFn.Swap.IsEmpty,
    GoFn.Swap.assertReservesArePositive, GoFn.Swap.ReservesA, GoFn.Swap.ReservesB, GoFn.Swap.TotalShares,
    addLiquidity, ite_bind, apply_ite R.ofOption, apply_ite (Option.map _)]
  tie_norm
  -- the guards are the same tests on both sides
  refine ite_congr rfl (fun h1 => ite_congr rfl (fun h2 => ite_congr rfl (fun _ => ?_) fun _ =>
    ite_congr rfl (fun h4 => ite_congr rfl (fun h5 => ?_) fun _ => rfl) fun _ => rfl) fun _ => rfl) fun _ => rfl
  · rw [(swap_calculateInitialShares da db (Int.mul_nonneg (Int.le_of_lt h1) (Int.le_of_lt h2))).2]; rfl
  · simp only [bigQuo_of_ne (Int.ne_of_gt h4), bigQuo_of_ne (Int.ne_of_gt h5), R.ok_bind]
    by_cases h6 : p.b * da ≤ p.a * db <;> simp only [h6, if_true, if_false] <;> split <;> rfl

theorem swap_RemoveLiquidity (p : Pool) (sh : Int) :
    GoFn.Swap.RemoveLiquidity_translated = true ∧
    GoFn.Swap.RemoveLiquidity (swPool p) sh
      = R.ofOption ((removeLiquidity p sh).map fun r => (swPool r.1, r.2.1, r.2.2)) := by
  refine ⟨rfl, ?_⟩
  simp only [GoFn.Swap.RemoveLiquidity, (swap_ShareValue p sh).2, removeLiquidity]
  cases shareValue p sh with
  | none => rfl
  | some w =>
    dsimp only [swPool]
    simp only [GoFn.Swap.assertReservesAreNotNegative, ite_bind, apply_ite R.ofOption, apply_ite (Option.map _)]
    tie_norm

theorem swap_calculateOutputForExactInput (g : GoFn.Swap.BasePool) (x inR outR : Int) (fee : Dec) :
    GoFn.Swap.calculateOutputForExactInput_translated = true ∧
    GoFn.Swap.calculateOutputForExactInput g x inR outR fee = R.ofOption (outputForExactInput x inR outR fee) := by
  refine ⟨rfl, ?_⟩
  simp only [GoFn.Swap.calculateOutputForExactInput, GoFn.Swap.assertSwapInputIsValid, GoFn.Swap.assertFeeIsValid,
    outputForExactInput, ite_bind, apply_ite R.ofOption]
  dsimp only [Dec.isNegative, Dec.le, Dec.one]
  tie_norm
  refine ite_congr rfl (fun _ => ite_congr rfl (fun _ => rfl) fun _ => ?_) fun _ => rfl
  rw [bigQuo_eq_pquo]; cases pquo _ _ <;> rfl

theorem swap_calculateInputForExactOutput (g : GoFn.Swap.BasePool) (out outR inR : Int) (fee : Dec) :
    GoFn.Swap.calculateInputForExactOutput_translated = true ∧
    GoFn.Swap.calculateInputForExactOutput g out outR inR fee = R.ofOption (inputForExactOutput out outR inR fee) := by
  refine ⟨rfl, ?_⟩
  simp only [GoFn.Swap.calculateInputForExactOutput, GoFn.Swap.assertSwapOutputIsValid, GoFn.Swap.assertFeeIsValid,
    inputForExactOutput, ite_bind, apply_ite R.ofOption]
  dsimp only [Dec.isNegative, Dec.le, Dec.one, Dec.sub]
  tie_norm
  refine ite_congr rfl (fun _ => ite_congr rfl (fun _ => rfl) fun h2 => ite_congr rfl (fun _ => rfl) fun h3 => ?_)
    fun _ => rfl
  have hn : outR - out ≠ 0 := by omega
  have hf : P - fee.m ≠ 0 := by omega
  simp only [Go.bigQuoRem, Go.decQuo, if_neg hn, if_neg hf, R.ok_bind, Int.mul_comm (outR - out)]
  split <;> rfl

theorem swap_assertInvariantAndUpdateReserves (p : Pool) (newA feeA newB feeB : Int) :
    GoFn.Swap.assertInvariantAndUpdateReserves_translated = true ∧
    GoFn.Swap.assertInvariantAndUpdateReserves (swPool p) newA feeA newB feeB
      = R.ofOption ((assertInvariantAndUpdate p newA feeA newB feeB).map swPool) := by
  refine ⟨rfl, ?_⟩
  simp only [GoFn.Swap.assertInvariantAndUpdateReserves, GoFn.Swap.assertInvariant, assertInvariantAndUpdate,
    ite_bind, apply_ite R.ofOption, apply_ite (Option.map _)]
  tie_norm
  rfl

/-- the common second half of the four swap methods: the reserves are replaced if the invariant holds, and the
    computed pair is returned with the pool (`nA … fB`: new reserves and fees as functions of that pair) -/
theorem swap_commit (p : Pool) (o : Option (Int × Int)) (nA fA nB fB : Int → Int → Int) :
    (R.ofOption o >>= fun t =>
      GoFn.Swap.assertInvariantAndUpdateReserves (swPool p) (nA t.1 t.2) (fA t.1 t.2) (nB t.1 t.2) (fB t.1 t.2)
        >>= fun q => pure (q, t.1, t.2))
    = R.ofOption (Option.map (fun r => (swPool r.1, r.2.1, r.2.2))
        (match o with
        | none => none
        | some (v, fv) =>
          match assertInvariantAndUpdate p (nA v fv) (fA v fv) (nB v fv) (fB v fv) with
          | none => none
          | some p' => some (p', v, fv))) := by
  cases o with
  | none => rfl
  | some t =>
    simp only [R.ofOption_some, R.ok_bind, (swap_assertInvariantAndUpdateReserves p _ _ _ _).2]
    cases assertInvariantAndUpdate p (nA t.1 t.2) (fA t.1 t.2) (nB t.1 t.2) (fB t.1 t.2) <;> rfl

theorem swap_SwapExactAForB (p : Pool) (x : Int) (fee : Dec) :
    GoFn.Swap.SwapExactAForB_translated = true ∧
    GoFn.Swap.SwapExactAForB (swPool p) x fee
      = R.ofOption ((swapExactAForB p x fee).map fun r => (swPool r.1, r.2.1, r.2.2)) := by
  refine ⟨rfl, ?_⟩
  simp only [GoFn.Swap.SwapExactAForB, swapExactAForB, (swap_calculateOutputForExactInput _ _ _ _ _).2]
  exact swap_commit p _ (fun _ _ => p.a + x) (fun _ fv => fv) (fun b _ => p.b - b) (fun _ _ => 0)

theorem swap_SwapExactBForA (p : Pool) (x : Int) (fee : Dec) :
    GoFn.Swap.SwapExactBForA_translated = true ∧
    GoFn.Swap.SwapExactBForA (swPool p) x fee
      = R.ofOption ((swapExactBForA p x fee).map fun r => (swPool r.1, r.2.1, r.2.2)) := by
  refine ⟨rfl, ?_⟩
  simp only [GoFn.Swap.SwapExactBForA, swapExactBForA, (swap_calculateOutputForExactInput _ _ _ _ _).2]
  exact swap_commit p _ (fun a _ => p.a - a) (fun _ _ => 0) (fun _ _ => p.b + x) (fun _ fv => fv)

theorem swap_SwapAForExactB (p : Pool) (x : Int) (fee : Dec) :
    GoFn.Swap.SwapAForExactB_translated = true ∧
    GoFn.Swap.SwapAForExactB (swPool p) x fee
      = R.ofOption ((swapAForExactB p x fee).map fun r => (swPool r.1, r.2.1, r.2.2)) := by
  refine ⟨rfl, ?_⟩
  simp only [GoFn.Swap.SwapAForExactB, swapAForExactB, (swap_calculateInputForExactOutput _ _ _ _ _).2]
  exact swap_commit p _ (fun a _ => p.a + a) (fun _ fv => fv) (fun _ _ => p.b - x) (fun _ _ => 0)

theorem swap_SwapBForExactA (p : Pool) (x : Int) (fee : Dec) :
    GoFn.Swap.SwapBForExactA_translated = true ∧
    GoFn.Swap.SwapBForExactA (swPool p) x fee
      = R.ofOption ((swapBForExactA p x fee).map fun r => (swPool r.1, r.2.1, r.2.2)) := by
  refine ⟨rfl, ?_⟩
  simp only [GoFn.Swap.SwapBForExactA, swapBForExactA, (swap_calculateInputForExactOutput _ _ _ _ _).2]
  exact swap_commit p _ (fun _ _ => p.a - x) (fun _ _ => 0) (fun b _ => p.b + b) (fun _ fv => fv)

/-- `assertSlippageWithinLimit` (x/swap/keeper/swap.go): error iff `¬ slippageOk` -/
theorem swap_assertSlippageWithinLimit (priceChange slip : Dec) :
    GoFn.Swap.assertSlippageWithinLimit_translated = true ∧
    GoFn.Swap.assertSlippageWithinLimit priceChange slip
      = (if KV.SW.slippageOk priceChange slip then R.ok () else R.err) := by
  refine ⟨rfl, ?_⟩
  simp only [GoFn.Swap.assertSlippageWithinLimit, KV.SW.slippageOk]
  dsimp only [Dec.lt]
  tie_norm

end KV.TieFn
