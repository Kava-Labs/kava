/-
  Helper lemmas for the further C14 genesis models (Model/GenesisMore.lean). Core Lean only.
-/
import KavaVerif.Proofs.GenesisModels
import KavaVerif.Model.GenesisMore
set_option linter.unusedSimpArgs false
set_option linter.unusedVariables false

namespace KV.Gx
open List

theorem issCreateMissing_noop {assets : List IssAsset} {st : List (Nat × IssSupply)}
    (h : ∀ a ∈ assets, a.rateLimited = true → (keys st).contains a.denom = true) :
    issCreateMissing assets st = st := by
  induction assets with
  | nil => rfl
  | cons a r ih =>
    have hc : (a.rateLimited && !(keys st).contains a.denom) = false := by
      cases hl : a.rateLimited
      · rfl
      · rw [h a List.mem_cons_self hl]; rfl
    rw [issCreateMissing, hc, if_neg Bool.false_ne_true]
    exact ih fun b hb => h b (List.mem_cons_of_mem _ hb)

end KV.Gx
