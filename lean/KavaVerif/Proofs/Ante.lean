/-
  Lemmas for property C15 (ante gating): the recursive authz scan said declaratively, and the composed gate with the
  generated router and chains evaluated.
-/
import KavaVerif.Model.Ante
set_option linter.unusedSimpArgs false
set_option linter.unusedVariables false
namespace KV.Ante
open KV.Gen

theorem innerFlag_val : c15AuthzInnerFlag = false := rfl
theorem topFlag_val : c15AuthzTopFlag = true := rfl

/- The equations of the scan as theorems, so that `simp` rewrites with them: when the mutual recursion is unfolded by
   definitional reduction the kernel re-runs the whole scan, string comparisons included, to check the result. -/

theorem checkList_nil (bl : List String) (only : Bool) : checkList bl [] only = .ok := by rw [checkList]

theorem checkList_cons (bl : List String) (m : Msg) (ms : List Msg) (only : Bool) :
    checkList bl (m :: ms) only = (match checkOne bl m only with | .ok => checkList bl ms only | r => r) := by
  rw [checkList]; cases checkOne bl m only <;> rfl

theorem checkOne_plain (bl : List String) (u : String) (only : Bool) :
    checkOne bl (.plain u) only =
      if !only && isDisabled bl u then .err else if u == c15MsgGrantURL || u == c15MsgExecURL then .panic else .ok := by
  rw [checkOne]

theorem checkOne_grant (bl : List String) (t : String) (only : Bool) :
    checkOne bl (.grant t) only =
      if !only && isDisabled bl c15MsgGrantURL then .err else if isDisabled bl t then .err else .ok := by
  rw [checkOne]

theorem checkOne_exec (bl : List String) (ms : List Msg) (only : Bool) :
    checkOne bl (.exec ms) only =
      if !only && isDisabled bl c15MsgExecURL then .err else checkList bl ms c15AuthzInnerFlag := by
  rw [checkOne]

theorem checkOne_grantBad (bl : List String) (only : Bool) : checkOne bl .grantBad only = .err := by rw [checkOne]

theorem checkOne_execBad (bl : List String) (only : Bool) : checkOne bl .execBad only = .err := by rw [checkOne]

theorem Res.ite_err_eq_ok (c : Bool) (x : Res) : (if c then Res.err else x) = .ok ↔ c = false ∧ x = .ok := by
  cases c <;> simp

theorem Res.ite_panic_eq_ok (c : Bool) : (if c then Res.panic else .ok) = Res.ok ↔ c = false := by
  cases c <;> simp

mutual
/-- `searchOnlyInAuthzMsgs` is the negation of "the list is the content of an exec" -/
theorem checkList_ok_iff (bl : List String) : ∀ (ms : List Msg) (inExec : Bool),
    checkList bl ms (!inExec) = .ok ↔ (reachList bl ms inExec = false ∧ malfList ms = false)
  | [], _ => by simp [checkList, reachList, malfList]
  | m :: ms, inExec => by
    rw [reachList, malfList, Bool.or_eq_false_iff, Bool.or_eq_false_iff, and_and_and_comm,
      ← checkOne_ok_iff bl m inExec, ← checkList_ok_iff bl ms inExec, checkList]
    cases checkOne bl m (!inExec) <;> simp
theorem checkOne_ok_iff (bl : List String) : ∀ (m : Msg) (inExec : Bool),
    checkOne bl m (!inExec) = .ok ↔ (reachOne bl m inExec = false ∧ malfOne m = false)
  | .plain u, inExec => by
    simp only [checkOne, reachOne, malfOne, Bool.not_not, Res.ite_err_eq_ok, Res.ite_panic_eq_ok]
  | .grant t, inExec => by
    simp only [checkOne, reachOne, malfOne, Bool.not_not, Res.ite_err_eq_ok, Bool.or_eq_false_iff, and_true]
  | .grantBad, inExec => by simp [checkOne, reachOne, malfOne]
  | .exec ms, inExec => by
    have h := checkList_ok_iff bl ms true
    simp only [checkOne, reachOne, malfOne, Bool.not_not, Res.ite_err_eq_ok, Bool.or_eq_false_iff, innerFlag_val,
      and_assoc]
    rw [← h]; rfl
  | .execBad, inExec => by simp [checkOne, reachOne, malfOne]
end

theorem InExec.mono {m : Msg} {ms ms' : List Msg} (hsub : ms ⊆ ms') (h : InExec m ms) : InExec m ms' := by
  cases h with
  | child he hm => exact .child (hsub he) hm
  | deeper he hi => exact .deeper (hsub he) hi

theorem Anywhere.mono {m : Msg} {ms ms' : List Msg} (hsub : ms ⊆ ms') (h : Anywhere m ms) : Anywhere m ms' :=
  h.imp (fun h => hsub h) (InExec.mono hsub)

theorem Anywhere.inExec {m : Msg} {inner : List Msg} (h : Anywhere m inner) : InExec m [.exec inner] :=
  have he : Msg.exec inner ∈ [Msg.exec inner] := List.mem_singleton.mpr rfl
  h.elim (.child he) (.deeper he)

theorem reachList_of_mem {bl : List String} {b : Bool} : ∀ {ms : List Msg} {m : Msg}, m ∈ ms →
    reachOne bl m b = true → reachList bl ms b = true
  | [], _, hm, _ => by cases hm
  | x :: xs, m, hm, h => by
    simp only [reachList, Bool.or_eq_true]
    cases hm with
    | head => exact .inl h
    | tail _ hm' => exact .inr (reachList_of_mem hm' h)

theorem reachOne_true_of_url {bl : List String} {m : Msg} (h : isDisabled bl m.url = true) :
    reachOne bl m true = true := by
  cases m <;> simp_all [reachOne, Msg.url]

theorem reachOne_grant {bl : List String} {t : String} {b : Bool} (h : isDisabled bl t = true) :
    reachOne bl (.grant t) b = true := by
  simp [reachOne, h]

theorem reachOne_exec_of {bl : List String} {inner : List Msg} {b : Bool} (h : reachList bl inner true = true) :
    reachOne bl (.exec inner) b = true := by
  simp [reachOne, h]

theorem reach_of_inExec {bl : List String} {m : Msg} {ms : List Msg} (h : InExec m ms)
    (hm : reachOne bl m true = true) {b : Bool} : reachList bl ms b = true := by
  induction h generalizing b with
  | child he hmem =>
    exact reachList_of_mem he (reachOne_exec_of (reachList_of_mem hmem hm))
  | deeper he _ ih => exact reachList_of_mem he (reachOne_exec_of ih)

theorem reach_of_grant {bl : List String} {t : String} {ms : List Msg} (h : Anywhere (.grant t) ms)
    (hd : isDisabled bl t = true) {b : Bool} : reachList bl ms b = true :=
  h.elim (fun hm => reachList_of_mem hm (reachOne_grant hd)) (fun hi => reach_of_inExec hi (reachOne_grant hd))

/-- what the decidable predicate finds, said declaratively -/
def ReachP (bl : List String) (ms : List Msg) (inExec : Bool) : Prop :=
  (inExec = true ∧ ∃ m, m ∈ ms ∧ isDisabled bl m.url = true) ∨
  (∃ m, InExec m ms ∧ isDisabled bl m.url = true) ∨
  (∃ t, Anywhere (.grant t) ms ∧ isDisabled bl t = true)

theorem ReachP.mono {bl : List String} {ms ms' : List Msg} {b : Bool} (hsub : ms ⊆ ms')
    (h : ReachP bl ms b) : ReachP bl ms' b := by
  rcases h with ⟨hb, x, hx, hd⟩ | ⟨x, hx, hd⟩ | ⟨t, ht, hd⟩
  · exact .inl ⟨hb, x, hsub hx, hd⟩
  · exact .inr (.inl ⟨x, hx.mono hsub, hd⟩)
  · exact .inr (.inr ⟨t, ht.mono hsub, hd⟩)

theorem ReachP.of_url {bl : List String} {m : Msg} {b : Bool} (h : (b && isDisabled bl m.url) = true) :
    ReachP bl [m] b := by
  rw [Bool.and_eq_true] at h
  exact .inl ⟨h.1, m, List.mem_singleton.mpr rfl, h.2⟩

theorem ReachP.exec_lift {bl : List String} {inner : List Msg} {b : Bool}
    (h : ReachP bl inner true) : ReachP bl [.exec inner] b := by
  rcases h with ⟨_, x, hx, hd⟩ | ⟨x, hx, hd⟩ | ⟨t, ht, hd⟩
  · exact .inr (.inl ⟨x, Anywhere.inExec (.inl hx), hd⟩)
  · exact .inr (.inl ⟨x, Anywhere.inExec (.inr hx), hd⟩)
  · exact .inr (.inr ⟨t, .inr ht.inExec, hd⟩)

mutual
theorem reachList_complete (bl : List String) : ∀ (ms : List Msg) (b : Bool),
    reachList bl ms b = true → ReachP bl ms b
  | [], _, h => by simp [reachList] at h
  | m :: ms, b, h => by
    simp only [reachList, Bool.or_eq_true] at h
    cases h with
    | inl h => exact (reachOne_complete bl m b h).mono (List.cons_subset_cons m (List.nil_subset ms))
    | inr h => exact (reachList_complete bl ms b h).mono (List.subset_cons_self m ms)
theorem reachOne_complete (bl : List String) : ∀ (m : Msg) (b : Bool),
    reachOne bl m b = true → ReachP bl [m] b
  | .plain u, b, h => .of_url h
  | .grant t, b, h => by
    simp only [reachOne, Bool.or_eq_true] at h
    exact h.elim (.of_url (m := .grant t)) fun h => .inr (.inr ⟨t, .inl (List.mem_singleton.mpr rfl), h⟩)
  | .grantBad, b, h => .of_url h
  | .exec ms, b, h => by
    simp only [reachOne, Bool.or_eq_true] at h
    exact h.elim (.of_url (m := .exec ms)) fun h => (reachList_complete bl ms true h).exec_lift
  | .execBad, b, h => .of_url h
end

theorem malfList_of_mem : ∀ {ms : List Msg} {m : Msg}, m ∈ ms → malfOne m = true → malfList ms = true
  | [], _, hm, _ => by cases hm
  | x :: xs, m, hm, h => by
    simp only [malfList, Bool.or_eq_true]
    cases hm with
    | head => exact .inl h
    | tail _ hm' => exact .inr (malfList_of_mem hm' h)

theorem malfOne_of_isMalf {m : Msg} (h : IsMalf m) : malfOne m = true := by
  rcases h with rfl | rfl | ⟨u, rfl, hu⟩
  · rfl
  · rfl
  · simpa [malfOne] using hu

theorem malf_of_inExec {m : Msg} {ms : List Msg} (h : InExec m ms) (hm : malfOne m = true) : malfList ms = true := by
  induction h with
  | child he hmem => exact malfList_of_mem he (by simp only [malfOne]; exact malfList_of_mem hmem hm)
  | deeper he _ ih => exact malfList_of_mem he (by simp only [malfOne]; exact ih)

theorem malf_of_malformed {ms : List Msg} : Malformed ms → malfList ms = true
  | ⟨_, .inl hmem, hm⟩ => malfList_of_mem hmem (malfOne_of_isMalf hm)
  | ⟨_, .inr hi, hm⟩ => malf_of_inExec hi (malfOne_of_isMalf hm)

theorem Malformed.mono {ms ms' : List Msg} (hsub : ms ⊆ ms') : Malformed ms → Malformed ms'
  | ⟨x, hx, hm⟩ => ⟨x, hx.mono hsub, hm⟩

theorem Malformed.of_isMalf {m : Msg} (h : IsMalf m) : Malformed [m] :=
  ⟨m, .inl (List.mem_singleton.mpr rfl), h⟩

theorem Malformed.exec_lift {inner : List Msg} : Malformed inner → Malformed [.exec inner]
  | ⟨x, hx, hm⟩ => ⟨x, .inr hx.inExec, hm⟩

mutual
theorem malfList_complete : ∀ (ms : List Msg), malfList ms = true → Malformed ms
  | [], h => by simp [malfList] at h
  | m :: ms, h => by
    simp only [malfList, Bool.or_eq_true] at h
    cases h with
    | inl h => exact (malfOne_complete m h).mono (List.cons_subset_cons m (List.nil_subset ms))
    | inr h => exact (malfList_complete ms h).mono (List.subset_cons_self m ms)
theorem malfOne_complete : ∀ (m : Msg), malfOne m = true → Malformed [m]
  | .plain u, h => .of_isMalf (.inr (.inr ⟨u, rfl, by simpa [malfOne] using h⟩))
  | .grant t, h => by simp [malfOne] at h
  | .grantBad, _ => .of_isMalf (.inl rfl)
  | .exec ms, h => by
    simp only [malfOne] at h
    exact (malfList_complete ms h).exec_lift
  | .execBad, _ => .of_isMalf (.inr (.inl rfl))
end

theorem malfList_iff {ms : List Msg} : malfList ms = true ↔ Malformed ms :=
  ⟨malfList_complete ms, malf_of_malformed⟩

theorem reachList_iff {bl : List String} {ms : List Msg} {b : Bool} : reachList bl ms b = true ↔ ReachP bl ms b := by
  refine ⟨reachList_complete bl ms b, ?_⟩
  rintro (⟨rfl, m, hm, hd⟩ | ⟨m, hi, hd⟩ | ⟨t, ha, hd⟩)
  · exact reachList_of_mem hm (reachOne_true_of_url hd)
  · exact reach_of_inExec hi (reachOne_true_of_url hd)
  · exact reach_of_grant ha hd

theorem authzLimiter_ok_iff {bl : List String} {ms : List Msg} :
    authzLimiter bl ms = .ok ↔
      (((∀ m, InExec m ms → m.url ∉ bl) ∧ (∀ t, Anywhere (.grant t) ms → t ∉ bl)) ∧ ¬ Malformed ms) := by
  have h := checkList_ok_iff bl ms false
  rw [Bool.not_false] at h
  rw [authzLimiter, topFlag_val, h, ← Bool.not_eq_true, ← Bool.not_eq_true, reachList_iff, malfList_iff]
  simp only [ReachP, isDisabled, List.contains_iff_mem, Bool.false_eq_true, false_and, false_or, not_or, not_exists,
    not_and]

theorem cosmosChainK_val : cosmosChainK =
    [(.always, .rejectMsgs), (.always, .other), (.notEIP712, .extOpts), (.hasFetchers, .mempool),
     (.always, .other), (.always, .vesting), (.always, .authz), (.always, .other), (.always, .other),
     (.always, .other), (.always, .other), (.always, .other), (.always, .other), (.always, .other),
     (.always, .other), (.always, .other), (.always, .other), (.always, .other)] := by
  simp [cosmosChainK, c15CosmosChain, classifyCond, classifyDec]

theorem ethChainK_val : ethChainK =
    [(.always, .other), (.always, .other), (.always, .other), (.always, .ethOnly), (.hasFetchers, .mempool),
     (.always, .other), (.always, .other), (.always, .other), (.always, .other), (.always, .other)] := by
  simp [ethChainK, c15EthChain, classifyCond, classifyDec]

def ethOptURL : String := "/ethermint.evm.v1.ExtensionOptionsEthereumTx"
def web3OptURL : String := "/ethermint.types.v1.ExtensionOptionsWeb3Tx"

theorem extCasesK_val : extCasesK = [(ethOptURL, .eth), (web3OptURL, .cosmos true)] := by
  simp [extCasesK, c15ExtOptionCases, handlerRoute, ethOptURL, web3OptURL]

theorem fallThroughK_val : fallThroughK = .cosmos false := by
  simp [fallThroughK, c15FallThrough, handlerRoute]

theorem extOptsMax_val : c15ExtOptsMax = 1 := rfl
theorem extOptsRouteLen_val : c15ExtOptsRouteLen = 1 := rfl
theorem extDefaultRejects_val : c15ExtDefaultRejects = true := rfl
theorem checkerNil_val : c15ExtensionOptionCheckerNil = true := rfl
theorem fetchers_nonempty : decide (c15Fetchers.length > 0) = true := rfl

theorem guard_val (md : Mode) : guardHolds c15MempoolGuard md = (md.isCheckTx && !md.simulate) := by
  simp [guardHolds, c15MempoolGuard, atomVal]

/-- decorators outside the property are the identity, whatever their condition -/
theorem runChain_filter (cfg : Cfg) (md : Mode) (e : Bool) (tx : Tx) (l : List (CondKind × DecKind)) :
    runChain cfg md e tx (l.filter (·.2 != .other)) = runChain cfg md e tx l := by
  induction l with
  | nil => rfl
  | cons cn rest ih =>
    by_cases hk : cn.2 = .other
    · rw [List.filter_cons_of_neg (by simp [hk]), ih, runChain, hk, decStep, ite_self]
    · rw [List.filter_cons_of_pos (by simpa using hk), runChain, runChain, ih]

theorem runChain_pass_iff (cfg : Cfg) (md : Mode) (e : Bool) (tx : Tx) (l : List (CondKind × DecKind)) :
    runChain cfg md e tx l = .pass ↔ ∀ cn ∈ l, condHolds cfg e cn.1 = true → decStep cfg md tx cn.2 = .pass := by
  induction l with
  | nil => simp [runChain]
  | cons cn rest ih =>
    rw [runChain, List.forall_mem_cons, ← ih]
    cases condHolds cfg e cn.1 <;> cases decStep cfg md tx cn.2 <;> simp

/-- the gates of the two generated chains, in chain order -/
def cosmosGates : List (CondKind × DecKind) :=
  [(.always, .rejectMsgs), (.notEIP712, .extOpts), (.hasFetchers, .mempool), (.always, .vesting), (.always, .authz)]
def ethGates : List (CondKind × DecKind) := [(.always, .ethOnly), (.hasFetchers, .mempool)]

theorem runCosmos_eq {cfg : Cfg} {md : Mode} {e : Bool} {tx : Tx} :
    runChain cfg md e tx cosmosChainK = runChain cfg md e tx cosmosGates := by
  rw [← runChain_filter, cosmosChainK_val]; rfl

theorem runEth_eq {cfg : Cfg} {md : Mode} {tx : Tx} :
    runChain cfg md false tx ethChainK = runChain cfg md false tx ethGates := by
  rw [← runChain_filter, ethChainK_val]; rfl

theorem runCosmos_pass_iff (cfg : Cfg) (md : Mode) (e : Bool) (tx : Tx) :
    runChain cfg md e tx cosmosGates = .pass ↔
      (rejectMsgsDec tx.msgs = true ∧ (e = false → tx.opts = []) ∧
       (hasFetchers cfg = true → mempoolDec md tx.signers cfg.authorised = true) ∧
       vestingDec c15VestingDisabled tx.msgs = true ∧ authzLimiter c15AuthzDisabled tx.msgs = .ok) := by
  rw [runChain_pass_iff]
  simp only [cosmosGates, List.forall_mem_cons, List.not_mem_nil, false_implies, implies_true, and_true, condHolds,
    decStep, checkerNil_val]
  cases authzLimiter c15AuthzDisabled tx.msgs <;> simp

theorem runEth_pass_iff (cfg : Cfg) (md : Mode) (tx : Tx) :
    runChain cfg md false tx ethGates = .pass ↔
      (ethOnlyDec tx.msgs = true ∧ (hasFetchers cfg = true → mempoolDec md tx.signers cfg.authorised = true)) := by
  rw [runChain_pass_iff]
  simp [ethGates, condHolds, decStep]

theorem route_nil : route [] = .cosmos false := by
  simp [route, extOptsMax_val, extOptsRouteLen_val, fallThroughK_val]

theorem route_single (o : String) :
    route [o] = if o = ethOptURL then .eth else if o = web3OptURL then .cosmos true else .reject "ext-unknown" := by
  simp only [route, extOptsMax_val, extOptsRouteLen_val, extCasesK_val, extDefaultRejects_val, List.length_singleton,
    Nat.lt_irrefl, ite_false, beq_self_eq_true, ite_true, List.lookup]
  by_cases h1 : o = ethOptURL
  · rw [if_pos h1, beq_iff_eq.mpr h1]
  · rw [if_neg h1, beq_eq_false_iff_ne.mpr h1]
    by_cases h2 : o = web3OptURL
    · rw [if_pos h2, beq_iff_eq.mpr h2]
    · rw [if_neg h2, beq_eq_false_iff_ne.mpr h2]

theorem route_many (o1 o2 : String) (rest : List String) : route (o1 :: o2 :: rest) = .reject "ext-too-many" := by
  simp [route, extOptsMax_val]

theorem route_eth_iff (opts : List String) : route opts = .eth ↔ opts = [ethOptURL] := by
  match opts with
  | [] => simp [route_nil]
  | [o] =>
    rw [route_single]
    by_cases h1 : o = ethOptURL
    · simp [h1]
    · by_cases h2 : o = web3OptURL <;> simp [h1, h2]
  | o1 :: o2 :: rest => simp [route_many]

theorem isType_iff (url : String) (m : Msg) : isType url m = true ↔ m = .plain url := by
  cases m <;> simp [isType]

theorem ethOnly_all {msgs : List Msg} (h : ethOnlyDec msgs = true) : ∀ m, m ∈ msgs → m = .plain c15EthOnlyURL := by
  simpa only [ethOnlyDec, List.all_eq_true, isType_iff] using h

theorem rejectMsgs_none {msgs : List Msg} (h : rejectMsgsDec msgs = true) : ∀ m, m ∈ msgs → m ≠ .plain c15RejectMsgsURL := by
  simpa only [rejectMsgsDec, List.all_eq_true, Bool.not_eq_eq_eq_not, Bool.not_true, ← Bool.not_eq_true, isType_iff]
    using h

theorem no_inExec_of_all_plain {msgs : List Msg} {u : String} (h : ∀ m, m ∈ msgs → m = .plain u) :
    ∀ m, ¬ InExec m msgs := by
  intro m hi
  cases hi with
  | child he _ => have := h _ he; cases this
  | deeper he _ => have := h _ he; cases this

theorem anteGate_eq (cfg : Cfg) (md : Mode) (tx : Tx) :
    anteGate cfg md tx =
      match tx.opts with
      | [] => runChain cfg md false tx cosmosGates
      | [o] =>
        if o = ethOptURL then runChain cfg md false tx ethGates
        else if o = web3OptURL then runChain cfg md true tx cosmosGates
        else .reject "ext-unknown"
      | _ :: _ :: _ => .reject "ext-too-many" := by
  unfold anteGate
  generalize tx.opts = opts
  match opts with
  | [] => rw [route_nil]; exact runCosmos_eq
  | [o] =>
    rw [route_single]; dsimp only
    by_cases h1 : o = ethOptURL
    · rw [if_pos h1, if_pos h1]; exact runEth_eq
    · rw [if_neg h1, if_neg h1]
      by_cases h2 : o = web3OptURL
      · rw [if_pos h2, if_pos h2]; exact runCosmos_eq
      · rw [if_neg h2, if_neg h2]
  | _ :: _ :: _ => rw [route_many]

theorem anteGate_pass_iff {cfg : Cfg} {md : Mode} {tx : Tx} :
    anteGate cfg md tx = .pass ↔
      ((tx.opts = [ethOptURL] ∧ ethOnlyDec tx.msgs = true ∧
        (hasFetchers cfg = true → mempoolDec md tx.signers cfg.authorised = true)) ∨
       ((tx.opts = [] ∨ tx.opts = [web3OptURL]) ∧ rejectMsgsDec tx.msgs = true ∧
        (hasFetchers cfg = true → mempoolDec md tx.signers cfg.authorised = true) ∧
        vestingDec c15VestingDisabled tx.msgs = true ∧ authzLimiter c15AuthzDisabled tx.msgs = .ok)) := by
  have hne : ethOptURL ≠ web3OptURL := by simp [ethOptURL, web3OptURL]
  rw [anteGate_eq]
  rcases h : tx.opts with _ | ⟨o, _ | ⟨o2, rest⟩⟩
  · simp [runCosmos_pass_iff, h]
  · by_cases h1 : o = ethOptURL
    · simp [h1, hne, runEth_pass_iff]
    · by_cases h2 : o = web3OptURL
      · simp [h2, hne.symm, runCosmos_pass_iff, h]
      · simp [h1, h2]
  · simp

end KV.Ante
