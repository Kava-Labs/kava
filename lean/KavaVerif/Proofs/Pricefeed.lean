/-
  Helper lemmas for C18, part 2: the raw price store (keying, latest post), the two aggregation
  routines, and the consumer gates.  Core Lean only.
-/
import KavaVerif.Proofs.PricefeedMedian
set_option linter.unusedSimpArgs false
set_option linter.unusedVariables false
namespace KV.PF
open List

/-- the store is ordered by key and has one entry per key -/
def KeySorted (l : List Post) : Prop := l.Pairwise (fun p q => keyLt p q = true)

def hasKey (m o : Nat) (q : Post) : Bool := q.market == m && q.oracle == o

theorem sameKey_iff {p q : Post} : sameKey p q = true ↔ (p.market = q.market ∧ p.oracle = q.oracle) := by
  unfold sameKey; simp only [Bool.and_eq_true, beq_iff_eq]

theorem keyLt_iff {p q : Post} : keyLt p q = true ↔
    (p.market < q.market ∨ (p.market = q.market ∧ p.oracle < q.oracle)) := by
  unfold keyLt; simp only [Bool.or_eq_true, Bool.and_eq_true, decide_eq_true_eq, beq_iff_eq]

theorem hasKey_iff {m o} {q : Post} : hasKey m o q = true ↔ (q.market = m ∧ q.oracle = o) := by
  unfold hasKey; simp only [Bool.and_eq_true, beq_iff_eq]

theorem hasKey_false_iff {m o} {q : Post} : hasKey m o q = false ↔ ¬ (q.market = m ∧ q.oracle = o) := by
  rw [← hasKey_iff, Bool.not_eq_true]

theorem keyLt_trans {p q r : Post} (h1 : keyLt p q = true) (h2 : keyLt q r = true) : keyLt p r = true := by
  rw [keyLt_iff] at *
  rcases h1 with h | ⟨e, h⟩ <;> rcases h2 with h' | ⟨e', h'⟩
  · exact Or.inl (Nat.lt_trans h h')
  · exact Or.inl (e' ▸ h)
  · exact Or.inl (e ▸ h')
  · exact Or.inr ⟨e.trans e', Nat.lt_trans h h'⟩

theorem keyLt_congr_left {p a : Post} (hs : sameKey p a = true) (r : Post) : keyLt p r = keyLt a r := by
  obtain ⟨h1, h2⟩ := sameKey_iff.1 hs
  unfold keyLt; rw [h1, h2]

theorem hasKey_congr {p a : Post} (hs : sameKey p a = true) (m o : Nat) : hasKey m o a = hasKey m o p := by
  obtain ⟨h1, h2⟩ := sameKey_iff.1 hs
  unfold hasKey; rw [h1, h2]

theorem keyLt_of_not {p a : Post} (hs : ¬ sameKey p a = true) (hl : ¬ keyLt p a = true) : keyLt a p = true := by
  rw [sameKey_iff] at hs; rw [keyLt_iff] at *; omega

theorem rawSet_mem {p q : Post} {l : List Post} (h : q ∈ rawSet p l) : q = p ∨ q ∈ l := by
  fun_induction rawSet p l with
  | case1 => exact Or.inl (mem_singleton.1 h)
  | case2 => exact (mem_cons.1 h).imp_right (mem_cons_of_mem _)
  | case3 => exact mem_cons.1 h
  | case4 a t _ _ ih =>
    rcases mem_cons.1 h with h | h
    · exact Or.inr (h ▸ mem_cons_self)
    · exact (ih h).imp_right (mem_cons_of_mem _)

theorem rawSet_self_mem (p : Post) (l : List Post) : p ∈ rawSet p l := by
  fun_induction rawSet p l with
  | case4 _ _ _ _ ih => exact mem_cons_of_mem _ ih
  | _ => exact mem_cons_self

theorem rawSet_sorted (p : Post) {l : List Post} (h : KeySorted l) : KeySorted (rawSet p l) := by
  fun_induction rawSet p l with
  | case1 => exact pairwise_singleton _ _
  | case2 a t hs =>
    obtain ⟨ha, ht⟩ := pairwise_cons.1 h
    exact pairwise_cons.2 ⟨fun r hr => by rw [keyLt_congr_left hs]; exact ha r hr, ht⟩
  | case3 a t _ hl =>
    refine pairwise_cons.2 ⟨fun r hr => ?_, h⟩
    rcases mem_cons.1 hr with rfl | hr
    · exact hl
    · exact keyLt_trans hl (rel_of_pairwise_cons h hr)
  | case4 a t hs hl ih =>
    obtain ⟨ha, ht⟩ := pairwise_cons.1 h
    refine pairwise_cons.2 ⟨fun r hr => ?_, ih ht⟩
    rcases rawSet_mem hr with rfl | hr
    · exact keyLt_of_not hs hl
    · exact ha r hr

theorem filter_none_of_lt {p : Post} {t : List Post} (h : ∀ r, r ∈ t → keyLt p r = true) :
    t.filter (hasKey p.market p.oracle) = [] := by
  rw [filter_eq_nil_iff]
  intro r hr hk
  have := h r hr
  rw [keyLt_iff] at this
  rw [hasKey_iff] at hk; omega

theorem keySorted_filter {l : List Post} (h : KeySorted l) {q : Post} (hq : q ∈ l) :
    l.filter (hasKey q.market q.oracle) = [q] := by
  induction l with
  | nil => cases hq
  | cons a t ih =>
    obtain ⟨ha, ht⟩ := pairwise_cons.1 h
    rcases mem_cons.1 hq with rfl | hq
    · rw [filter_cons_of_pos (hasKey_iff.2 ⟨rfl, rfl⟩), filter_none_of_lt ha]
    · have hlt := ha q hq
      rw [keyLt_iff] at hlt
      rw [filter_cons_of_neg (fun hk => by rw [hasKey_iff] at hk; omega), ih ht hq]

theorem rawSet_filter_same (p : Post) {l : List Post} (h : KeySorted l) :
    (rawSet p l).filter (hasKey p.market p.oracle) = [p] :=
  keySorted_filter (rawSet_sorted p h) (rawSet_self_mem p l)

theorem rawSet_filter_other {p : Post} (l : List Post) {m o : Nat}
    (hne : ¬ (p.market = m ∧ p.oracle = o)) :
    (rawSet p l).filter (hasKey m o) = l.filter (hasKey m o) := by
  have hp : ¬ hasKey m o p = true := fun hk => hne (hasKey_iff.1 hk)
  fun_induction rawSet p l with
  | case1 => exact filter_cons_of_neg hp
  | case2 a t hs => rw [filter_cons_of_neg hp, filter_cons_of_neg (by rw [hasKey_congr hs]; exact hp)]
  | case3 => exact filter_cons_of_neg hp
  | case4 a t _ _ ih => rw [filter_cons, filter_cons (xs := t), ih]

/-- all accepted posts of a history, applied in order -/
def applyPosts (raw : List Post) (h : List Post) : List Post := h.foldl (fun r p => rawSet p r) raw

theorem applyPosts_sorted (raw h : List Post) (hs : KeySorted raw) : KeySorted (applyPosts raw h) := by
  induction h generalizing raw with
  | nil => exact hs
  | cons p t ih => exact ih (rawSet p raw) (rawSet_sorted p hs)

theorem applyPosts_latest (raw h : List Post) (hs : KeySorted raw) (m o : Nat) :
    (applyPosts raw h).filter (hasKey m o) =
      match h.reverse.find? (hasKey m o) with
      | some p => [p]
      | none => raw.filter (hasKey m o) := by
  induction h generalizing raw with
  | nil => rfl
  | cons p t ih =>
    rw [applyPosts, foldl_cons, ← applyPosts, ih (rawSet p raw) (rawSet_sorted p hs), reverse_cons,
      find?_append]
    cases t.reverse.find? (hasKey m o) with
    | some q => rfl
    | none =>
      rw [Option.none_or, find?_cons]
      cases hk : hasKey m o p with
      | true =>
        obtain ⟨rfl, rfl⟩ := hasKey_iff.1 hk
        exact rawSet_filter_same p hs
      | false => exact rawSet_filter_other raw (hasKey_false_iff.1 hk)

theorem livePrices_nil (now : Int) (m : Nat) : livePrices now [] m = [] := rfl

theorem livePrices_cons (now : Int) (p : Post) (t : List Post) (m : Nat) :
    livePrices now (p :: t) m =
      if (p.market == m && live now p) = true then p.price :: livePrices now t m
      else livePrices now t m := by
  unfold livePrices
  rw [filter_cons]
  cases p.market == m
  · rfl
  · rw [if_pos rfl, filter_cons]; cases live now p <;> rfl

theorem livePrices_filter_live (now : Int) (raw : List Post) (m : Nat) :
    livePrices now (raw.filter (live now)) m = livePrices now raw m := by
  unfold livePrices
  rw [filter_filter, filter_filter, filter_filter]
  congr 1
  apply filter_congr
  intro p _
  cases live now p <;> cases p.market == m <;> rfl

/-- the fold of the all-markets routine, from any accumulator: at `m` it appends the live prices of `m`
    when `m` is active and nothing otherwise -/
theorem collect_aux (now : Int) (act : List Nat) (raw : List Post) (acc : Nat → List Int) (m : Nat) :
    (raw.foldl (fun acc p =>
      if !act.contains p.market then acc
      else if live now p then updO acc p.market (acc p.market ++ [p.price])
      else acc) acc) m
    = acc m ++ (if act.contains m then livePrices now raw m else []) := by
  induction raw generalizing acc with
  | nil => simp only [foldl_nil, livePrices_nil, ite_self, append_nil]
  | cons p t ih =>
    rw [foldl_cons, ih, livePrices_cons]
    cases hl : live now p
    · simp only [Bool.and_false, Bool.false_eq_true, ite_false, ite_self]
    · by_cases hm : p.market = m
      · subst hm
        cases hc : act.contains p.market
        · simp only [Bool.not_false, ite_true, Bool.false_eq_true, ite_false]
        · simp only [Bool.not_true, Bool.false_eq_true, ite_false, ite_true, updO, beq_self_eq_true,
            Bool.and_self, append_assoc, singleton_append]
      · have hb : (p.market == m) = false := beq_false_of_ne hm
        have : (if !act.contains p.market then acc else updO acc p.market (acc p.market ++ [p.price])) m
            = acc m := by
          split
          · rfl
          · exact if_neg fun e => hm e.symm
        simp only [ite_true, this, hb, Bool.false_and, Bool.false_eq_true, ite_false]

theorem collect_eq (now : Int) (act : List Nat) (raw : List Post) (m : Nat) :
    collect now act raw m = if act.contains m then livePrices now raw m else [] := by
  unfold collect
  rw [collect_aux]; simp only [List.nil_append]

theorem storeAll_eq (byId : Nat → List Int) (act : List Nat) (cur : Nat → Option Int) (m : Nat) :
    storeAll byId act cur m = if m ∈ act then some (aggregate (byId m)) else cur m := by
  unfold storeAll
  induction act generalizing cur with
  | nil => exact (if_neg not_mem_nil).symm
  | cons a t ih =>
    rw [foldl_cons, ih]
    by_cases h : m ∈ t
    · rw [if_pos h, if_pos (mem_cons_of_mem _ h)]
    · rw [if_neg h, updO]
      by_cases e : m = a
      · subst e; rw [if_pos rfl, if_pos mem_cons_self]
      · rw [if_neg e, if_neg fun hm => (mem_cons.1 hm).elim e h]

theorem setAll_cur (now : Int) (ms : List MarketP) (s : St) (m : Nat) :
    (setAll now ms s).cur m =
      if m ∈ activeIds ms then some (aggregate (livePrices now s.raw m)) else s.cur m := by
  unfold setAll
  simp only
  rw [storeAll_eq, collect_eq]
  by_cases h : m ∈ activeIds ms
  · rw [if_pos h, if_pos h, if_pos (List.contains_iff_mem.2 h)]
  · rw [if_neg h, if_neg h]

theorem setAll_raw (now : Int) (ms : List MarketP) (s : St) : (setAll now ms s).raw = s.raw := rfl

theorem findMarket_of_active {ms : List MarketP} {m : Nat} (h : m ∈ activeIds ms) :
    ∃ mk, findMarket ms m = some mk := by
  obtain ⟨mk, hmk, rfl⟩ := List.mem_map.1 h
  exact Option.isSome_iff_exists.1 (find?_isSome.2 ⟨mk, (mem_filter.1 hmk).1, beq_self_eq_true _⟩)

/-- a status flag tells the truth about its market -/
def Truth (price : Nat → Option Int) (f : Nat → Bool) (m : Nat) : Prop := f m = (price m).isSome

theorem updateStatus_self (price : Nat → Option Int) (f : Nat → Bool) (m : Nat) :
    Truth price (updateStatus price f m).1 m ∧ (updateStatus price f m).2 = (price m).isSome := by
  unfold updateStatus Truth
  cases h : price m <;> simp only [updO, ite_true, Option.isSome_none, Option.isSome_some, and_self]

theorem updateStatus_keeps {price : Nat → Option Int} {f : Nat → Bool} (m : Nat) {k : Nat}
    (h : Truth price f k) : Truth price (updateStatus price f m).1 k := by
  by_cases e : k = m
  · subst e; exact (updateStatus_self price f k).1
  · unfold updateStatus Truth at *
    cases hp : price m <;> simp only [updO, e, ite_false] <;> exact h

theorem beginStep_keeps {price : Nat → Option Int} {f : Nat → Bool} (cp : CP) {k : Nat}
    (h : Truth price f k) : Truth price (beginStep price f cp) k := by
  fun_cases beginStep price f cp with
  | case1 => exact updateStatus_keeps cp.spot h
  | case2 => exact updateStatus_keeps cp.liq (updateStatus_keeps cp.spot h)

theorem beginStep_sets (price : Nat → Option Int) (f : Nat → Bool) (cp : CP) :
    Truth price (beginStep price f cp) cp.spot ∧
    ((price cp.spot).isSome = true → Truth price (beginStep price f cp) cp.liq) := by
  have h1 := updateStatus_self price f cp.spot
  fun_cases beginStep price f cp with
  | case1 _ hd => exact ⟨h1.1, fun hs => by rw [h1.2, hs] at hd; cases hd⟩
  | case2 =>
    exact ⟨updateStatus_keeps cp.liq h1.1, fun _ => (updateStatus_self price _ cp.liq).1⟩

theorem beginFlags_keeps {price : Nat → Option Int} (cps : List CP) {f : Nat → Bool} {k : Nat}
    (h : Truth price f k) : Truth price (beginFlags price cps f) k := by
  unfold beginFlags
  induction cps generalizing f with
  | nil => exact h
  | cons c t ih => rw [List.foldl_cons]; exact ih (beginStep_keeps c h)

/-- after the cdp begin blocker, for every collateral type: the spot flag is truthful, and so is the
    liquidation flag whenever the spot price is available (otherwise it may be stale) -/
theorem beginFlags_truth (price : Nat → Option Int) (cps : List CP) (f : Nat → Bool) (cp : CP)
    (hcp : cp ∈ cps) :
    Truth price (beginFlags price cps f) cp.spot ∧
    ((price cp.spot).isSome = true → Truth price (beginFlags price cps f) cp.liq) := by
  induction cps generalizing f with
  | nil => simp at hcp
  | cons c t ih =>
    rcases mem_cons.1 hcp with rfl | hmem
    · have hs := beginStep_sets price f cp
      exact ⟨beginFlags_keeps t hs.1, fun h => beginFlags_keeps t (hs.2 h)⟩
    · exact ih (beginStep price f c) hmem

theorem validateCollateral_refuses {price : Nat → Option Int} {cps : List CP} (f0 : Nat → Bool)
    {cp : CP} (hcp : cp ∈ cps) (found denomOk : Bool)
    (hdown : price cp.spot = none ∨ price cp.liq = none) :
    validateCollateral (beginFlags price cps f0) found denomOk cp = .err := by
  obtain ⟨h1, h2⟩ := beginFlags_truth price cps f0 cp hcp
  unfold Truth at h1 h2
  fun_cases validateCollateral (beginFlags price cps f0) found denomOk cp with
  | case1 | case2 | case3 | case4 => rfl
  | case5 _ _ hs hl =>
    rw [Bool.not_eq_true, Bool.not_eq_false'] at hs hl
    rw [hs] at h1
    rw [hl] at h2
    rcases hdown with hd | hd
    · rw [hd] at h1; cases h1
    · rw [hd] at h2; cases h2 h1.symm

theorem ratioGate_refuses {price : Nat → Option Int} {m : Nat} (cmp0 : Bool) (cmp : Int → Bool)
    (h : price m = none) : ratioGate price m false cmp0 cmp = .err := by
  unfold ratioGate; simp only [Bool.false_eq_true, ite_false, h]

theorem ratioGate_refuses0 (price : Nat → Option Int) (m : Nat) (cz : Bool) (cmp : Int → Bool)
    (h : price m = none) : ratioGate price m cz false cmp = .err := by
  unfold ratioGate; cases cz <;> simp only [Bool.false_eq_true, ite_false, ite_true, h]

theorem loadPrices_none {price : Nat → Option Int} {mm : Nat → Option Nat} {ds : List Nat} {d : Nat}
    (hd : d ∈ ds) (h : ∀ m, mm d = some m → price m = none) : loadPrices price mm ds = none := by
  fun_induction loadPrices price mm ds with
  | case1 => cases hd
  | case2 | case3 => rfl
  | case4 a t m hmm p hp ih =>
    rcases mem_cons.1 hd with rfl | hm
    · rw [h m hmm] at hp; cases hp
    · rw [ih hm]; rfl

theorem loadPrices_some (price : Nat → Option Int) (mm : Nat → Option Nat) (ds : List Nat)
    (h : ∀ d, d ∈ ds → ∃ m p, mm d = some m ∧ price m = some p) :
    ∃ l, loadPrices price mm ds = some l := by
  induction ds with
  | nil => exact ⟨[], rfl⟩
  | cons a t ih =>
    obtain ⟨m, p, h1, h2⟩ := h a mem_cons_self
    obtain ⟨l, hl⟩ := ih (fun d hd => h d (mem_cons_of_mem _ hd))
    exact ⟨p :: l, by unfold loadPrices; simp only [h1, h2, hl, Option.map_some]⟩

end KV.PF
