/-
  Lemmas for C19 (kavadist period windows): what one call of `mintIncentivePeriods` mints for (`mints_bounds`),
  and from that what a whole history mints for one period.  Property statements live in Props/C19.lean.
-/
import KavaVerif.Model.Emissions

namespace KV.Em
open KV

theorem classify_inv {p : Period} {prev now : Int} :
    (classify p prev now = .ended → prev < p.end_ ∧ p.end_ ≤ now) ∧
    (classify p prev now = .ongoing → p.start ≤ prev ∧ now < p.end_) := by
  unfold classify
  by_cases h1 : p.end_ < prev
  · rw [if_pos h1]; exact ⟨nofun, nofun⟩
  · rw [if_neg h1]
    by_cases h2 : p.end_ > prev ∧ p.end_ ≤ now
    · rw [if_pos h2]; exact ⟨fun _ => h2, nofun⟩
    · rw [if_neg h2]
      by_cases h3 : p.start ≤ prev ∧ p.end_ > now
      · rw [if_pos h3]; exact ⟨nofun, fun _ => h3⟩
      · rw [if_neg h3]; split <;> exact ⟨nofun, nofun⟩

theorem windowStart_ge (v : Variant) (p : Period) (prev : Int) : prev ≤ windowStart v p prev := by
  cases v <;> simp only [windowStart] <;> omega

theorem windowStart_le_end (v : Variant) (p : Period) (prev : Int) (h : prev < p.end_)
    (hv : v = .current ∨ p.start ≤ p.end_) : windowStart v p prev ≤ p.end_ := by
  cases v <;> simp only [windowStart]
  · omega
  · have := hv.resolve_left nofun
    omega

theorem windowStart_fixed_ge_start (p : Period) (prev : Int) : p.start ≤ windowStart .fixed p prev := by
  simp only [windowStart]; omega

/-- what holds of a mint `m` made by `mintIncentivePeriods v now ps prev i` (`mints_bounds`); the variants differ
    in the last two fields only -/
structure MintBounds (v : Variant) (now : Int) (ps : List Period) (prev : Int) (i : Nat) (m : Mint) : Prop where
  lo_ge : prev ≤ m.lo
  hi_le : m.hi ≤ now
  hi_le_end : m.hi ≤ m.period.end_
  idx_ge : i ≤ m.idx
  secs_eq : m.secs = unix m.hi - unix m.lo
  mem : m.period ∈ ps
  lo_le_hi : v = .current ∨ m.period.start ≤ m.period.end_ → m.lo ≤ m.hi
  start_le : v = .fixed → m.period.start ≤ m.lo

theorem MintBounds.cons {v : Variant} {now : Int} {ps : List Period} {prev prev' : Int} {i : Nat} {m : Mint}
    {p : Period} (h : MintBounds v now ps prev' (i + 1) m) (hp : prev ≤ prev') : MintBounds v now (p :: ps) prev i m :=
  { h with lo_ge := Int.le_trans hp h.lo_ge, idx_ge := Nat.le_of_succ_le h.idx_ge,
           mem := List.mem_cons_of_mem _ h.mem }

theorem mints_bounds {v : Variant} {now : Int} :
    ∀ {ps : List Period} {prev : Int} {i : Nat}, prev ≤ now →
      ∀ {m}, m ∈ mintIncentivePeriods v now ps prev i → MintBounds v now ps prev i m := by
  intro ps
  induction ps with
  | nil => intro prev i _ m hm; cases hm
  | cons p ps ih =>
    intro prev i hpn m hm
    unfold mintIncentivePeriods at hm
    split at hm
    · rename_i hc
      obtain ⟨e1, e2⟩ := classify_inv.1 hc
      rcases List.mem_cons.mp hm with h | h
      · subst h
        exact ⟨windowStart_ge v p prev, e2, Int.le_refl _, Nat.le_refl _, rfl, List.mem_cons_self ..,
          windowStart_le_end v p prev e1, fun hv => hv ▸ windowStart_fixed_ge_start p prev⟩
      · exact (ih e2 h).cons (Int.le_of_lt e1)
    · rename_i hc
      obtain ⟨o1, o2⟩ := classify_inv.2 hc
      rcases List.mem_cons.mp hm with h | h
      · subst h
        exact ⟨Int.le_refl _, Int.le_refl _, Int.le_of_lt o2, Nat.le_refl _, rfl, List.mem_cons_self ..,
          fun _ => hpn, fun _ => o1⟩
      · exact (ih hpn h).cons (Int.le_refl _)
    · exact (ih hpn hm).cons (Int.le_refl _)

theorem mints_pairwise (v : Variant) (now : Int) :
    ∀ (ps : List Period) (prev : Int) (i : Nat), prev ≤ now →
      (mintIncentivePeriods v now ps prev i).Pairwise (fun a b => a.idx < b.idx) := by
  intro ps
  induction ps with
  | nil => intro prev i _; exact List.Pairwise.nil
  | cons p ps ih =>
    intro prev i hpn
    unfold mintIncentivePeriods
    split
    · rename_i hc
      have e2 := (classify_inv.1 hc).2
      exact List.pairwise_cons.mpr
        ⟨fun b hb => (mints_bounds e2 hb).idx_ge, ih p.end_ (i + 1) e2⟩
    · exact List.pairwise_cons.mpr
        ⟨fun b hb => (mints_bounds hpn hb).idx_ge, ih prev (i + 1) hpn⟩
    · exact ih prev (i + 1) hpn

theorem sortedTimes_weaken : ∀ {bs : List (Int × Bool)} {t t' : Int}, t ≤ t' → sortedTimes t' bs → sortedTimes t bs
  | [], _, _, _, _ => trivial
  | _ :: _, _, _, h, hs => ⟨Int.le_trans h hs.1, hs.2⟩

theorem lastTimeT_mono : ∀ (bs : List (Int × Bool)) {t t' : Int}, t ≤ t' → lastTimeT t bs ≤ lastTimeT t' bs
  | [], _, _, h => h
  | _ :: _, _, _, _ => Int.le_refl _

theorem secsFor_append (k : Nat) (l1 l2 : List Mint) : secsFor k (l1 ++ l2) = secsFor k l1 + secsFor k l2 := by
  induction l1 with
  | nil => simp only [List.nil_append, secsFor, Int.zero_add]
  | cons a l ih => simp only [List.cons_append, secsFor, ih, Int.add_assoc]

theorem secsFor_zero_of_gt (k : Nat) : ∀ {l : List Mint}, (∀ m ∈ l, k < m.idx) → secsFor k l = 0
  | [], _ => rfl
  | a :: l, h => by
    simp only [secsFor, Nat.ne_of_gt (h a (List.mem_cons_self ..)), ite_false, Int.zero_add]
    exact secsFor_zero_of_gt k fun m hm => h m (List.mem_cons_of_mem _ hm)

/-- strictly increasing indices: at most one mint of the list is for period `k` -/
theorem secsFor_le (k : Nat) {B : Int} (hB : 0 ≤ B) : ∀ {l : List Mint},
    l.Pairwise (fun a b => a.idx < b.idx) → (∀ m ∈ l, 0 ≤ m.secs ∧ m.secs ≤ B) →
    0 ≤ secsFor k l ∧ secsFor k l ≤ B := by
  intro l
  induction l with
  | nil => intro _ _; exact ⟨Int.le_refl _, hB⟩
  | cons a l ih =>
    intro hp hb
    obtain ⟨hp1, hp2⟩ := List.pairwise_cons.mp hp
    by_cases hk : a.idx = k
    · have hz : secsFor k l = 0 := secsFor_zero_of_gt k fun m hm => hk ▸ hp1 m hm
      simp only [secsFor, hk, ite_true, hz, Int.add_zero]
      exact hb a (List.mem_cons_self ..)
    · simp only [secsFor, hk, ite_false, Int.zero_add]
      exact ih hp2 (fun m hm => hb m (List.mem_cons_of_mem _ hm))

theorem unix_mono {a b : Int} (h : a ≤ b) : unix a ≤ unix b :=
  Int.ediv_le_ediv (by decide) h

theorem mints_secs {v : Variant} {ps : List Period} (hv : v = .current ∨ ∀ p ∈ ps, p.start ≤ p.end_) (k i : Nat)
    {prev now : Int} (h : prev ≤ now) :
    0 ≤ secsFor k (mintIncentivePeriods v now ps prev i) ∧
    secsFor k (mintIncentivePeriods v now ps prev i) ≤ unix now - unix prev := by
  refine secsFor_le k (Int.sub_nonneg.mpr (unix_mono h)) (mints_pairwise v now ps prev i h) fun m hm => ?_
  have b := mints_bounds h hm
  have u1 := unix_mono (b.lo_le_hi (hv.imp_right (· _ b.mem)))
  have u2 := unix_mono b.lo_ge
  have u3 := unix_mono b.hi_le
  have := b.secs_eq
  omega

/-- the first conjunct is what the induction needs for the second: this block's mints end by `now`, and every
    later mint starts at or after it -/
theorem kdHistory_spec (v : Variant) (ps : List Period) :
    ∀ (bs : List (Int × Bool)) (prev : Int), sortedTimes prev bs →
      (∀ m ∈ kdHistory v ps prev bs, prev ≤ m.lo) ∧
      (kdHistory v ps prev bs).Pairwise (fun a b => a.idx = b.idx → a.hi ≤ b.lo) ∧
      ((v = .current ∨ ∀ p ∈ ps, p.start ≤ p.end_) → ∀ k,
        0 ≤ secsFor k (kdHistory v ps prev bs) ∧
        secsFor k (kdHistory v ps prev bs) ≤ unix (lastTimeT prev bs) - unix prev) := by
  intro bs
  induction bs with
  | nil =>
    intro prev _
    simp only [kdHistory, secsFor, lastTimeT, Int.sub_self, Int.le_refl, and_self, implies_true,
      List.not_mem_nil, false_implies, List.Pairwise.nil]
  | cons b bs ih =>
    obtain ⟨now, active⟩ := b
    intro prev ⟨h1, h2⟩
    unfold kdHistory
    simp only [lastTimeT]
    split
    · obtain ⟨lo, pw, secs⟩ := ih now h2
      refine ⟨fun m hm => ?_, List.pairwise_append.mpr ⟨?_, pw, fun a ha b hb _ => ?_⟩, fun hv k => ?_⟩
      · rcases List.mem_append.mp hm with h | h
        · exact (mints_bounds h1 h).lo_ge
        · exact Int.le_trans h1 (lo m h)
      · exact (mints_pairwise v now ps prev 0 h1).imp (fun hlt he => absurd he (Nat.ne_of_lt hlt))
      · exact Int.le_trans (mints_bounds h1 ha).hi_le (lo b hb)
      · have := mints_secs hv k 0 h1
        have := secs hv k
        rw [secsFor_append]
        omega
    · -- an inactive block leaves the stored previous block time alone
      obtain ⟨lo, pw, secs⟩ := ih prev (sortedTimes_weaken h1 h2)
      refine ⟨lo, pw, fun hv k => ?_⟩
      have := secs hv k
      have := unix_mono (lastTimeT_mono bs h1)
      omega
end KV.Em
