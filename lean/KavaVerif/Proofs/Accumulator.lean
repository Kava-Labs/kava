/-
  Lemmas for C09 (model: KavaVerif/Model/Accumulator.lean), part 1: arithmetic of one index increment and one
  synchronisation, the accrual window, and each single operation as an equation (`accumulate_eq`, `sync_eq`,
  `change_eq`, `claim_eq`); the three user operations all end in `settle`.  Histories are in
  Proofs/AccumulatorHist.lean.
-/
import KavaVerif.Model.Accumulator
import Mathlib.Tactic.Linarith
import Mathlib.Tactic.Ring
import Mathlib.Tactic.NormNum
import Mathlib.Tactic.Positivity
namespace KV.Acc
open KV

theorem P_pos : (0:Int) < P := by decide
theorem P_val : P = 1000000000000000000 := by decide
theorem H_val : H = 500000000000000000 := by decide

theorem chopRound_bound (d : Int) : 2 * (chopRound d * P - d) ≤ P ∧ 2 * (d - chopRound d * P) ≤ P := by
  unfold chopRound
  split
  · have := chopRoundNonneg_bound (-d) (by omega)
    rw [Int.neg_mul]; omega
  · exact chopRoundNonneg_bound d (by omega)

theorem chopRound_zero : chopRound 0 = 0 := by decide

/-- two half-even roundings in a row (`Dec.mul`, then `RoundInt`): together at most (P²+P)/2 in units 10^-36 -/
theorem chopRound2_bound (d : Int) :
    2 * (chopRound (chopRound d) * P * P - d) ≤ P * P + P ∧ 2 * (d - chopRound (chopRound d) * P * P) ≤ P * P + P := by
  obtain ⟨a1, a2⟩ := chopRound_bound d
  generalize chopRound d = y at *
  obtain ⟨b1, b2⟩ := chopRound_bound y
  generalize chopRound y = x at *
  have c1 := Int.mul_le_mul_of_nonneg_right b1 (Int.le_of_lt P_pos)
  have c2 := Int.mul_le_mul_of_nonneg_right b2 (Int.le_of_lt P_pos)
  exact ⟨by linarith only [a1, c1], by linarith only [a2, c2]⟩

/-- `rate.Mul(NewDec(secs))` is exact -/
theorem mul_ofInt (rate secs : Int) : (Dec.mul ⟨rate⟩ (Dec.ofInt secs)).m = rate * secs := by
  unfold Dec.mul Dec.ofInt
  simp only []
  rw [← Int.mul_assoc]
  exact chopRound_mul_P _

theorem indexIncrement_zero {rate T secs : Int} (h : ¬ (0 < T ∧ 0 < secs)) : indexIncrement rate T secs = 0 := by
  unfold indexIncrement
  split
  · rfl
  · rw [if_pos (by omega)]

theorem indexIncrement_eq {rate T secs : Int} (hr : 0 ≤ rate) (hT : 0 < T) (hs : 0 < secs) :
    indexIncrement rate T secs = chopRound (rate * secs * P * P / T) := by
  unfold indexIncrement Dec.quo
  rw [if_neg (by omega), if_neg (by omega), mul_ofInt, tquo_nonneg_eq _ _ _ (Int.le_of_lt hT)]
  have := P_pos; positivity

theorem indexIncrement_nonneg (rate T secs : Int) (hr : 0 ≤ rate) : 0 ≤ indexIncrement rate T secs := by
  by_cases h : 0 < T ∧ 0 < secs
  · rw [indexIncrement_eq hr h.1 h.2]
    apply chopRound_nonneg
    apply Int.ediv_nonneg _ (by omega)
    have := P_pos; have := h.2
    positivity
  · rw [indexIncrement_zero h]

/-- the index increment of one block against the exact emission per share `rate·secs·P / T`, both sides:
    the floor loses less than one unit of 10^-36, the chop at most half a unit of 10^-18 -/
theorem indexIncrement_bound {rate T secs : Int} (hr : 0 ≤ rate) (hT : 0 < T) (hs : 0 < secs) :
    2 * indexIncrement rate T secs * T ≤ 2 * (rate * secs * P) + T ∧
    2 * (rate * secs * P) * P ≤ 2 * indexIncrement rate T secs * P * T + (P + 2) * T := by
  rw [indexIncrement_eq hr hT hs]
  generalize rate * secs * P = M
  have hP := P_pos
  have hq1 : M * P / T * T ≤ M * P := Int.ediv_mul_le _ (by omega)
  have hq2 := Int.lt_ediv_add_one_mul_self (M * P) hT
  obtain ⟨b1, b2⟩ := chopRound_bound (M * P / T)
  generalize M * P / T = q at *
  generalize chopRound q = c at *
  have c1 := Int.mul_le_mul_of_nonneg_right b1 (Int.le_of_lt hT)
  have c2 := Int.mul_le_mul_of_nonneg_right b2 (Int.le_of_lt hT)
  constructor
  · have h : (2 * c * T) * P ≤ (2 * M + T) * P := by linarith only [c1, hq1]
    exact Int.le_of_mul_le_mul_right h hP
  · linarith only [c2, hq2]

/-- one user's part of a block's increment against the floored exact share `⌊rate·secs·P·s / T⌋` (units 10^-36) -/
theorem increment_share_bound {rate T secs s : Int} (hr : 0 ≤ rate) (hT : 0 < T) (hs : 0 < secs) (hs0 : 0 ≤ s) :
    -((P + 2) * s) ≤ 2 * P * (indexIncrement rate T secs * s - rate * secs * P * s / T) ∧
    2 * (indexIncrement rate T secs * s - rate * secs * P * s / T) ≤ s + 1 := by
  obtain ⟨u, l⟩ := indexIncrement_bound hr hT hs
  generalize indexIncrement rate T secs = c at *
  generalize rate * secs * P = M at *
  have f1 : M * s / T * T ≤ M * s := Int.ediv_mul_le _ (by omega)
  have f2 := Int.lt_ediv_add_one_mul_self (M * s) hT
  generalize M * s / T = F at *
  have us := Int.mul_le_mul_of_nonneg_right u hs0
  have ls := Int.mul_le_mul_of_nonneg_right l hs0
  constructor
  · have f1P := Int.mul_le_mul_of_nonneg_left f1 (Int.le_of_lt (Int.mul_pos (by decide : (0:Int) < 2) P_pos))
    have h : -((P + 2) * s) * T ≤ 2 * P * (c * s - F) * T := by linarith only [ls, f1P]
    exact Int.le_of_mul_le_mul_right h hT
  · have h : 2 * (c * s - F) * T < (s + 2) * T := by linarith only [us, f2]
    have := Int.lt_of_mul_lt_mul_right h (Int.le_of_lt hT)
    omega

theorem singleReward_eq (old new s : Int) :
    singleReward old new s = if old ≤ new then some (chopRound (chopRound ((new - old) * s))) else none := by
  unfold singleReward
  by_cases h : old ≤ new
  · rw [if_neg (by omega), if_pos h]; rfl
  · rw [if_pos (by omega), if_neg h]

theorem singleReward_zero_shares (old new : Int) (h : old ≤ new) : singleReward old new 0 = some 0 := by
  rw [singleReward_eq, if_pos h, Int.mul_zero]; rfl

theorem singleReward_same (I s : Int) : singleReward I I s = some 0 := by
  rw [singleReward_eq, if_pos (Int.le_refl I), Int.sub_self, Int.zero_mul]; rfl

/-- a time clipped into the reward period -/
def clip (p : Period) (t : Int) : Int := min (max t p.start) p.stop

theorem clip_of_le (p : Period) (t : Int) (h : t ≤ p.start) (h2 : p.start ≤ p.stop) : clip p t = p.start := by
  unfold clip; rw [Int.max_eq_right h, Int.min_eq_left h2]

theorem clip_of_ge (p : Period) (t : Int) (h : p.stop ≤ t) : clip p t = p.stop :=
  Int.min_eq_right (Int.le_trans h (Int.le_max_left ..))

theorem clip_mono (p : Period) (a b : Int) (h : a ≤ b) : clip p a ≤ clip p b := by
  unfold clip; omega

theorem clip_range (p : Period) (t : Int) (h : p.start ≤ p.stop) : p.start ≤ clip p t ∧ clip p t ≤ p.stop := by
  unfold clip; omega

theorem clip_min_stop (p : Period) (t : Int) : clip p (min p.stop t) = clip p t := by
  rcases Int.le_total t p.stop with h' | h'
  · rw [Int.min_eq_right h']
  · rw [Int.min_eq_left h', clip_of_ge p t h', clip_of_ge p p.stop (Int.le_refl _)]

theorem clip_outside {p : Period} {prev now : Int} (h1 : prev ≤ now) (h2 : p.start ≤ p.stop)
    (h : now ≤ p.start ∨ p.stop ≤ prev) : clip p now = clip p prev := by
  rcases h with h | h
  · rw [clip_of_le p now h h2, clip_of_le p prev (by omega) h2]
  · rw [clip_of_ge p now (by omega), clip_of_ge p prev h]

/-- `getTimeElapsedWithinLimits` is the length of `[clip prev, clip now]` (unless `time.Sub` saturates) -/
theorem elapsed_eq {p : Period} {prev now : Int} (h1 : prev ≤ now) (h2 : p.start ≤ p.stop)
    (h3 : p.stop - p.start ≤ maxDur) :
    elapsed prev now p.start p.stop = some (clip p now - clip p prev) := by
  fun_cases elapsed prev now p.start p.stop with
  | case1 h | case2 _ h => omega
  | case3 _ _ h => rw [clip_outside h1 h2 (by omega), Int.sub_self]
  | case4 _ _ h d =>
    have := Int.min_le_right now p.stop
    have := Int.le_max_right prev p.start
    unfold clip
    rw [if_neg (by omega), Int.max_eq_left (by omega), Int.min_eq_left (Int.max_le.mpr ⟨by omega, h2⟩)]

theorem goSeconds_zero : goSeconds 0 = 0 := by decide

theorem goSeconds_nonneg (d : Int) (h : 0 ≤ d) : 0 ≤ goSeconds d := by
  unfold goSeconds
  rw [if_neg (by omega)]
  exact Int.natCast_nonneg _

theorem goSeconds_whole (k : Int) (h : 0 ≤ k) : goSeconds (k * NS) = k := by
  unfold goSeconds
  rw [if_neg (by have := Int.mul_nonneg h (by decide : 0 ≤ NS); omega),
    Int.mul_ediv_cancel _ (by decide : NS ≠ 0), Int.mul_emod_left]
  unfold roundSecs
  rw [Int.toNat_zero, if_pos rfl]
  exact Int.toNat_of_nonneg h

/-- whole seconds counted by an accumulation at `now` (0 when the call panics) -/
def accSecs (p : Period) (σ : St) (now : Int) : Int :=
  match elapsed σ.prev now p.start p.stop with
  | some d => goSeconds d
  | none => 0

theorem accumulate_eq (p : Period) (σ : St) (now : Int) :
    accumulate p σ now = if σ.prev ≤ now ∧ p.start ≤ p.stop then
      .ok { σ with I := σ.I + indexIncrement p.rate σ.T (accSecs p σ now), prev := min p.stop now } else .panic := by
  unfold accumulate accSecs
  fun_cases elapsed σ.prev now p.start p.stop with
  | case1 h | case2 _ h => rw [if_neg (by omega)]
  | case3 h1 h2 | case4 h1 h2 => rw [if_pos (And.intro (Int.not_lt.mp h1) (Int.not_lt.mp h2))]

theorem upd_self (f : Addr → User) (a : Addr) (v : User) : upd f a v a = v := if_pos rfl

theorem upd_ne {f : Addr → User} {a : Addr} {v : User} {y : Addr} (h : y ≠ a) : upd f a v y = f y := if_neg h

theorem upd_upd (f : Addr → User) (a : Addr) (v w : User) : upd (upd f a v) a w = upd f a w := by
  funext y; unfold upd; split <;> rfl

/-- What a successful `sync`, `change` or `claim` of `a` does: credit the pending reward, store the global
    index, set the shares to `s'` (and the total with them), take `c` out of the accrued reward. -/
def settle (σ : St) (a : Addr) (s' c : Int) : St :=
  { σ with T := σ.T - (σ.u a).s + s', u := upd σ.u a ⟨s', σ.I, (σ.u a).r + pending σ a - c⟩ }

theorem settle_u_self (σ : St) (a : Addr) (s' c : Int) :
    (settle σ a s' c).u a = ⟨s', σ.I, (σ.u a).r + pending σ a - c⟩ := upd_self ..

theorem settle_u_ne {σ : St} {a : Addr} {s' c : Int} {y : Addr} (h : y ≠ a) : (settle σ a s' c).u y = σ.u y :=
  upd_ne h

theorem pending_eq {σ : St} {a : Addr} (h : (σ.u a).i ≤ σ.I) :
    pending σ a = chopRound (chopRound ((σ.I - (σ.u a).i) * (σ.u a).s)) := by
  unfold pending; rw [singleReward_eq, if_pos h]; rfl

theorem pending_same {σ : St} {a : Addr} (h : (σ.u a).i = σ.I) : pending σ a = 0 := by
  unfold pending; rw [h, singleReward_same]; rfl

theorem pending_settle (σ : St) (a : Addr) (s' c : Int) : pending (settle σ a s' c) a = 0 :=
  pending_same (by rw [settle_u_self]; rfl)

theorem pending_settle_ne {σ : St} {a : Addr} {s' c : Int} {y : Addr} (h : y ≠ a) :
    pending (settle σ a s' c) y = pending σ y := by
  simp only [pending, settle, upd_ne h]

theorem sync_eq (σ : St) (a : Addr) :
    sync σ a = if (σ.u a).i ≤ σ.I then .ok (settle σ a (σ.u a).s 0) else .panic := by
  unfold sync syncWith settle pending
  rw [singleReward_eq]
  by_cases h : (σ.u a).i ≤ σ.I
  · simp only [if_pos h, Option.getD_some, Int.sub_add_cancel, Int.sub_zero]
  · simp only [if_neg h]

theorem ite_err_eq_ok {α : Type} {c : Prop} [Decidable c] {x : Res α} {v : α} :
    (if c then .err else x) = .ok v ↔ ¬c ∧ x = .ok v := by
  by_cases h : c <;> simp [h]

theorem ite_panic_eq_ok {α : Type} {c : Prop} [Decidable c] {x : Res α} {v : α} :
    (if c then x else .panic) = .ok v ↔ c ∧ x = .ok v := by
  by_cases h : c <;> simp [h]

theorem sync_ok {σ σ' : St} {a : Addr} (h : sync σ a = .ok σ') :
    (σ.u a).i ≤ σ.I ∧ σ' = settle σ a (σ.u a).s 0 := by
  simp only [sync_eq, ite_panic_eq_ok, Res.ok.injEq] at h
  exact ⟨h.1, h.2.symm⟩

theorem change_eq (σ : St) (a : Addr) (s' : Int) :
    change σ a s' = if (σ.u a).i ≤ σ.I then .ok (settle σ a s' 0) else .panic := by
  unfold change
  rw [sync_eq]
  by_cases h : (σ.u a).i ≤ σ.I
  · simp only [if_pos h, write, settle, upd_self, upd_upd, Int.sub_add_cancel]
  · simp only [if_neg h]

theorem change_ok {σ σ' : St} {a : Addr} {s' : Int} (h : change σ a s' = .ok σ') :
    (σ.u a).i ≤ σ.I ∧ σ' = settle σ a s' 0 := by
  simp only [change_eq, ite_panic_eq_ok, Res.ok.injEq] at h
  exact ⟨h.1, h.2.symm⟩

theorem claim_eq (σ : St) (a : Addr) (f now ce macc : Int) :
    claim σ a f now ce macc =
      if now > ce then .err
      else if (σ.u a).i ≤ σ.I then
        let amt := (σ.u a).r + pending σ a
        let pay := Dec.roundInt (Dec.mul (Dec.ofInt amt) ⟨f⟩)
        if pay = 0 then .err else if macc < pay then .err else .ok (settle σ a (σ.u a).s amt, pay)
      else .panic := by
  unfold claim
  rw [sync_eq]
  by_cases h : (σ.u a).i ≤ σ.I
  · simp only [if_pos h, settle, upd_self, upd_upd, Int.sub_zero, Int.sub_self]
  · simp only [if_neg h]

structure ClaimOk (σ σ' : St) (a : Addr) (f now ce macc pay : Int) : Prop where
  intime : now ≤ ce
  idx : (σ.u a).i ≤ σ.I
  pay_eq : pay = Dec.roundInt (Dec.mul (Dec.ofInt ((σ.u a).r + pending σ a)) ⟨f⟩)
  pay_ne : pay ≠ 0
  pay_le : pay ≤ macc
  state : σ' = settle σ a (σ.u a).s ((σ.u a).r + pending σ a)

theorem claim_ok {σ σ' : St} {a : Addr} {f now ce macc pay : Int} (h : claim σ a f now ce macc = .ok (σ', pay)) :
    ClaimOk σ σ' a f now ce macc pay := by
  simp only [claim_eq, ite_err_eq_ok, ite_panic_eq_ok, Res.ok.injEq, Prod.mk.injEq] at h
  obtain ⟨h1, h2, h3, h4, rfl, rfl⟩ := h
  exact ⟨by omega, h2, rfl, h3, by omega, rfl⟩

theorem roundInt_mul_zero (f : Int) : Dec.roundInt (Dec.mul (Dec.ofInt 0) ⟨f⟩) = 0 := by
  simp only [Dec.roundInt, Dec.mul, Dec.ofInt, Int.zero_mul]
  decide

theorem claim_nothing (σ : St) (a : Addr) (f now ce macc : Int) (hr : (σ.u a).r = 0) (hi : (σ.u a).i = σ.I) :
    claim σ a f now ce macc = .err := by
  rw [claim_eq, pending_same hi, hr, if_pos (Int.le_of_eq hi)]
  split
  · rfl
  · simp only [Int.add_zero, roundInt_mul_zero, if_pos]

theorem syncAllFrom_ok {xs : List Inst} {r r' : Int} {ys : List Inst} (h : syncAllFrom r xs = .ok (r', ys)) :
    r' = r + pendingSum xs ∧ ys = xs.map Inst.synced := by
  fun_induction syncAllFrom r xs generalizing r' ys with
  | case1 r => cases h; exact ⟨(Int.add_zero r).symm, rfl⟩
  | case2 | case4 | case5 => cases h
  | case3 r x xs d hd r1 zs hr ih =>
    cases h
    obtain ⟨rfl, rfl⟩ := ih hr
    have : x.pending = d := by unfold Inst.pending; rw [hd]; rfl
    exact ⟨by rw [pendingSum, this, Int.add_assoc], rfl⟩

theorem Inst.pending_synced (x : Inst) : x.synced.pending = 0 := by
  unfold Inst.pending Inst.synced; rw [singleReward_same]; rfl

theorem syncAllFrom_synced (xs : List Inst) (r : Int) :
    syncAllFrom r (xs.map Inst.synced) = .ok (r, xs.map Inst.synced) := by
  induction xs with
  | nil => rfl
  | cons x xs ih =>
    have : singleReward x.synced.i x.synced.I x.synced.s = some 0 := singleReward_same _ _
    simp only [List.map_cons, syncAllFrom, this, Int.add_zero, ih]
    rfl

theorem pendingSum_synced (xs : List Inst) : pendingSum (xs.map Inst.synced) = 0 := by
  induction xs with
  | nil => rfl
  | cons x xs ih => simp only [List.map_cons, pendingSum, Inst.pending_synced, ih, Int.add_zero]

theorem mclaim_ok {c c' : MClaim} {f now ce macc pay : Int} (h : mclaim c f now ce macc = .ok (c', pay)) :
    now ≤ ce ∧ pay = Dec.roundInt (Dec.mul (Dec.ofInt (c.r + pendingSum c.xs)) ⟨f⟩) ∧ pay ≠ 0 ∧ pay ≤ macc ∧
      c' = ⟨0, c.xs.map Inst.synced⟩ := by
  revert h
  fun_cases mclaim c f now ce macc with
  | case1 | case2 | case3 | case4 | case5 => exact nofun
  | case6 hle amt ys hs q h0 hm =>
    obtain ⟨rfl, rfl⟩ := syncAllFrom_ok hs
    intro h
    -- the payout `q` is a `let` of `mclaim`, a local definition here, which `cases h` cannot eliminate
    obtain ⟨rfl, rfl⟩ := Prod.mk.inj (Res.ok.inj h)
    exact ⟨by omega, rfl, h0, by omega, rfl⟩

theorem mclaim_synced (xs : List Inst) (f now ce macc : Int) :
    mclaim ⟨0, xs.map Inst.synced⟩ f now ce macc = .err := by
  unfold mclaim
  split
  · rfl
  · simp only [syncAllFrom_synced, roundInt_mul_zero, if_pos]

end KV.Acc
