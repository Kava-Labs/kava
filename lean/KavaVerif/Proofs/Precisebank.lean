/-
  x/precisebank (C03): effect lemmas for the conditional bank steps, the borrow/carry arithmetic of
  `subFrac`/`addFrac`, and from them the net effect of `sendExtendedCoins`, `mintExtendedCoin` and
  `burnExtendedCoin` together with preservation of the invariant. All three operations move `x % C` between two of
  {a fractional balance, another fractional balance, the remainder}; the reserve absorbs borrow minus carry.
  Core Lean only.
-/
import KavaVerif.Model.Precisebank

namespace KV.PB

theorem upd_same (f : Addr → Int) (a : Addr) (v : Int) : upd f a v a = v := if_pos rfl
theorem upd_ne {f : Addr → Int} {a x : Addr} {v : Int} (h : x ≠ a) : upd f a v x = f x := if_neg h

def sumOver (l : List Addr) (f : Addr → Int) : Int := (l.map f).foldr (· + ·) 0

theorem sumOver_cons (x : Addr) (xs : List Addr) (f : Addr → Int) :
    sumOver (x :: xs) f = f x + sumOver xs f := rfl

theorem sumOver_upd_notin {l : List Addr} {f : Addr → Int} {a : Addr} {v : Int} (h : a ∉ l) :
    sumOver l (upd f a v) = sumOver l f := by
  induction l with
  | nil => rfl
  | cons x xs ih =>
    have hx : x ≠ a := fun e => h (e ▸ List.mem_cons_self ..)
    rw [sumOver_cons, sumOver_cons, upd_ne hx, ih fun m => h (List.mem_cons_of_mem _ m)]

theorem sumOver_upd {l : List Addr} (f : Addr → Int) {a : Addr} (v : Int) (hn : l.Nodup) (h : a ∈ l) :
    sumOver l (upd f a v) = sumOver l f - f a + v := by
  induction l with
  | nil => cases h
  | cons x xs ih =>
    have hnd := List.nodup_cons.mp hn
    rw [sumOver_cons, sumOver_cons]
    by_cases hx : x = a
    · subst hx
      rw [upd_same, sumOver_upd_notin hnd.1]; omega
    · rw [upd_ne hx, ih hnd.2 ((List.mem_cons.mp h).resolve_left fun e => hx e.symm)]; omega

theorem sumOver_nonneg (l : List Addr) (f : Addr → Int) (h : ∀ a, 0 ≤ f a) : 0 ≤ sumOver l f := by
  induction l with
  | nil => exact Int.le_refl 0
  | cons x xs ih => rw [sumOver_cons]; have := h x; omega

theorem sumOver_ge_two {l : List Addr} {f : Addr → Int} (h : ∀ a, 0 ≤ f a) (hn : l.Nodup)
    {a b : Addr} (hab : a ≠ b) (ha : a ∈ l) (hb : b ∈ l) : f a + f b ≤ sumOver l f := by
  -- zero the two entries: what is left of the sum is still non-negative
  have h1 := sumOver_upd f 0 hn ha
  have h2 := sumOver_upd (upd f a 0) 0 hn hb
  rw [upd_ne hab.symm] at h2
  have h3 := sumOver_nonneg l (upd (upd f a 0) b 0) fun x => by
    unfold upd; have := h x; omega
  omega

/-- The state invariant of the property: fractional balances and remainder in range and the
    reserve's ukava backing exactly the fractions plus the remainder. `accts` lists (without
    duplicates) every address that may hold a fractional balance. -/
def Inv (accts : List Addr) (R : Addr) (s : St) : Prop :=
  (∀ a, 0 ≤ s.frac a ∧ s.frac a < C) ∧ 0 ≤ s.rem ∧ s.rem < C ∧
  s.bal R * C = sumOver accts s.frac + s.rem

theorem C_pos : (0:Int) < C := by decide
theorem C_val : C = 1000000000000 := by decide

theorem emod_C_range (x : Int) : 0 ≤ x % C ∧ x % C < C :=
  ⟨Int.emod_nonneg x (Int.ne_of_gt C_pos), Int.emod_lt_of_pos x C_pos⟩

theorem Inv.of_eq {accts : List Addr} {R : Addr} {s s' : St} (h : Inv accts R s)
    (hf : s'.frac = s.frac) (hr : s'.rem = s.rem) (hb : s'.bal R = s.bal R) : Inv accts R s' := by
  unfold Inv; rw [hf, hr, hb]; exact h

theorem Inv.of_upd {accts : List Addr} {R : Addr} {s s' : St} (h : Inv accts R s) (hn : accts.Nodup)
    {m : Addr} (hm : m ∈ accts) {v : Int} (hf : s'.frac = upd s.frac m v) (hv : 0 ≤ v ∧ v < C)
    (hr : 0 ≤ s'.rem ∧ s'.rem < C)
    (hb : s'.bal R * C = s.bal R * C + (v - s.frac m) + (s'.rem - s.rem)) : Inv accts R s' := by
  obtain ⟨hfr, -, -, hres⟩ := h
  refine ⟨fun a => ?_, hr.1, hr.2, ?_⟩
  · rw [hf]; unfold upd
    split
    · exact hv
    · exact hfr a
  · rw [hf, sumOver_upd _ _ hn hm, hb]; omega

theorem sendIf_ok {c : Prop} [Decidable c] {s s' : St} {a b : Addr} {n : Int}
    (h : sendIf c s a b n = some s') :
    s'.frac = s.frac ∧ s'.rem = s.rem ∧ s'.supply = s.supply ∧ s'.locked = s.locked ∧
    ∀ r, s'.bal r = s.bal r - (if c ∧ r = a then n else 0) + (if c ∧ r = b then n else 0) := by
  revert h
  fun_cases sendIf c s a b n
  · rename_i hc
    fun_cases bankSend s a b n <;> intro h <;> cases h
    rename_i _ b1
    refine ⟨rfl, rfl, rfl, rfl, fun r => ?_⟩
    simp only [hc, true_and, upd, b1]
    rcases Decidable.em (r = b) with rfl | h2 <;> rcases Decidable.em (r = a) with rfl | h1 <;>
      simp only [*, if_true, if_false] <;> omega
  · rename_i hc
    intro h; cases h
    simp [hc]

theorem sendIf_isSome {c : Prop} [Decidable c] {s : St} {a b : Addr} {n : Int} :
    (∃ s', sendIf c s a b n = some s') ↔ (c → s.locked a ≤ s.bal a ∧ n ≤ s.bal a - s.locked a) := by
  unfold sendIf bankSend
  by_cases hc : c
  · simp only [hc, if_true, true_imp_iff]
    split <;> simp <;> omega
  · simp [hc]

theorem sendIf_twice_isSome {c1 c2 : Prop} [Decidable c1] [Decidable c2] {s : St} {a b1 b2 : Addr} {n1 n2 : Int}
    (hab : a ≠ b1) (hlock : s.locked a ≤ s.bal a) (h2 : 0 ≤ n2) :
    (∃ s1 s2, sendIf c1 s a b1 n1 = some s1 ∧ sendIf c2 s1 a b2 n2 = some s2) ↔
      (if c1 then n1 else 0) + (if c2 then n2 else 0) ≤ s.bal a - s.locked a := by
  -- the second debit is checked against what the first has left
  have after {s1} (e1 : sendIf c1 s a b1 n1 = some s1) :
      s1.locked a = s.locked a ∧ s1.bal a = s.bal a - (if c1 then n1 else 0) := by
    obtain ⟨-, -, -, l1, b1⟩ := sendIf_ok e1
    rw [l1, b1]
    simp only [hab, and_false, and_true, if_false, Int.add_zero]
  constructor
  · rintro ⟨s1, s2, e1, e2⟩
    have g1 := sendIf_isSome.mp ⟨s1, e1⟩
    have g2 := sendIf_isSome.mp ⟨s2, e2⟩
    rw [(after e1).1, (after e1).2] at g2
    by_cases hc1 : c1 <;> by_cases hc2 : c2 <;>
      simp only [hc1, hc2, if_true, if_false, true_imp_iff, false_imp_iff] at g1 g2 ⊢ <;> omega
  · intro h
    obtain ⟨s1, e1⟩ : ∃ s1, sendIf c1 s a b1 n1 = some s1 :=
      sendIf_isSome.mpr fun hc1 => by rw [if_pos hc1] at h; omega
    obtain ⟨s2, e2⟩ : ∃ s2, sendIf c2 s1 a b2 n2 = some s2 :=
      sendIf_isSome.mpr fun hc2 => by rw [(after e1).1, (after e1).2]; rw [if_pos hc2] at h; omega
    exact ⟨s1, s2, e1, e2⟩

@[simp] theorem mintIf_frac (c : Prop) [Decidable c] (s : St) (a : Addr) (n : Int) :
    (mintIf c s a n).frac = s.frac := by unfold mintIf bankMint; split <;> rfl
@[simp] theorem mintIf_rem (c : Prop) [Decidable c] (s : St) (a : Addr) (n : Int) :
    (mintIf c s a n).rem = s.rem := by unfold mintIf bankMint; split <;> rfl
@[simp] theorem mintIf_locked (c : Prop) [Decidable c] (s : St) (a : Addr) (n : Int) :
    (mintIf c s a n).locked = s.locked := by unfold mintIf bankMint; split <;> rfl
theorem mintIf_supply (c : Prop) [Decidable c] (s : St) (a : Addr) (n : Int) :
    (mintIf c s a n).supply = s.supply + (if c then n else 0) := by
  unfold mintIf bankMint; split <;> simp
theorem mintIf_bal (c : Prop) [Decidable c] (s : St) (a r : Addr) (n : Int) :
    (mintIf c s a n).bal r = s.bal r + (if c ∧ r = a then n else 0) := by
  unfold mintIf bankMint upd
  by_cases hc : c <;> by_cases hr : r = a <;> simp [hc, hr]

theorem burnIf_ok {c : Prop} [Decidable c] {s s' : St} {a : Addr} {n : Int}
    (h : burnIf c s a n = some s') :
    s'.frac = s.frac ∧ s'.rem = s.rem ∧ s'.supply = s.supply - (if c then n else 0) ∧
    ∀ r, s'.bal r = s.bal r - (if c ∧ r = a then n else 0) := by
  revert h
  fun_cases burnIf c s a n
  · rename_i hc
    fun_cases bankBurn s a n <;> intro h <;> cases h
    refine ⟨rfl, rfl, by rw [if_pos hc], fun r => ?_⟩
    simp only [hc, true_and, upd]
    split
    · next h => rw [h]
    · omega
  · rename_i hc
    intro h; cases h
    simp [hc]

/-- the ukava `subFrac` borrows and `addFrac` carries, as 0/1 -/
def borrow (cur amt : Int) : Int := if cur - amt < 0 then 1 else 0
def carry (cur amt : Int) : Int := if cur + amt ≥ C then 1 else 0

theorem subFrac_eq (cur amt : Int) : subFrac cur amt = cur - amt + borrow cur amt * C := by
  unfold subFrac borrow; split <;> omega

theorem addFrac_eq (cur amt : Int) : addFrac cur amt = cur + amt - carry cur amt * C := by
  unfold addFrac carry; split <;> omega

theorem subFrac_emod (cur x : Int) : subFrac cur (x % C) = cur - x + (x / C + borrow cur (x % C)) * C := by
  have := Int.ediv_mul_add_emod x C
  rw [subFrac_eq, Int.add_mul]; omega

theorem addFrac_emod (cur x : Int) : addFrac cur (x % C) = cur + x - (x / C + carry cur (x % C)) * C := by
  have := Int.ediv_mul_add_emod x C
  rw [addFrac_eq, Int.add_mul]; omega

theorem backing_of_move {r r' d k y : Int} (h : r' = r + borrow d y - carry k y) :
    r' * C = r * C + (subFrac d y - d) + (addFrac k y - k) := by
  rw [h, subFrac_eq, addFrac_eq]
  simp only [Int.add_mul, Int.sub_mul]
  omega

theorem subFrac_range {cur amt : Int} (h : 0 ≤ cur ∧ cur < C) (h' : 0 ≤ amt ∧ amt < C) :
    0 ≤ subFrac cur amt ∧ subFrac cur amt < C := by unfold subFrac; omega

theorem addFrac_range {cur amt : Int} (h : 0 ≤ cur ∧ cur < C) (h' : 0 ≤ amt ∧ amt < C) :
    0 ≤ addFrac cur amt ∧ addFrac cur amt < C := by unfold addFrac; omega

/-- The conditional bank amounts of an extended operation with integer part `q`, borrow `b` and carry `c`:
    `n` = `q + 1` (borrow and carry) or `q` moved directly, 1 on borrow without carry, 1 on carry without borrow.
    They add up to `q + [b]` for the debited side, `q + [c]` for the credited side and `[b] - [c]` for the reserve;
    the guards `n > 0` (send, mint) and `n ≠ 0` (burn) of the direct step do not change its amount. -/
theorem split_amounts {b c p1 p2 p3 : Prop} [Decidable b] [Decidable c] [Decidable p1] [Decidable p2] [Decidable p3]
    (h1 : p1 ↔ b ∧ c) (h2 : p2 ↔ b ∧ ¬c) (h3 : p3 ↔ ¬b ∧ c) (q : Int) {n : Int} (hn : n = if p1 then q + 1 else q) :
    n + (if p2 then 1 else 0) = q + (if b then 1 else 0) ∧
    n + (if p3 then 1 else 0) = q + (if c then 1 else 0) ∧
    ((if p2 then 1 else 0) - (if p3 then 1 else 0) : Int) = (if b then 1 else 0) - (if c then 1 else 0) ∧
    (0 ≤ q → (if n > 0 then n else 0) = n) ∧ (if n ≠ 0 then n else 0) = n := by
  subst hn
  by_cases hb : b <;> by_cases hc : c <;> simp [h1, h2, h3, hb, hc] <;> omega

variable {accts : List Addr} {R : Addr} {s s' : St} {frm to m a : Addr} {u x : Int}

theorem ext_sub_of (hb : s'.bal a = s.bal a - (x / C + borrow (s.frac a) (x % C)))
    (hf : s'.frac a = subFrac (s.frac a) (x % C)) : ext s' a = ext s a - x := by
  unfold ext; rw [hb, hf, subFrac_emod, Int.sub_mul]; omega

theorem ext_add_of (hb : s'.bal a = s.bal a + (x / C + carry (s.frac a) (x % C)))
    (hf : s'.frac a = addFrac (s.frac a) (x % C)) : ext s' a = ext s a + x := by
  unfold ext; rw [hb, hf, addFrac_emod, Int.add_mul]; omega

theorem sendExt_eq_ok (hne : frm ≠ to) {n : Int}
    (hn : n = if s.frac frm - x % C < 0 ∧ s.frac to + x % C ≥ C then x / C + 1 else x / C) :
    sendExt R s frm to x = .ok s' ↔ ∃ s1 s2 s3,
      sendIf (n > 0) s frm to n = some s1 ∧
      sendIf (s.frac frm - x % C < 0 ∧ ¬ s.frac to + x % C ≥ C) s1 frm R 1 = some s2 ∧
      sendIf (¬ s.frac frm - x % C < 0 ∧ s.frac to + x % C ≥ C) s2 R to 1 = some s3 ∧
      s' = { s3 with frac := upd (upd s3.frac frm (subFrac (s.frac frm) (x % C))) to (addFrac (s.frac to) (x % C)) } := by
  subst hn
  constructor
  · intro hok
    revert hok
    fun_cases sendExt R s frm to x <;> intro hok <;> cases hok
    · exact absurd ‹frm = to› hne
    · exact ⟨_, _, _, ‹_›, ‹_›, ‹_›, rfl⟩
  · rintro ⟨s1, s2, s3, h1, h2, h3, rfl⟩
    simp only [sendExt, hne, if_false, h1, h2, h3]

/-- Net effect of a successful `sendExtendedCoins` between distinct non-reserve parties: `x % C` moves between the
    two fractions, the reserve absorbs borrow minus carry, and (for `0 ≤ x`) the sender pays `x / C` plus the
    borrow while the recipient receives `x / C` plus the carry. -/
structure SendExtEffect (R : Addr) (s s' : St) (frm to : Addr) (x : Int) : Prop where
  frac : s'.frac = upd (upd s.frac frm (subFrac (s.frac frm) (x % C))) to (addFrac (s.frac to) (x % C))
  rem : s'.rem = s.rem
  supply : s'.supply = s.supply
  reserve : s'.bal R = s.bal R + borrow (s.frac frm) (x % C) - carry (s.frac to) (x % C)
  sender : 0 ≤ x → s'.bal frm = s.bal frm - (x / C + borrow (s.frac frm) (x % C))
  recipient : 0 ≤ x → s'.bal to = s.bal to + (x / C + carry (s.frac to) (x % C))
  others : ∀ a, a ≠ frm → a ≠ to → a ≠ R → s'.bal a = s.bal a

theorem sendExt_spec (hne : frm ≠ to) (hfR : frm ≠ R) (htR : to ≠ R) (hok : sendExt R s frm to x = .ok s') :
    SendExtEffect R s s' frm to x := by
  obtain ⟨s1, s2, s3, h1, h2, h3, rfl⟩ := (sendExt_eq_ok hne rfl).mp hok
  obtain ⟨f1, r1, u1, -, b1⟩ := sendIf_ok h1
  obtain ⟨f2, r2, u2, -, b2⟩ := sendIf_ok h2
  obtain ⟨f3, r3, u3, -, b3⟩ := sendIf_ok h3
  have hb : ∀ a, s3.bal a = _ := fun a => by rw [b3, b2, b1]
  obtain ⟨e1, e2, e3, e0, -⟩ := split_amounts (b := s.frac frm - x % C < 0) (c := s.frac to + x % C ≥ C)
    Iff.rfl Iff.rfl Iff.rfl (x / C) rfl
  have e0 (hx : 0 ≤ x) := e0 (Int.ediv_nonneg hx (Int.le_of_lt C_pos))
  refine ⟨by simp only [f3, f2, f1], by simp only [r3, r2, r1], by simp only [u3, u2, u1], ?_, fun hx => ?_,
    fun hx => ?_, fun a h1 h2 h3 => ?_⟩
  · show s3.bal R = _
    rw [hb R]
    simp only [hfR.symm, htR.symm, and_false, and_true, if_false, Int.sub_zero, Int.add_zero]
    rw [Int.add_sub_assoc, e3, ← Int.add_sub_assoc]; rfl
  · show s3.bal frm = _
    rw [hb frm]
    simp only [hne, hfR, and_false, and_true, if_false, Int.sub_zero, Int.add_zero, e0 hx]
    rw [Int.sub_sub, e1]; rfl
  · show s3.bal to = _
    rw [hb to]
    simp only [hne.symm, htR, and_false, and_true, if_false, Int.sub_zero, Int.add_zero, e0 hx]
    rw [Int.add_assoc, e2]; rfl
  · show s3.bal a = _
    rw [hb a]
    simp only [h1, h2, h3, and_false, if_false, Int.sub_zero, Int.add_zero]

theorem sendExt_self (h : sendExt R s a a x = .ok s') : s' = s := by
  unfold sendExt at h
  rw [if_pos rfl] at h
  split at h <;> cases h
  rfl

theorem sendExt_inv (hn : accts.Nodup) (hfR : frm ≠ R) (htR : to ≠ R) (hf : frm ∈ accts) (ht : to ∈ accts)
    (h : Inv accts R s) (hok : sendExt R s frm to x = .ok s') : Inv accts R s' := by
  by_cases hne : frm = to
  · subst hne
    exact sendExt_self hok ▸ h
  · obtain ⟨hfr, hr0, hr1, hres⟩ := h
    have e := sendExt_spec hne hfR htR hok
    refine ⟨fun a => ?_, e.rem ▸ hr0, e.rem ▸ hr1, ?_⟩
    · rw [e.frac]; unfold upd
      split
      · exact addFrac_range (hfr to) (emod_C_range x)
      · split
        · exact subFrac_range (hfr frm) (emod_C_range x)
        · exact hfr a
    · rw [e.frac, e.rem, sumOver_upd _ _ hn ht, sumOver_upd _ _ hn hf,
        upd_ne (Ne.symm hne), backing_of_move e.reserve]
      omega

/-- The reserve can always pay the carry of a transfer: a carry without a borrow means the two fractions together
    reach `C`, and under the invariant the reserve backs every fraction. -/
theorem sendExt_carry_ok (x : Int) (hn : accts.Nodup) (hne : frm ≠ to) (hfR : frm ≠ R) (htR : to ≠ R)
    (hf : frm ∈ accts) (ht : to ∈ accts)
    (hRlock : s.locked R = 0) (h : Inv accts R s)
    {c1 c2 : Prop} [Decidable c1] [Decidable c2] {n : Int} {s1 s2 : St}
    (h1 : sendIf c1 s frm to n = some s1) (h2 : sendIf c2 s1 frm R 1 = some s2) :
    ∃ s3, sendIf (¬ s.frac frm - x % C < 0 ∧ s.frac to + x % C ≥ C) s2 R to 1 = some s3 := by
  obtain ⟨hfr, hr0, -, hres⟩ := h
  obtain ⟨-, -, -, l1, b1⟩ := sendIf_ok h1
  obtain ⟨-, -, -, l2, b2⟩ := sendIf_ok h2
  have hsum := sumOver_ge_two (fun a => (hfr a).1) hn hne hf ht
  refine sendIf_isSome.mpr fun hc => ?_
  rw [l2, l1, hRlock, b2, b1]
  simp only [hfR.symm, htR.symm, and_false, and_true, if_false]
  rw [C_val] at hres hc
  omega

theorem le_extSpendable_iff (haR : a ≠ R) (hlock : s.locked a ≤ s.bal a)
    (hfr : 0 ≤ s.frac a ∧ s.frac a < C) :
    x ≤ extSpendable R s a ↔ x / C + borrow (s.frac a) (x % C) ≤ s.bal a - s.locked a := by
  unfold extSpendable borrow
  rw [if_neg haR, if_neg (Int.not_lt.mpr hlock)]
  rw [C_val] at hfr ⊢
  omega

/-- Net effect of a successful `mintExtendedCoin`: `x % C` moves from the remainder to the module's fraction, the
    reserve absorbs the remainder's borrow minus the fraction's carry, the module receives `x / C` plus the carry
    and the supply grows by `x / C` plus the borrow. -/
structure MintExtEffect (R : Addr) (s s' : St) (m : Addr) (x : Int) : Prop where
  frac : s'.frac = upd s.frac m (addFrac (s.frac m) (x % C))
  rem : s'.rem = subFrac s.rem (x % C)
  reserve : s'.bal R = s.bal R + borrow s.rem (x % C) - carry (s.frac m) (x % C)
  module : 0 ≤ x → s'.bal m = s.bal m + (x / C + carry (s.frac m) (x % C))
  others : ∀ a, a ≠ m → a ≠ R → s'.bal a = s.bal a
  supply : 0 ≤ x → s'.supply = s.supply + (x / C + borrow s.rem (x % C))

theorem mintExt_spec (hmR : m ≠ R) (hok : mintExt R s m x = .ok s') : MintExtEffect R s s' m x := by
  -- mint.go tests the remainder's borrow as `newRem < 0`, as `prevRem < fr` and its absence as `newRem ≥ 0`
  obtain ⟨e1, e2, e3, e0, -⟩ := split_amounts (b := s.rem - x % C < 0) (c := s.frac m + x % C ≥ C)
    (p1 := s.frac m + x % C ≥ C ∧ s.rem - x % C < 0) (p2 := s.rem < x % C ∧ ¬ s.frac m + x % C ≥ C)
    (p3 := s.frac m + x % C ≥ C ∧ s.rem - x % C ≥ 0)
    and_comm (and_congr_left' (by omega)) (and_comm.trans (and_congr_left' Int.not_lt.symm)) (x / C) rfl
  have e0 (hx : 0 ≤ x) := e0 (Int.ediv_nonneg hx (Int.le_of_lt C_pos))
  unfold mintExt at hok
  dsimp only at hok
  split at hok
  · cases hok
  · rename_i s1 h1
    cases hok
    obtain ⟨f1, -, u1, -, b1⟩ := sendIf_ok h1
    refine ⟨?_, rfl, ?_, fun hx => ?_, fun a h1 h2 => ?_, fun hx => ?_⟩
    · simp only [mintIf_frac, f1]; rfl
    · simp only [mintIf_bal, b1, hmR.symm, and_false, and_true, if_false, Int.add_zero]
      rw [Int.sub_eq_add_neg (a := s.bal R), Int.add_right_comm, ← Int.sub_eq_add_neg, Int.add_sub_assoc, e3,
        ← Int.add_sub_assoc]; rfl
    · simp only [mintIf_bal, b1, hmR, and_false, and_true, if_false, Int.sub_zero, Int.add_zero, e0 hx]
      rw [Int.add_assoc, Int.add_comm (ite _ _ _), e2]; rfl
    · simp only [mintIf_bal, b1, h1, h2, and_false, if_false, Int.sub_zero, Int.add_zero]
    · simp only [mintIf_supply, u1, e0 hx]
      rw [Int.add_assoc, e1]; rfl

/-- Net effect of a successful `burnExtendedCoin`: the mirror image of `MintExtEffect`. -/
structure BurnExtEffect (R : Addr) (s s' : St) (m : Addr) (x : Int) : Prop where
  frac : s'.frac = upd s.frac m (subFrac (s.frac m) (x % C))
  rem : s'.rem = addFrac s.rem (x % C)
  reserve : s'.bal R = s.bal R + borrow (s.frac m) (x % C) - carry s.rem (x % C)
  module : s'.bal m = s.bal m - (x / C + borrow (s.frac m) (x % C))
  others : ∀ a, a ≠ m → a ≠ R → s'.bal a = s.bal a
  supply : s'.supply = s.supply - (x / C + carry s.rem (x % C))

theorem burnExt_spec (hmR : m ≠ R) (hok : burnExt R s m x = .ok s') : BurnExtEffect R s s' m x := by
  revert hok
  fun_cases burnExt R s m x <;> intro hok <;> cases hok
  rename_i _ _ i _ _ borrow _ over _ _ i' s1 h1 s2 h2 s3 h3
  obtain ⟨e1, e2, e3, -, e0⟩ := split_amounts (b := borrow) (c := over) (n := i') Iff.rfl Iff.rfl Iff.rfl i rfl
  obtain ⟨f1, -, u1, -, b1⟩ := sendIf_ok h1
  obtain ⟨f2, -, u2, b2⟩ := burnIf_ok h2
  obtain ⟨f3, -, u3, b3⟩ := burnIf_ok h3
  have hb : ∀ a, s3.bal a = _ := fun a => by rw [b3, b2, b1]
  refine ⟨by simp only [f3, f2, f1]; rfl, rfl, ?_, ?_, fun a h1 h2 => ?_, ?_⟩
  · show s3.bal R = _
    rw [hb R]
    simp only [hmR.symm, and_false, and_true, if_false, Int.sub_zero]
    rw [Int.add_sub_assoc, e3, ← Int.add_sub_assoc]; rfl
  · show s3.bal m = _
    rw [hb m]
    simp only [hmR, and_false, and_true, if_false, Int.sub_zero, Int.add_zero, e0]
    rw [Int.sub_sub, Int.add_comm (ite _ _ _), e1]; rfl
  · show s3.bal a = _
    rw [hb a]
    simp only [h1, h2, and_false, if_false, Int.sub_zero, Int.add_zero]
  · show s3.supply = _
    rw [u3, u2, u1, e0, Int.sub_sub, Int.add_comm (ite _ _ _), e2]; rfl

theorem mintExt_inv (hn : accts.Nodup) (hmR : m ≠ R) (hm : m ∈ accts)
    (h : Inv accts R s) (hok : mintExt R s m x = .ok s') : Inv accts R s' := by
  have e := mintExt_spec hmR hok
  refine h.of_upd hn hm e.frac (addFrac_range (h.1 m) (emod_C_range x))
    (e.rem ▸ subFrac_range ⟨h.2.1, h.2.2.1⟩ (emod_C_range x)) ?_
  rw [e.rem, backing_of_move e.reserve]
  omega

theorem burnExt_inv (hn : accts.Nodup) (hmR : m ≠ R) (hm : m ∈ accts)
    (h : Inv accts R s) (hok : burnExt R s m x = .ok s') : Inv accts R s' := by
  have e := burnExt_spec hmR hok
  refine h.of_upd hn hm e.frac (subFrac_range (h.1 m) (emod_C_range x))
    (e.rem ▸ addFrac_range ⟨h.2.1, h.2.2.1⟩ (emod_C_range x)) ?_
  rw [e.rem, backing_of_move e.reserve]

theorem send_eq_ok :
    send R s frm to u x = .ok s' ↔ frm ≠ R ∧ to ≠ R ∧ ∃ s1, sendIf (u > 0) s frm to u = some s1 ∧
      if x > 0 then sendExt R s1 frm to x = .ok s' else s' = s1 := by
  fun_cases send R s frm to u x
  · rename_i hR; exact ⟨nofun, fun h => (hR.elim h.1 h.2.1).elim⟩
  · rename_i hR h1; simp [h1]
  · rename_i hR s1 h1 hx; simp [not_or.mp hR, h1, hx]
  · rename_i hR s1 h1 hx; simp [not_or.mp hR, h1, hx, eq_comm]

/-- `MintCoins` and `BurnCoins` open with the same two guards: on the reserve or without the permission they panic. -/
theorem module_guard_ok {perm : Bool} {body : Res}
    (h : (if m = R then .panic else if ¬ perm then .panic else body) = Res.ok s') : m ≠ R ∧ body = .ok s' := by
  split at h
  · cases h
  · split at h
    · cases h
    · exact ⟨‹_›, h⟩

theorem sendModuleToAccount_ok {blocked : Addr → Bool}
    (h : sendModuleToAccount R blocked s frm to u x = .ok s') : send R s frm to u x = .ok s' := by
  revert h
  fun_cases sendModuleToAccount R blocked s frm to u x <;> intro h <;> try cases h
  exact h

theorem sendAccountToModule_ok (h : sendAccountToModule R s frm to u x = .ok s') : send R s frm to u x = .ok s' := by
  revert h
  fun_cases sendAccountToModule R s frm to u x <;> intro h <;> try cases h
  exact h

end KV.PB
