/-
  Helper lemmas for C11 (savings): coin-list lemmas (`AmountOf` of the capped request), the savings
  invariant, effect lemmas of Deposit / Withdraw, preservation along operation lists.
  Property statements live in KavaVerif/Props/C11.lean.
-/
import KavaVerif.Model.Savings
import KavaVerif.Proofs.Earn
set_option linter.unusedSimpArgs false
set_option linter.unusedVariables false
namespace KV.Savings
open KV

theorem lookup_mem {cs : Coins} {d : Denom} {n : Int} (h : cs.lookup d = some n) : (d, n) ∈ cs := by
  obtain ⟨l₁, l₂, rfl, -⟩ := List.lookup_eq_some_iff.mp h
  exact List.mem_append_right _ List.mem_cons_self

/-- the amount of denom `d` a withdrawal of `cs` pays from a record holding `avail`: the requested
    coin of that denom capped at the recorded amount -/
def paid (avail : Denom → Int) (cs : Coins) (d : Denom) : Int :=
  match cs.lookup d with
  | some n => if n > avail d then avail d else n
  | none => 0

theorem amountOf_calcWithdraw (avail : Denom → Int) (cs : Coins) (d : Denom) :
    amountOf (calcWithdraw avail cs) d = paid avail cs d := by
  unfold amountOf calcWithdraw paid
  induction cs with
  | nil => rfl
  | cons c t ih =>
    simp only [List.map_cons, List.lookup]
    cases hk : d == c.1
    · exact ih
    · rw [eq_of_beq hk]

theorem validCoins_pos {cs : Coins} (h : validCoins cs = true) : ∀ c ∈ cs, 0 < c.2 := by
  unfold validCoins at h
  simp only [Bool.and_eq_true, List.all_eq_true, decide_eq_true_eq] at h
  exact h.1

theorem amountOf_nonneg {cs : Coins} (hv : validCoins cs = true) (d : Denom) : 0 ≤ amountOf cs d := by
  unfold amountOf
  cases hl : cs.lookup d with
  | none => exact Int.le_refl 0
  | some n => exact Int.le_of_lt (validCoins_pos hv _ (lookup_mem hl))

theorem paid_bounds (avail : Denom → Int) (cs : Coins) (d : Denom) (hv : validCoins cs = true)
    (ha : 0 ≤ avail d) : 0 ≤ paid avail cs d ∧ paid avail cs d ≤ avail d ∧ paid avail cs d ≤ amountOf cs d := by
  unfold paid amountOf
  cases hl : cs.lookup d with
  | none => exact ⟨Int.le_refl 0, ha, Int.le_refl 0⟩
  | some n =>
    have : 0 < n := validCoins_pos hv _ (lookup_mem hl)
    show 0 ≤ ite _ _ _ ∧ ite _ _ _ ≤ avail d ∧ ite _ _ _ ≤ n
    split <;> omega

theorem amountOf_zero_of_unsupported {sup : Denom → Bool} {cs : Coins} {d : Denom}
    (hs : ∀ c ∈ cs, sup c.1 = true) (hd : sup d = false) : amountOf cs d = 0 := by
  unfold amountOf
  cases hl : cs.lookup d with
  | none => rfl
  | some n => have := hs _ (lookup_mem hl); rw [hd] at this; cases this

/-- The savings invariant: recorded amounts are non-negative and live in the denom universe `ds`,
    the module balance of every denom equals the sum of the recorded deposits over `accts`
    (a duplicate-free list of every depositor), and a record exists exactly when it is non-empty. -/
def SInv (accts : List Addr) (ds : List Denom) (s : St) : Prop :=
  (∀ a d, 0 ≤ s.dep a d) ∧
  (∀ d, s.mod d = Earn.sumOver accts (fun a => s.dep a d)) ∧
  (∀ a d, d ∉ ds → s.dep a d = 0) ∧
  (∀ a, s.has a = ds.any (fun d => decide (0 < s.dep a d)))

theorem upd2_col (f : Addr → Denom → Int) (a : Addr) (g : Denom → Int) (d : Denom) :
    (fun x => upd2 f a g x d) = Earn.upd (fun x => f x d) a (g d) := by
  funext x
  unfold upd2 Earn.upd
  split <;> rfl

theorem upd2_same (f : Addr → Denom → Int) (a : Addr) (g : Denom → Int) : upd2 f a g a = g := if_pos rfl

theorem upd2_other (f : Addr → Denom → Int) {a b : Addr} (g : Denom → Int) (h : b ≠ a) :
    upd2 f a g b = f b := if_neg h

theorem deposit_ok {sup : Denom → Bool} {s s' : St} {a : Addr} {cs : Coins}
    (h : deposit sup s a cs = .ok s') :
    s' = { bal := upd2 s.bal a (fun d => s.bal a d - amountOf cs d),
           mod := fun d => s.mod d + amountOf cs d,
           has := updB s.has a true,
           dep := upd2 s.dep a (fun d => s.dep a d + amountOf cs d) } ∧
    validCoins cs = true ∧ cs ≠ [] ∧ (∀ c ∈ cs, sup c.1 = true) ∧ (∀ c ∈ cs, c.2 ≤ s.bal a c.1) := by
  revert h
  fun_cases deposit sup s a cs <;> intro h <;> cases h
  rename_i h1 h2 h3
  simp only [not_or, Decidable.not_not, Bool.not_eq_true, Bool.not_eq_false, List.isEmpty_eq_false_iff,
    List.all_eq_true, decide_eq_true_eq] at h1 h2 h3
  exact ⟨rfl, h1.1, h1.2, h2, h3⟩

theorem withdraw_ok {ds : List Denom} {s s' : St} {a : Addr} {cs : Coins}
    (h : withdraw ds s a cs = .ok s') :
    s' = { bal := upd2 s.bal a (fun d => s.bal a d + paid (s.dep a) cs d),
           mod := fun d => s.mod d - paid (s.dep a) cs d,
           has := updB s.has a (ds.any (fun d => decide (0 < s.dep a d - paid (s.dep a) cs d))),
           dep := upd2 s.dep a (fun d => s.dep a d - paid (s.dep a) cs d) } ∧
    validCoins cs = true ∧ cs ≠ [] ∧ s.has a = true ∧ (∀ c ∈ cs, 0 < s.dep a c.1) ∧
    (∀ c ∈ calcWithdraw (s.dep a) cs, c.2 ≤ s.mod c.1) ∧
    (∀ d ∈ ds, 0 ≤ s.dep a d - paid (s.dep a) cs d) := by
  revert h
  fun_cases withdraw ds s a cs <;> intro h <;> cases h
  rename_i h1 h2 h3 amount h4 dep' h5
  simp only [not_or, Decidable.not_not, Bool.not_eq_true, Bool.not_eq_false, List.isEmpty_eq_false_iff,
    List.all_eq_true, List.any_eq_false, decide_eq_true_eq, Int.not_lt, amount, dep', amountOf_calcWithdraw]
    at h1 h2 h3 h4 h5
  exact ⟨by simp only [amount, dep', amountOf_calcWithdraw], h1.1, h1.2, h2, h3, h4, h5⟩

/-- The invariant survives rewriting account `a`'s record to `g` when the module balance moves by
    the same amounts: the common part of `Deposit` and `Withdraw`. -/
theorem SInv.set {accts : List Addr} (hn : accts.Nodup) {ds : List Denom} {s : St} {a : Addr}
    (ha : a ∈ accts) (hinv : SInv accts ds s) {g : Denom → Int} (hg0 : ∀ d, 0 ≤ g d)
    (hgds : ∀ d, d ∉ ds → g d = 0) {bal : Addr → Denom → Int} {mod : Denom → Int}
    (hmod : ∀ d, mod d = s.mod d - s.dep a d + g d) {rec : Bool}
    (hrec : rec = ds.any (fun d => decide (0 < g d))) :
    SInv accts ds { bal := bal, mod := mod, has := updB s.has a rec, dep := upd2 s.dep a g } := by
  obtain ⟨i1, i2, i3, i4⟩ := hinv
  refine ⟨fun x d => ?_, fun d => ?_, fun x d hd => ?_, fun x => ?_⟩ <;> simp only []
  · by_cases hx : x = a
    · rw [hx, upd2_same]; exact hg0 d
    · rw [upd2_other _ _ hx]; exact i1 x d
  · rw [hmod d, upd2_col, Earn.sumOver_upd hn ha, i2 d]
  · by_cases hx : x = a
    · rw [hx, upd2_same]; exact hgds d hd
    · rw [upd2_other _ _ hx]; exact i3 x d hd
  · by_cases hx : x = a
    · subst hx; simp only [upd2_same, updB, ↓reduceIte, hrec]
    · simp only [upd2_other _ _ hx, updB, hx, ↓reduceIte, i4 x]

theorem deposit_inv {accts : List Addr} (hn : accts.Nodup) {ds : List Denom} {sup : Denom → Bool}
    (hsup : ∀ d, sup d = true → d ∈ ds) {s s' : St} {a : Addr} {cs : Coins} (ha : a ∈ accts)
    (hinv : SInv accts ds s) (h : deposit sup s a cs = .ok s') : SInv accts ds s' := by
  obtain ⟨rfl, hv, hne, hs, -⟩ := deposit_ok h
  refine SInv.set hn ha hinv (fun d => Int.add_nonneg (hinv.1 a d) (amountOf_nonneg hv d))
    (fun d hd => ?_) (fun d => by omega) ?_
  · have hsd : sup d = false := by
      cases hh : sup d
      · rfl
      · exact absurd (hsup d hh) hd
    rw [hinv.2.2.1 a d hd, amountOf_zero_of_unsupported hs hsd]; rfl
  · -- the record is non-empty: the first coin deposited is positive and of a supported denom
    symm
    rw [List.any_eq_true]
    cases cs with
    | nil => exact absurd rfl hne
    | cons c t =>
      have hpos : 0 < c.2 := validCoins_pos hv c List.mem_cons_self
      refine ⟨c.1, hsup c.1 (hs c List.mem_cons_self), decide_eq_true ?_⟩
      have : amountOf (c :: t) c.1 = c.2 := by simp [amountOf, List.lookup]
      have := hinv.1 a c.1
      omega

theorem withdraw_inv {accts : List Addr} (hn : accts.Nodup) {ds : List Denom}
    {s s' : St} {a : Addr} {cs : Coins} (ha : a ∈ accts)
    (hinv : SInv accts ds s) (h : withdraw ds s a cs = .ok s') : SInv accts ds s' := by
  obtain ⟨rfl, hv, -⟩ := withdraw_ok h
  have hp := fun d => paid_bounds (s.dep a) cs d hv (hinv.1 a d)
  exact SInv.set hn ha hinv (fun d => by have := hp d; omega)
    (fun d hd => by have := hp d; have := hinv.2.2.1 a d hd; omega) (fun d => by omega) rfl

theorem next_cases (sup : Denom → Bool) (ds : List Denom) (s : St) (o : Op) :
    (∃ s', step sup ds s o = .ok s' ∧ next sup ds s o = s') ∨ next sup ds s o = s := by
  fun_cases next sup ds s o
  · exact .inl ⟨_, ‹_›, rfl⟩
  · exact .inr rfl

theorem next_inv {accts : List Addr} (hn : accts.Nodup) {ds : List Denom} {sup : Denom → Bool}
    (hsup : ∀ d, sup d = true → d ∈ ds) (s : St) (o : Op) (ha : o.actor ∈ accts)
    (hinv : SInv accts ds s) : SInv accts ds (next sup ds s o) := by
  rcases next_cases sup ds s o with ⟨s', h, e⟩ | e <;> rw [e]
  · cases o with
    | deposit a cs => exact deposit_inv hn hsup ha hinv h
    | withdraw a cs => exact withdraw_inv hn ha hinv h
  · exact hinv

theorem run_inv (accts : List Addr) (hn : accts.Nodup) (ds : List Denom) (sup : Denom → Bool)
    (hsup : ∀ d, sup d = true → d ∈ ds) (ops : List Op) :
    ∀ s, (∀ o ∈ ops, o.actor ∈ accts) → SInv accts ds s → SInv accts ds (run sup ds s ops) :=
  Earn.foldl_inv (next sup ds) (SInv accts ds) _ (fun s o => next_inv hn hsup s o) ops

theorem empty_inv (accts : List Addr) (ds : List Denom) : SInv accts ds empty :=
  ⟨fun _ _ => Int.le_refl 0, fun _ => (Earn.sumOver_const_zero accts).symm, fun _ _ _ => rfl,
    fun _ => Eq.symm (List.any_eq_false.mpr fun d _ => by simp [empty])⟩

end KV.Savings
