/-
  Helper lemmas for C20 (calendar part): the civil-calendar model used by GetPeriodLength.
  Day number → civil date one Euclidean step at a time (century, year of the century, month); civil date → day number
  from that, because the months have their Gregorian lengths and do not overlap; pay dates on the month index.
  Core Lean only.
-/
import KavaVerif.Model.Vesting
namespace KV.Vest.Cal

/-- One step of the conversion, for all three units at once: unit `q` (a century, a year of the century, a month
    of the March-based year) starts on day `(A*q + b)/k`, and the unit of day `n` is `(k*n + c)/A`. -/
def Step (A k b c : Int) : Prop := 0 < A ∧ 0 < k ∧ b + c = k - 1

theorem step_iff {A k b c : Int} (s : Step A k b c) (q n : Int) :
    (k * n + c) / A = q ↔ (A * q + b) / k ≤ n ∧ n < (A * (q + 1) + b) / k := by
  obtain ⟨hA, hk, hc⟩ := s
  rw [Int.ediv_eq_iff_of_pos hA, Int.ediv_le_iff_le_mul hk, @Int.lt_iff_add_one_le n,
    Int.le_ediv_iff_mul_le hk, Int.mul_comm q A, Int.mul_comm n k, Int.add_mul, Int.one_mul, Int.mul_add,
    Int.mul_one, Int.mul_comm n k]
  omega

theorem step_rem {A k b c : Int} (s : Step A k b c) (n : Int) :
    (k * n + c) % A / k = n - (A * ((k * n + c) / A) + b) / k := by
  obtain ⟨_, hk, hc⟩ := s
  have h := (Int.ediv_eq_iff_of_pos hk).1 (rfl : (A * ((k * n + c) / A) + b) / k = _)
  rw [Int.emod_def, Int.ediv_eq_iff_of_pos hk, Int.sub_mul, Int.mul_comm n k]
  omega

theorem step_repr {A k b c : Int} (s : Step A k b c) (n : Int) :
    n = (A * ((k * n + c) / A) + b) / k + (k * n + c) % A / k ∧ 0 ≤ (k * n + c) % A / k ∧
      (k * n + c) % A / k ≤ (A - 1) / k ∧ n < (A * ((k * n + c) / A + 1) + b) / k := by
  have h := (step_iff s _ n).1 rfl
  refine ⟨?_, ?_, Int.ediv_le_ediv s.2.1 (Int.le_sub_one_of_lt (Int.emod_lt_of_pos _ s.1)), h.2⟩
  all_goals rw [step_rem s]; omega

theorem step_range {A k b c : Int} (s : Step A k b c) (n M : Int) (hc : 0 ≤ c) (h0 : 0 ≤ n) (h1 : n ≤ M) :
    0 ≤ (k * n + c) / A ∧ (k * n + c) / A ≤ (k * M + c) / A :=
  have hk := Int.le_of_lt s.2.1
  ⟨Int.ediv_nonneg (Int.add_nonneg (Int.mul_nonneg hk h0) hc) (Int.le_of_lt s.1),
    Int.ediv_le_ediv s.1 (Int.add_le_add_right (Int.mul_le_mul_of_nonneg_left h1 hk) c)⟩

/- centuries of 146097/4 days, years of 1461/4 days, months of 153/5 days (from March) -/
theorem century : Step 146097 4 0 3 := ⟨by decide, by decide, by decide⟩
theorem yearOfCentury : Step 1461 4 0 3 := ⟨by decide, by decide, by decide⟩
theorem monthOfYear : Step 153 5 2 2 := ⟨by decide, by decide, by decide⟩

theorem divmod_mk {b q r : Int} (h0 : 0 ≤ r) (h1 : r < b) : (b * q + r) / b = q ∧ (b * q + r) % b = r :=
  (Int.ediv_emod_unique (Int.lt_of_le_of_lt h0 h1)).2 ⟨Int.add_comm _ _, h0, h1⟩

theorem yearStart_mk (C Z : Int) (h0 : 0 ≤ Z) (h1 : Z ≤ 99) :
    yearStart (100 * C + Z) = 146097 * C / 4 + 1461 * Z / 4 := by
  obtain ⟨e1, e2⟩ := divmod_mk (b := 100) (q := C) h0 (Int.lt_add_one_of_le h1)
  unfold yearStart
  rw [e1, e2]

theorem century_split (Y : Int) : ∃ C Z, Y = 100 * C + Z ∧ 0 ≤ Z ∧ Z ≤ 99 :=
  ⟨Y / 100, Y % 100, (Int.mul_ediv_add_emod Y 100).symm, Int.emod_nonneg _ (by decide),
    Int.le_of_lt_add_one (Int.emod_lt_of_pos _ (by decide))⟩

theorem yearStart_mk_succ (C Z : Int) (h0 : 0 ≤ Z) (h1 : Z ≤ 99) :
    yearStart (100 * C + Z + 1) =
      if Z = 99 then 146097 * (C + 1) / 4 else 146097 * C / 4 + 1461 * (Z + 1) / 4 := by
  split
  · subst Z
    rw [show 100 * C + 99 + 1 = 100 * (C + 1) + 0 by omega, yearStart_mk (C + 1) 0 (Int.le_refl 0) (by decide)]
    exact Int.add_zero _
  · rw [show 100 * C + Z + 1 = 100 * C + (Z + 1) by omega, yearStart_mk C (Z + 1) (by omega) (by omega)]

/-- day number (from 0000-03-01) of the first day of the month with March-based index `K = 12·Y + mp` -/
def monthDay0 (K : Int) : Int := yearStart (K / 12) + monthStart (K % 12)

theorem monthDay0_mk (Y mp : Int) (h0 : 0 ≤ mp) (h1 : mp ≤ 11) :
    monthDay0 (12 * Y + mp) = yearStart Y + monthStart mp := by
  obtain ⟨e1, e2⟩ := divmod_mk (b := 12) (q := Y) h0 (Int.lt_add_one_of_le h1)
  unfold monthDay0
  rw [e1, e2]

theorem monthDay0_mk_succ (Y mp : Int) (h0 : 0 ≤ mp) (h1 : mp ≤ 11) :
    monthDay0 (12 * Y + mp + 1) = if mp = 11 then yearStart (Y + 1) else yearStart Y + monthStart (mp + 1) := by
  split
  · subst mp
    rw [show 12 * Y + 11 + 1 = 12 * (Y + 1) + 0 by omega, monthDay0_mk (Y + 1) 0 (Int.le_refl 0) (by decide)]
    exact Int.add_zero _
  · rw [show 12 * Y + mp + 1 = 12 * Y + (mp + 1) by omega, monthDay0_mk Y (mp + 1) (by omega) (by omega)]

/-- (March-based year, March-based month 0..11, day of month − 1) of the day `N` counted from 0000-03-01 -/
def fromN (N : Int) : Int × Int × Int :=
  let C := (4 * N + 3) / 146097
  let NC := (4 * N + 3) % 146097 / 4
  let Z := (4 * NC + 3) / 1461
  let NY := (4 * NC + 3) % 1461 / 4
  (100 * C + Z, (5 * NY + 2) / 153, (5 * NY + 2) % 153 / 5)

def toN (i : Int × Int × Int) : Int := yearStart i.1 + monthStart i.2.1 + i.2.2

/-- civil (January-based) date of March-based coordinates -/
def toCivil (i : Int × Int × Int) : YMD :=
  let m := if i.2.1 < 10 then i.2.1 + 3 else i.2.1 - 9
  ⟨if m ≤ 2 then i.1 + 1 else i.1, m, i.2.2 + 1⟩

/-- March-based coordinates of a civil date -/
def marchY (y m : Int) : Int := if m ≤ 2 then y - 1 else y
def marchM (m : Int) : Int := if m ≤ 2 then m + 9 else m - 3

theorem civilFromDays_eq (z : Int) : civilFromDays z = toCivil (fromN (z + 719468)) := rfl

theorem daysFromCivil_eq (y m d : Int) :
    daysFromCivil y m d = toN (marchY y m, marchM m, d - 1) - 719468 := rfl

theorem march_toCivil {i : Int × Int × Int} (h0 : 0 ≤ i.2.1) (h1 : i.2.1 ≤ 11) :
    marchY (toCivil i).y (toCivil i).m = i.1 ∧ marchM (toCivil i).m = i.2.1 ∧
    (toCivil i).d - 1 = i.2.2 ∧ 1 ≤ (toCivil i).m ∧ (toCivil i).m ≤ 12 := by
  unfold marchY marchM toCivil
  simp only []
  omega

theorem toCivil_march (y m d : Int) (h1 : 1 ≤ m) (h2 : m ≤ 12) :
    toCivil (marchY y m, marchM m, d - 1) = ⟨y, m, d⟩ := by
  unfold toCivil marchY marchM
  simp only [YMD.mk.injEq]
  by_cases h : m ≤ 2
  · simp only [h, if_true]; omega
  · simp only [h, if_false]; omega

theorem march_index (y m : Int) (h1 : 1 ≤ m) (h2 : m ≤ 12) :
    12 * marchY y m + marchM m = 12 * y + m - 3 ∧ 0 ≤ marchM m ∧ marchM m ≤ 11 := by
  unfold marchY marchM
  split <;> omega

/-- `i = (Y, mp, d0)` are coordinates of a day: a month of the year and a day before the first of the next month -/
structure Coord (i : Int × Int × Int) : Prop where
  mp0 : 0 ≤ i.2.1
  mp11 : i.2.1 ≤ 11
  day0 : 0 ≤ i.2.2
  lt : toN i < monthDay0 (12 * i.1 + i.2.1 + 1)

theorem fromN_repr (N : Int) :
    toN (fromN N) = N ∧ Coord (fromN N) ∧ (fromN N).2.2 ≤ 30 := by
  unfold fromN toN
  simp only []
  obtain ⟨a1, a2, a3, a4⟩ := step_repr century N
  generalize (4 * N + 3) / 146097 = C at *
  generalize (4 * N + 3) % 146097 / 4 = NC at *
  obtain ⟨b1, b2, b3, b4⟩ := step_repr yearOfCentury NC
  obtain ⟨z0, z1⟩ := step_range yearOfCentury NC 36524 (by decide) a2 a3
  generalize (4 * NC + 3) / 1461 = Z at *
  generalize (4 * NC + 3) % 1461 / 4 = NY at *
  obtain ⟨c1, c2, c3, c4⟩ := step_repr monthOfYear NY
  obtain ⟨m0, m1⟩ := step_range monthOfYear NY 365 (by decide) b2 b3
  generalize (5 * NY + 2) / 153 = mp at *
  generalize (5 * NY + 2) % 153 / 5 = d0 at *
  have e : yearStart (100 * C + Z) + monthStart mp + d0 = N := by
    rw [yearStart_mk C Z z0 z1, a1, b1, c1]
    simp only [monthStart, Int.add_zero, Int.add_assoc]
  refine ⟨e, ⟨m0, m1, c2, ?_⟩, c3⟩
  show yearStart (100 * C + Z) + monthStart mp + d0 < _
  rw [e, monthDay0_mk_succ _ mp m0 m1, yearStart_mk C Z z0 z1, yearStart_mk_succ C Z z0 z1]
  rw [Int.add_zero] at a1 b1 a4 b4
  simp only [monthStart]
  -- whichever unit ends first, the day lies before the end of its century, of its year and of its month
  split
  · split
    · exact a4
    · rw [a1]
      exact Int.add_lt_add_left b4 _
  · rw [a1, b1, Int.add_assoc]
    exact Int.add_lt_add_left (Int.add_lt_add_left c4 _) _

theorem daysFromCivil_civilFromDays (z : Int) :
    daysFromCivil (civilFromDays z).y (civilFromDays z).m (civilFromDays z).d = z := by
  rw [civilFromDays_eq, daysFromCivil_eq]
  obtain ⟨r1, h, -⟩ := fromN_repr (z + 719468)
  obtain ⟨e1, e2, e3, -, -⟩ := march_toCivil h.mp0 h.mp11
  rw [e1, e2, e3, r1]
  omega

theorem quarter_succ (x : Int) : (x + 1) / 4 = x / 4 + if (x + 1) % 4 = 0 then 1 else 0 := by omega
theorem quarter_mul (k x : Int) : (4 * k + 1) * x / 4 = k * x + x / 4 := by
  rw [Int.add_mul, Int.one_mul, Int.mul_assoc, Int.add_comm, Int.add_mul_ediv_left _ _ (by decide), Int.add_comm]
theorem centuryStart_eq (C : Int) : 146097 * C / 4 = 36524 * C + C / 4 := quarter_mul 36524 C
theorem yearInCentury_eq (Z : Int) : 1461 * Z / 4 = 365 * Z + Z / 4 := quarter_mul 365 Z

/-- a March-based year has 365 days, and 366 when the civil year it ends in is a leap year -/
theorem yearStart_succ (Y : Int) :
    yearStart (Y + 1) = yearStart Y + 365 + (if isLeap (Y + 1) then 1 else 0) := by
  obtain ⟨C, Z, rfl, hz0, hz1⟩ := century_split Y
  rw [yearStart_mk C Z hz0 hz1, yearStart_mk_succ C Z hz0 hz1]
  split
  · subst Z
    have hl : isLeap (100 * C + 99 + 1) ↔ (C + 1) % 4 = 0 := by unfold isLeap; omega
    rw [centuryStart_eq, centuryStart_eq, quarter_succ C]
    simp only [hl]
    omega
  · have hl : isLeap (100 * C + Z + 1) ↔ (Z + 1) % 4 = 0 := by unfold isLeap; omega
    rw [yearInCentury_eq, yearInCentury_eq, quarter_succ Z]
    simp only [hl]
    omega

/-- the months March … January have the Gregorian lengths -/
theorem monthStart_succ (Y mp d0 : Int) (h0 : 0 ≤ mp) (h1 : mp ≤ 10) :
    monthStart (mp + 1) = monthStart mp + daysInMonth (toCivil (Y, mp, d0)).y (toCivil (Y, mp, d0)).m := by
  have hc : mp = 0 ∨ mp = 1 ∨ mp = 2 ∨ mp = 3 ∨ mp = 4 ∨ mp = 5 ∨ mp = 6 ∨ mp = 7 ∨ mp = 8 ∨ mp = 9 ∨ mp = 10 := by
    omega
  rcases hc with h | h | h | h | h | h | h | h | h | h | h <;> subst h <;> rfl

theorem daysInMonth_feb (y : Int) : daysInMonth y 2 = 28 + if isLeap y then 1 else 0 := by
  show (if isLeap y then 29 else 28) = _
  split <;> rfl

/-- every month has its Gregorian length: from the first of a month to the first of the next -/
theorem monthDay0_succ (Y mp d0 : Int) (h0 : 0 ≤ mp) (h1 : mp ≤ 11) :
    monthDay0 (12 * Y + mp + 1) =
      monthDay0 (12 * Y + mp) + daysInMonth (toCivil (Y, mp, d0)).y (toCivil (Y, mp, d0)).m := by
  rw [monthDay0_mk Y mp h0 h1, monthDay0_mk_succ Y mp h0 h1]
  split
  · subst mp
    rw [yearStart_succ]
    show _ = _ + (337:Int) + daysInMonth (Y + 1) 2
    rw [daysInMonth_feb]
    generalize (if isLeap (Y + 1) then (1:Int) else 0) = l
    omega
  · rw [monthStart_succ Y mp d0 h0 (by omega), Int.add_assoc]

theorem daysInMonth_bounds (y m : Int) : 28 ≤ daysInMonth y m ∧ daysInMonth y m ≤ 31 := by
  unfold daysInMonth
  omega

theorem monthDay0_step (K : Int) : monthDay0 K + 28 ≤ monthDay0 (K + 1) ∧ monthDay0 (K + 1) ≤ monthDay0 K + 31 := by
  have hs := monthDay0_succ (K / 12) (K % 12) 0 (Int.emod_nonneg _ (by decide))
    (Int.le_of_lt_add_one (Int.emod_lt_of_pos _ (by decide)))
  rw [Int.mul_ediv_add_emod] at hs
  have := daysInMonth_bounds (toCivil (K / 12, K % 12, 0)).y (toCivil (K / 12, K % 12, 0)).m
  omega

theorem monthDay0_add (K : Int) : ∀ n : Nat, monthDay0 K + 28 * (n : Int) ≤ monthDay0 (K + (n : Int))
  | 0 => by simp
  | n + 1 => by
    have ih := monthDay0_add K n
    have s := (monthDay0_step (K + (n : Int))).1
    rw [show K + ((n + 1 : Nat) : Int) = K + (n : Int) + 1 by omega]
    omega

theorem monthDay0_mono (K n : Int) (hn : 0 ≤ n) : monthDay0 K + 28 * n ≤ monthDay0 (K + n) := by
  have := monthDay0_add K n.toNat
  rwa [Int.toNat_of_nonneg hn] at this

theorem monthDay0_le {K K' : Int} (h : K ≤ K') : monthDay0 K ≤ monthDay0 K' := by
  have := monthDay0_mono K (K' - K) (by omega)
  rw [show K + (K' - K) = K' by omega] at this
  omega

/-- a day of the month `K` does not lie before the end of an earlier month -/
theorem month_le {K K' N : Int} (h0 : monthDay0 K ≤ N) (h1 : N < monthDay0 (K' + 1)) : K ≤ K' :=
  Int.not_lt.1 fun h => by
    have := monthDay0_le (show K' + 1 ≤ K from h)
    omega

/-- a day before the first of the next month is recovered from its day number: it lies in the month of its
    coordinates and in the given month, and months do not overlap -/
theorem fromN_toN {i : Int × Int × Int} (h : Coord i) : fromN (toN i) = i := by
  obtain ⟨r1, h', -⟩ := fromN_repr (toN i)
  generalize fromN (toN i) = i' at *
  obtain ⟨Y, mp, d0⟩ := i
  obtain ⟨Y', mp', d0'⟩ := i'
  obtain ⟨hm0, hm1, hd0, hd⟩ := h
  obtain ⟨r2, r3, r4, r6⟩ := h'
  have s := monthDay0_mk Y mp hm0 hm1
  have s' := monthDay0_mk Y' mp' r2 r3
  simp only [toN] at *
  have e : 12 * Y' + mp' = 12 * Y + mp := Int.le_antisymm (month_le (by omega) hd) (month_le (by omega) r6)
  obtain ⟨rfl, rfl⟩ : Y' = Y ∧ mp' = mp := by omega
  simp only [Prod.mk.injEq, true_and]
  omega

theorem civilFromDays_daysFromCivil (y m d : Int) (hm1 : 1 ≤ m) (hm2 : m ≤ 12)
    (hd1 : 1 ≤ d) (hd2 : d ≤ daysInMonth y m) :
    civilFromDays (daysFromCivil y m d) = ⟨y, m, d⟩ := by
  have hm := (march_index y m hm1 hm2).2
  have hs := monthDay0_succ (marchY y m) (marchM m) (d - 1) hm.1 hm.2
  simp only [toCivil_march y m d hm1 hm2, monthDay0_mk _ _ hm.1 hm.2] at hs
  rw [civilFromDays_eq, daysFromCivil_eq, Int.sub_add_cancel,
    fromN_toN (i := (marchY y m, marchM m, d - 1))
      ⟨hm.1, hm.2, Int.sub_nonneg_of_le hd1, by rw [hs]; simp only [toN]; omega⟩,
    toCivil_march y m d hm1 hm2]

theorem Mid_val : MidMonth = 15 := by decide
theorem Beg_val : BeginningOfMonth = 1 := by decide
theorem Hour_val : PaymentHour = 14 := by decide

theorem normMonth_index (y m : Int) :
    12 * (normMonth y m).1 + (normMonth y m).2 = 12 * y + m ∧ 1 ≤ (normMonth y m).2 ∧ (normMonth y m).2 ≤ 12 := by
  unfold normMonth
  simp only []
  omega

theorem payMonthOf_index (now months : Int) :
    12 * (payMonthOf now months).1 + (payMonthOf now months).2 =
      12 * (civilFromDays (now / 86400)).y + ((civilFromDays (now / 86400)).m + (months + payOffOf now)) ∧
    1 ≤ (payMonthOf now months).2 ∧ (payMonthOf now months).2 ≤ 12 :=
  normMonth_index _ _

/-- day number of the `pd`-th of the month whose (civil) month index is `12·y + m` -/
theorem daysFromCivil_monthDay0 (y m pd : Int) (h1 : 1 ≤ m) (h2 : m ≤ 12) :
    daysFromCivil y m pd = monthDay0 (12 * y + m - 3) + (pd - 1) - 719468 := by
  obtain ⟨a, b, c⟩ := march_index y m h1 h2
  rw [daysFromCivil_eq, ← a, monthDay0_mk _ _ b c]
  rfl

theorem civilFromDays_range (z : Int) :
    1 ≤ (civilFromDays z).m ∧ (civilFromDays z).m ≤ 12 ∧ 1 ≤ (civilFromDays z).d ∧ (civilFromDays z).d ≤ 31 := by
  obtain ⟨-, h, r5⟩ := fromN_repr (z + 719468)
  obtain ⟨-, -, -, e4, e5⟩ := march_toCivil h.mp0 h.mp11
  exact ⟨e4, e5, Int.le_add_of_nonneg_left h.day0, Int.add_le_add_right r5 1⟩

/-- the two pay dates: the 15th with the months as given, or the 1st with one month more -/
theorem pay_cases (now : Int) :
    (payDayOf now = 15 ∧ payOffOf now = 0) ∨ (payDayOf now = 1 ∧ payOffOf now = 1) := by
  unfold payDayOf payOffOf
  split
  · exact Or.inl ⟨Mid_val, rfl⟩
  · exact Or.inr ⟨Beg_val, rfl⟩

/-- both pay days exist in every month -/
theorem payDay_civil (now y m : Int) (h1 : 1 ≤ m) (h2 : m ≤ 12) :
    civilFromDays (daysFromCivil y m (payDayOf now)) = ⟨y, m, payDayOf now⟩ := by
  have := (daysInMonth_bounds y m).1
  have := pay_cases now
  exact civilFromDays_daysFromCivil y m _ h1 h2 (by omega) (by omega)

theorem payDate_eq (now months : Int) :
    payDate now months =
      daysFromCivil (payMonthOf now months).1 (payMonthOf now months).2 (payDayOf now) * 86400
        + PaymentHour * 3600 := by
  obtain ⟨hm1, hm2, -, -⟩ := civilFromDays_range (now / 86400)
  have hA := payDay_civil now (civilFromDays (now / 86400)).y _ hm1 hm2
  unfold payDate
  simp only []
  unfold payDayOf at hA
  unfold payMonthOf payOffOf payDayOf
  rw [hA]

/-- the block time's day and the pay date on the month index: `K` is the month of `now` -/
theorem payDate_closed (now : Int) :
    ∃ K d0 : Int, 0 ≤ d0 ∧ d0 ≤ 30 ∧ now / 86400 = monthDay0 K + d0 - 719468 ∧
      ∀ months, payDate now months =
        (monthDay0 (K + (months + payOffOf now)) + (payDayOf now - 1) - 719468) * 86400 + 50400 := by
  obtain ⟨hm1, hm2, hd1, hd2⟩ := civilFromDays_range (now / 86400)
  have hz := daysFromCivil_civilFromDays (now / 86400)
  rw [daysFromCivil_monthDay0 _ _ _ hm1 hm2] at hz
  generalize hK : 12 * (civilFromDays (now / 86400)).y + (civilFromDays (now / 86400)).m - 3 = K at hz
  refine ⟨K, _, by omega, by omega, hz.symm, fun months => ?_⟩
  obtain ⟨n1, n2, n3⟩ := payMonthOf_index now months
  rw [payDate_eq, daysFromCivil_monthDay0 _ _ _ n2 n3, Hour_val,
    show 12 * _ + _ - 3 = K + (months + payOffOf now) by omega]
  omega

/-- the pay date is strictly after the block time: at least 28 days of months plus the pay day against at most
    30 days into the current month -/
theorem payDate_after (now months : Int) (hm : 0 < months) : now < payDate now months := by
  obtain ⟨K, d0, h0, h1, hz, he⟩ := payDate_closed now
  have hp := pay_cases now
  have mono := monthDay0_mono K (months + payOffOf now) (by omega)
  rw [he months]
  generalize monthDay0 (K + (months + payOffOf now)) = a at *
  generalize monthDay0 K = b at *
  omega

theorem payDate_mono (now m1 m2 : Int) (h : m1 ≤ m2) :
    payDate now m1 + 28 * 86400 * (m2 - m1) ≤ payDate now m2 := by
  obtain ⟨K, d0, h0, h1, hz, he⟩ := payDate_closed now
  rw [he m1, he m2]
  have mono := monthDay0_mono (K + (m1 + payOffOf now)) (m2 - m1) (by omega)
  have e : K + (m1 + payOffOf now) + (m2 - m1) = K + (m2 + payOffOf now) := by omega
  rw [e] at mono
  generalize monthDay0 (K + (m2 + payOffOf now)) = a at *
  generalize monthDay0 (K + (m1 + payOffOf now)) = b at *
  omega

theorem payDate_civil (now months : Int) :
    civilFromDays (payDate now months / 86400) =
      ⟨(payMonthOf now months).1, (payMonthOf now months).2, payDayOf now⟩ ∧
    payDate now months % 86400 = PaymentHour * 3600 := by
  rw [payDate_eq, Hour_val]
  obtain ⟨-, n2, n3⟩ := payMonthOf_index now months
  have hA := payDay_civil now (payMonthOf now months).1 _ n2 n3
  generalize daysFromCivil (payMonthOf now months).1 (payMonthOf now months).2 (payDayOf now) = D at *
  have e1 : (D * 86400 + 14 * 3600) / 86400 = D := by omega
  have e2 : (D * 86400 + 14 * 3600) % 86400 = 14 * 3600 := by omega
  rw [e1, e2]
  exact ⟨hA, rfl⟩

theorem getPeriodLength_nonneg (now months : Int) (h : 0 ≤ months) :
    getPeriodLength now months = .ok (if months = 0 then 0 else payDate now months - now) := by
  unfold getPeriodLength
  rw [if_neg (by omega)]
  split <;> rfl

theorem getPeriodLength_pos (now months : Int) (h : 0 < months) :
    getPeriodLength now months = .ok (payDate now months - now) := by
  rw [getPeriodLength_nonneg now months (by omega), if_neg (by omega)]

theorem epoch : daysFromCivil 1970 1 1 = 0 := by decide

theorem next_day (y m d : Int) : daysFromCivil y m (d + 1) = daysFromCivil y m d + 1 := by
  unfold daysFromCivil; simp only []; omega

/-- the next month is given by its index, so that December → January is the same case as the others -/
theorem nextMonth_first (y m y' m' : Int) (h1 : 1 ≤ m) (h2 : m ≤ 12) (h1' : 1 ≤ m') (h2' : m' ≤ 12)
    (e : 12 * y' + m' = 12 * y + m + 1) : daysFromCivil y' m' 1 = daysFromCivil y m 1 + daysInMonth y m := by
  obtain ⟨a, b, c⟩ := march_index y m h1 h2
  have h := monthDay0_succ (marchY y m) (marchM m) (1 - 1) b c
  simp only [toCivil_march y m 1 h1 h2, a] at h
  rw [daysFromCivil_monthDay0 y' m' 1 h1' h2', daysFromCivil_monthDay0 y m 1 h1 h2,
    show 12 * y' + m' - 3 = 12 * y + m - 3 + 1 by omega, h]
  omega

theorem month_length (y m : Int) (h1 : 1 ≤ m) (h2 : m ≤ 11) :
    daysFromCivil y (m + 1) 1 = daysFromCivil y m 1 + daysInMonth y m :=
  nextMonth_first y m y (m + 1) h1 (by omega) (by omega) (by omega) (by omega)

theorem december_length (y : Int) : daysFromCivil (y + 1) 1 1 = daysFromCivil y 12 1 + 31 :=
  nextMonth_first y 12 (y + 1) 1 (by decide) (by decide) (by decide) (by decide) (by omega)

end KV.Vest.Cal
