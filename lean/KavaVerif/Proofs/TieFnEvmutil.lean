/-
  Source tie ("tie 1b") for x/evmutil/keeper/conversion_evm_native_bep3.go: the Lean definitions REGENERATED from the Go source on every run
  (Generated/FnEvmutil.lean, tools/extract/fn*.go) equal the hand-written model functions the C10 theorems are
  about.  An edit of a Go function changes the generated definition and its equality proof stops checking.
  Encoding: `*big.Int` = `Int`.  Model/Evmutil.lean inlines the three helpers in `coinToErc` / `ercToCoin`
  (`amt * F`, `amt / F`, `amt / F * F`, error when `amt / F = 0`, `F` = the regenerated 10^10): the theorems are
  stated with exactly those expressions.
-/
import KavaVerif.Generated.FnEvmutil
import KavaVerif.Model.Evmutil
import KavaVerif.Proofs.TieFnBase

namespace KV.TieFn
open KV KV.Go

theorem evmutil_convertBep3CoinAmountToERC20Amount (amt : Int) :
    GoFn.Evmutil.convertBep3CoinAmountToERC20Amount_translated = true ∧
    GoFn.Evmutil.convertBep3CoinAmountToERC20Amount amt = R.ok (amt * KV.EU.F) := by
  refine ⟨rfl, ?_⟩
  simp only [GoFn.Evmutil.convertBep3CoinAmountToERC20Amount, KV.EU.F, KV.Gen.bep3ConversionFactor]
  rfl

theorem evmutil_convertBep3ERC20AmountToCoinAmount (amt : Int) :
    GoFn.Evmutil.convertBep3ERC20AmountToCoinAmount_translated = true ∧
    GoFn.Evmutil.convertBep3ERC20AmountToCoinAmount amt = R.ok (amt / KV.EU.F) := by
  refine ⟨rfl, ?_⟩
  simp only [GoFn.Evmutil.convertBep3ERC20AmountToCoinAmount, Go.bigDiv, KV.EU.F, KV.Gen.bep3ConversionFactor]
  rfl

theorem evmutil_bep3ERC20AmountToCoinMintAndERC20LockAmount (amt : Int) :
    GoFn.Evmutil.bep3ERC20AmountToCoinMintAndERC20LockAmount_translated = true ∧
    GoFn.Evmutil.bep3ERC20AmountToCoinMintAndERC20LockAmount amt
      = (if amt / KV.EU.F = 0 then R.err else R.ok (amt / KV.EU.F, amt / KV.EU.F * KV.EU.F)) := by
  refine ⟨rfl, ?_⟩
  simp only [GoFn.Evmutil.bep3ERC20AmountToCoinMintAndERC20LockAmount,
    (evmutil_convertBep3ERC20AmountToCoinAmount _).2, (evmutil_convertBep3CoinAmountToERC20Amount _).2]
  tie_norm
end KV.TieFn
