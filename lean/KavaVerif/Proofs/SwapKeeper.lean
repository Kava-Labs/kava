/-
  Helper lemmas for C07 (x/swap keeper): finite sums with a point update, the keeper invariant
  (custody, shares sum, record validity), what a successful message changes (`Moved`: one pool record, one
  share record, coins between the sender and the module account) and the facts each message guarantees
  (`DepositOk`, `WithdrawOk`, `SwapOk`), preservation of the invariant, and the absence of panics on
  states satisfying it.  Property statements are in KavaVerif/Props/C07.lean.  Core Lean only.
-/
import KavaVerif.Proofs.Swap
set_option linter.unusedVariables false
namespace KV.SW

def sumL {α : Type} (l : List α) (f : α → Int) : Int := (l.map f).foldr (· + ·) 0

theorem sumL_nil {α : Type} (f : α → Int) : sumL [] f = 0 := rfl
theorem sumL_cons {α : Type} (x : α) (xs : List α) (f : α → Int) : sumL (x :: xs) f = f x + sumL xs f := rfl

theorem sumL_zero {α : Type} (l : List α) {f : α → Int} (h : ∀ x, f x = 0) : sumL l f = 0 := by
  induction l with
  | nil => rfl
  | cons x xs ih => rw [sumL_cons, h x, ih, Int.zero_add]

theorem sumL_congr {α : Type} (l : List α) (f g : α → Int) (h : ∀ x ∈ l, g x = f x) :
    sumL l g = sumL l f := by
  induction l with
  | nil => rfl
  | cons x xs ih =>
    rw [sumL_cons, sumL_cons, h x (List.mem_cons_self), ih (fun y hy => h y (List.mem_cons_of_mem _ hy))]

theorem sumL_update {α : Type} (l : List α) (f g : α → Int) (a : α) (hn : l.Nodup) (ha : a ∈ l)
    (h : ∀ x, x ≠ a → g x = f x) : sumL l g = sumL l f - f a + g a := by
  induction l with
  | nil => cases ha
  | cons x xs ih =>
    rw [sumL_cons, sumL_cons]
    have hnd := List.nodup_cons.mp hn
    by_cases hx : x = a
    · subst hx
      have : sumL xs g = sumL xs f := sumL_congr xs f g (fun y hy => h y (fun e => hnd.1 (e ▸ hy)))
      omega
    · have hin : a ∈ xs := by
        cases ha with
        | head => exact absurd rfl hx
        | tail _ h' => exact h'
      have := ih hnd.2 hin
      have := h x hx
      omega

theorem sumL_nonneg {α : Type} (l : List α) (f : α → Int) (h : ∀ x, 0 ≤ f x) : 0 ≤ sumL l f := by
  induction l with
  | nil => exact Int.le_refl 0
  | cons x xs ih => rw [sumL_cons]; have := h x; omega

theorem sumL_ge_mem {α : Type} (l : List α) (f : α → Int) (h : ∀ x, 0 ≤ f x) (a : α) (ha : a ∈ l) :
    f a ≤ sumL l f := by
  induction l with
  | nil => cases ha
  | cons x xs ih =>
    rw [sumL_cons]
    cases ha with
    | head => have := sumL_nonneg xs f h; omega
    | tail _ h' => have := ih h'; have := h x; omega

/-- reserves of a pool record in denomination `d` -/
def resv (pid : PoolId) (p : Option Pool) (d : Denom) : Int :=
  match p with
  | none => 0
  | some p => (if pid.lo = d then p.a else 0) + (if pid.hi = d then p.b else 0)

def totalShares : Option Pool → Int
  | none => 0
  | some p => p.s

/-- `accts`: the accounts that ever act; `pids`: the pool ids that may ever exist (the allowed pools
    of all parameter sets of the history). -/
structure Inv (M : Addr) (accts : List Addr) (pids : List PoolId) (s : KSt) : Prop where
  /-- the module account holds exactly the sum of all pool reserves, per denomination -/
  custody : ∀ d, s.bal M d = sumL pids (fun pid => resv pid (s.pool pid) d)
  /-- each pool's total shares are the sum of its depositors' shares -/
  shares : ∀ pid, totalShares (s.pool pid) = sumL accts (fun a => s.sh a pid)
  known : ∀ pid, s.pool pid ≠ none → pid ∈ pids
  valid : ∀ pid p, s.pool pid = some p → 0 < p.a ∧ 0 < p.b ∧ 0 < p.s
  shNonneg : ∀ a pid, 0 ≤ s.sh a pid

/-- the record a missing pool stands for -/
def recOr0 (r : Option Pool) : Pool := r.getD ⟨0, 0, 0⟩

theorem resv_eq (pid : PoolId) (r : Option Pool) (d : Denom) :
    resv pid r d = (if d = pid.lo then (recOr0 r).a else 0) + (if d = pid.hi then (recOr0 r).b else 0) := by
  cases r with
  | none => simp only [resv, recOr0, Option.getD]; split <;> split <;> rfl
  | some p => simp only [resv, recOr0, Option.getD, eq_comm (a := d)]

theorem totalShares_eq (r : Option Pool) : totalShares r = (recOr0 r).s := by
  cases r <;> rfl

theorem resv_add {pid : PoolId} {new old : Option Pool} {x y : Int}
    (ha : (recOr0 new).a = (recOr0 old).a + x) (hb : (recOr0 new).b = (recOr0 old).b + y) (d : Denom) :
    resv pid new d = resv pid old d + (if d = pid.lo then x else 0) + (if d = pid.hi then y else 0) := by
  rw [resv_eq, resv_eq, ha, hb]; split <;> split <;> omega

namespace RemSpec

/-- the record `updatePool` leaves after a withdrawal: deleted exactly when nothing is left -/
theorem recOr0_stored {p p' : Pool} {sh wa wb : Int} (h : RemSpec p p' sh wa wb) :
    recOr0 (if p'.s = 0 then none else some p') = p' := by
  by_cases hz : p'.s = 0
  · have : sh = p.s := by have := h.s_eq; omega
    subst this
    rw [if_pos hz, h.all.2.2]; rfl
  · rw [if_neg hz]; rfl

end RemSpec

/-- `s'` differs from `s` in the record of pool `pid` (now `new`), in the share record of `who` in that pool
    (now `v`), and by `who` paying `x₁` of `d₁` and `x₂` of `d₂` to the module account (negative = receiving).
    Every successful message has this form. -/
structure Moved (M : Addr) (s s' : KSt) (who : Addr) (pid : PoolId) (new : Option Pool) (v : Int)
    (d₁ : Denom) (x₁ : Int) (d₂ : Denom) (x₂ : Int) : Prop where
  pool : ∀ q, s'.pool q = if q = pid then new else s.pool q
  sh : ∀ a q, s'.sh a q = if a = who ∧ q = pid then v else s.sh a q
  bal : ∀ a e, s'.bal a e = s.bal a e
      - (if a = who ∧ e = d₁ then x₁ else 0) + (if a = M ∧ e = d₁ then x₁ else 0)
      - (if a = who ∧ e = d₂ then x₂ else 0) + (if a = M ∧ e = d₂ then x₂ else 0)

namespace Moved
variable {M : Addr} {s s' : KSt} {who : Addr} {pid : PoolId} {new : Option Pool} {v : Int}
  {d₁ d₂ : Denom} {x₁ x₂ : Int}

theorem bal_who (m : Moved M s s' who pid new v d₁ x₁ d₂ x₂) (hwM : who ≠ M) (e : Denom) :
    s'.bal who e = s.bal who e - (if e = d₁ then x₁ else 0) - (if e = d₂ then x₂ else 0) := by
  rw [m.bal who e]; simp only [hwM, false_and, true_and, ite_false, Int.add_zero]

theorem bal_M (m : Moved M s s' who pid new v d₁ x₁ d₂ x₂) (hwM : who ≠ M) (e : Denom) :
    s'.bal M e = s.bal M e + (if e = d₁ then x₁ else 0) + (if e = d₂ then x₂ else 0) := by
  have hMw : ¬ M = who := fun e => hwM e.symm
  rw [m.bal M e]; simp only [hMw, false_and, true_and, ite_false, Int.sub_zero]

theorem paid₁ (m : Moved M s s' who pid new v d₁ x₁ d₂ x₂) (hwM : who ≠ M) (hne : d₁ ≠ d₂) :
    s.bal who d₁ - s'.bal who d₁ = x₁ := by
  rw [m.bal_who hwM, if_pos rfl, if_neg hne]; omega

theorem paid₂ (m : Moved M s s' who pid new v d₁ x₁ d₂ x₂) (hwM : who ≠ M) (hne : d₁ ≠ d₂) :
    s.bal who d₂ - s'.bal who d₂ = x₂ := by
  rw [m.bal_who hwM, if_neg (Ne.symm hne), if_pos rfl]; omega

theorem got₁ (m : Moved M s s' who pid new v d₁ x₁ d₂ x₂) (hwM : who ≠ M) (hne : d₁ ≠ d₂) :
    s'.bal M d₁ - s.bal M d₁ = x₁ := by
  rw [m.bal_M hwM, if_pos rfl, if_neg hne]; omega

theorem got₂ (m : Moved M s s' who pid new v d₁ x₁ d₂ x₂) (hwM : who ≠ M) (hne : d₁ ≠ d₂) :
    s'.bal M d₂ - s.bal M d₂ = x₂ := by
  rw [m.bal_M hwM, if_neg (Ne.symm hne), if_pos rfl]; omega

theorem inv {accts : List Addr} {pids : List PoolId} (m : Moved M s s' who pid new v d₁ x₁ d₂ x₂)
    (h : Inv M accts pids s) (hnA : accts.Nodup) (hnP : pids.Nodup) (hw : who ∈ accts) (hwM : who ≠ M)
    (hp : pid ∈ pids) (hv : 0 ≤ v) (hvalid : ∀ p, new = some p → 0 < p.a ∧ 0 < p.b ∧ 0 < p.s)
    (hres : ∀ d, resv pid new d =
      resv pid (s.pool pid) d + (if d = d₁ then x₁ else 0) + (if d = d₂ then x₂ else 0))
    (hshares : totalShares new - totalShares (s.pool pid) = v - s.sh who pid) :
    Inv M accts pids s' := by
  refine ⟨?_, ?_, ?_, ?_, ?_⟩
  · intro d
    have := sumL_update pids (fun q => resv q (s.pool q) d) (fun q => resv q (s'.pool q) d) pid hnP hp
      (by intro x hx; simp only [m.pool x, hx, ite_false])
    simp only [m.pool pid, ite_true] at this
    rw [m.bal_M hwM d, h.custody d, this, hres d]; omega
  · intro q
    by_cases hq : q = pid
    · subst hq
      have := sumL_update accts (fun a => s.sh a q) (fun a => s'.sh a q) who hnA hw
        (by intro x hx; simp only [m.sh x q, hx, false_and, ite_false])
      simp only [m.sh who q, and_self, ite_true] at this
      rw [this, m.pool q, if_pos rfl]
      have := h.shares q
      omega
    · rw [m.pool q, if_neg hq, h.shares q]
      exact (sumL_congr accts _ _ (by intro x _; simp only [m.sh x q, hq, and_false, ite_false])).symm
  · intro q hq
    by_cases hqp : q = pid
    · subst hqp; exact hp
    · rw [m.pool q, if_neg hqp] at hq; exact h.known q hq
  · intro q p hq
    by_cases hqp : q = pid
    · subst hqp; rw [m.pool q, if_pos rfl] at hq; exact hvalid p hq
    · rw [m.pool q, if_neg hqp] at hq; exact h.valid q p hq
  · intro a q
    rw [m.sh a q]; split
    · exact hv
    · exact h.shNonneg a q

end Moved

theorem upd_upd {α β γ : Type} [DecidableEq α] [DecidableEq β] (f : α → β → γ) (a : α) (d : β) (v : γ)
    (x : α) (e : β) : upd f a (upd (f a) d v) x e = if x = a ∧ e = d then v else f x e := by
  unfold upd
  by_cases h1 : x = a
  · subst h1; by_cases h2 : e = d <;> simp only [h2, ite_true, ite_false, and_true, and_false]
  · simp only [h1, ite_false, false_and]

theorem sendCoin_eff {bal b' : Addr → Denom → Int} {frm to : Addr} {d : Denom} {amt : Int}
    (h : sendCoin bal frm to d amt = some b') (a : Addr) (e : Denom) :
    b' a e = bal a e - (if a = frm ∧ e = d then amt else 0) + (if a = to ∧ e = d then amt else 0) := by
  unfold sendCoin at h
  obtain ⟨-, h⟩ := of_ite h
  cases h
  simp only [upd_upd]
  by_cases h1 : a = to ∧ e = d
  · obtain ⟨rfl, rfl⟩ := h1
    by_cases h2 : a = frm <;> simp only [h2, and_self, and_true, ite_true, ite_false] <;> omega
  · by_cases h2 : a = frm ∧ e = d
    · obtain ⟨rfl, rfl⟩ := h2
      have h1' : ¬ a = to := fun h => h1 ⟨h, rfl⟩
      simp only [h1', and_self, false_and, ite_true, ite_false]; omega
    · simp only [h1, h2, ite_false]; omega

/-- the same transfer read from the receiving side -/
theorem sendCoin_back {bal b' : Addr → Denom → Int} {frm to : Addr} {d : Denom} {amt : Int}
    (h : sendCoin bal frm to d amt = some b') (a : Addr) (e : Denom) :
    b' a e = bal a e - (if a = to ∧ e = d then -amt else 0) + (if a = frm ∧ e = d then -amt else 0) := by
  rw [sendCoin_eff h a e]; split <;> split <;> omega

theorem sendCoin_none {bal : Addr → Denom → Int} {frm to : Addr} {d : Denom} {amt : Int}
    (h : sendCoin bal frm to d amt = none) : bal frm d < amt := by
  unfold sendCoin at h
  split at h
  · assumption
  · cases h

theorem setPool_eff {s s1 : KSt} {pid : PoolId} {p : Pool} (h : setPool s pid p = some s1) :
    s1.sh = s.sh ∧ s1.bal = s.bal ∧ (∀ q, s1.pool q = if q = pid then some p else s.pool q) ∧
    0 < p.a ∧ 0 < p.b ∧ 0 < p.s := by
  unfold setPool at h
  obtain ⟨hc, h⟩ := of_ite h
  cases h
  exact ⟨rfl, rfl, fun q => rfl, by omega, by omega, by omega⟩

theorem setPool_none {s : KSt} {pid : PoolId} {p : Pool} (h : setPool s pid p = none) :
    p.a ≤ 0 ∨ p.b ≤ 0 ∨ p.s ≤ 0 := by
  unfold setPool at h
  split at h
  · assumption
  · cases h

theorem updatePool_eff {s s1 : KSt} {pid : PoolId} {p : Pool} (h : updatePool s pid p = some s1) :
    s1.sh = s.sh ∧ s1.bal = s.bal ∧
    (∀ q, s1.pool q = if q = pid then (if p.s = 0 then none else some p) else s.pool q) ∧
    (p.s ≠ 0 → 0 < p.a ∧ 0 < p.b ∧ 0 < p.s) := by
  unfold updatePool at h
  split at h
  · rename_i hz
    cases h
    refine ⟨rfl, rfl, ?_, fun hn => absurd hz hn⟩
    intro q; simp only [upd, hz, ite_true]
  · rename_i hz
    obtain ⟨e1, e2, e3, e4⟩ := setPool_eff h
    refine ⟨e1, e2, ?_, fun _ => e4⟩
    intro q; rw [e3 q]; simp only [hz, ite_false]

theorem updatePool_none {s : KSt} {pid : PoolId} {p : Pool} (h : updatePool s pid p = none) :
    p.s ≠ 0 ∧ (p.a ≤ 0 ∨ p.b ≤ 0 ∨ p.s ≤ 0) := by
  unfold updatePool at h
  obtain ⟨hz, h⟩ := of_ite h
  exact ⟨hz, setPool_none h⟩

theorem updateShares_eff {s s2 : KSt} {who : Addr} {pid : PoolId} {v : Int}
    (h : updateShares s who pid v = some s2) :
    s2.pool = s.pool ∧ s2.bal = s.bal ∧
    (∀ a q, s2.sh a q = if a = who ∧ q = pid then v else s.sh a q) := by
  unfold updateShares at h
  obtain ⟨-, h⟩ := of_ite h
  cases h
  exact ⟨rfl, rfl, fun a q => upd_upd s.sh who pid v a q⟩

theorem updateShares_none {s : KSt} {who : Addr} {pid : PoolId} {v : Int}
    (h : updateShares s who pid v = none) : v < 0 := by
  unfold updateShares at h
  split at h
  · assumption
  · cases h

theorem loadRecord_some {r p : Pool} (h : loadRecord r = some p) : p = r ∧ 0 < r.a ∧ 0 < r.b ∧ 0 < r.s := by
  unfold loadRecord newBasePoolWithShares at h
  obtain ⟨h1, h⟩ := of_ite h
  obtain ⟨h2, h⟩ := of_ite h
  cases h
  exact ⟨rfl, by omega, by omega, by omega⟩

theorem loadRecord_valid {r : Pool} (ha : 0 < r.a) (hb : 0 < r.b) (hs : 0 < r.s) : loadRecord r = some r := by
  unfold loadRecord newBasePoolWithShares
  rw [if_neg (by omega), if_neg (by omega)]

theorem poolId_cases {x y : Nat} (hne : x ≠ y) :
    (poolId x y).lo ≠ (poolId x y).hi ∧
    ((x = (poolId x y).lo ∧ y = (poolId x y).hi ∧ ¬ y < x) ∨
     (x = (poolId x y).hi ∧ y = (poolId x y).lo ∧ y < x)) := by
  unfold poolId
  by_cases h : y < x
  · rw [if_pos h]; exact ⟨by show y ≠ x; omega, Or.inr ⟨rfl, rfl, h⟩⟩
  · rw [if_neg h]; exact ⟨by show x ≠ y; omega, Or.inl ⟨rfl, rfl, h⟩⟩

theorem poolId_comm (x y : Nat) (hne : x ≠ y) : poolId x y = poolId y x := by
  unfold poolId
  by_cases h : y < x
  · rw [if_pos h, if_neg (show ¬ x < y by omega)]
  · rw [if_neg h, if_pos (show x < y by omega)]

/-- a deposit or withdrawal may name the two coins of its pool in either order: what `who` paid of the coin
    named first and of the coin named second -/
theorem Moved.paid_sorted {M : Addr} {s s' : KSt} {who : Addr} {dA dB : Denom} {new : Option Pool} {v xLo xHi : Int}
    (m : Moved M s s' who (poolId dA dB) new v (poolId dA dB).lo xLo (poolId dA dB).hi xHi)
    (hwM : who ≠ M) (hne : dA ≠ dB) :
    s.bal who dA - s'.bal who dA = (if dB < dA then xHi else xLo) ∧
    s.bal who dB - s'.bal who dB = (if dB < dA then xLo else xHi) := by
  obtain ⟨hlh, hcase⟩ := poolId_cases hne
  have pL := m.paid₁ hwM hlh
  have pH := m.paid₂ hwM hlh
  rcases hcase with ⟨h1, h2, hc⟩ | ⟨h1, h2, hc⟩
  · rw [if_neg hc, if_neg hc]; rw [← h1] at pL; rw [← h2] at pH; exact ⟨pL, pH⟩
  · rw [if_pos hc, if_pos hc]; rw [← h2] at pL; rw [← h1] at pH; exact ⟨pH, pL⟩

/-- `Deposit` refuses when it would take nothing of one of the two coins, in the order the message names them -/
theorem sorted_pos {c : Prop} [Decidable c] {x y : Int} (hx : 0 ≤ x) (hy : 0 ≤ y)
    (hz : ¬ ((if c then y else x) = 0 ∨ (if c then x else y) = 0)) : 0 < x ∧ 0 < y := by
  split at hz <;> omega

/-- the pool part of `Deposit`: `AddLiquidity` on the loaded record, or a new pool (the empty record) -/
theorem depositPool_spec {prm : Params} {pid : PoolId} {rec : Option Pool} {xLo xHi : Int} {p' : Pool}
    {dLo dHi sh : Int} (h : depositPool prm pid rec xLo xHi = .ok (p', dLo, dHi, sh)) :
    AddSpec (recOr0 rec) p' xLo xHi dLo dHi sh ∧ (rec = none → prm.allowed pid = true) ∧
    0 ≤ (recOr0 rec).a ∧ 0 ≤ (recOr0 rec).b ∧ 0 ≤ (recOr0 rec).s := by
  revert h
  fun_cases depositPool prm pid rec xLo xHi <;> intro h <;> cases h
  · rename_i r p hl hv
    obtain ⟨rfl, ra, rb, rs⟩ := loadRecord_some hl
    exact ⟨addLiquidity_spec ra rb (Int.le_of_lt rs) hv, nofun,
      Int.le_of_lt ra, Int.le_of_lt rb, Int.le_of_lt rs⟩
  · rename_i hal hq
    unfold newBasePool at hq
    obtain ⟨hpos, hq⟩ := of_ite hq
    cases hq
    have := initialShares_nonneg xLo xHi
    refine ⟨⟨?_, ?_, ?_, ?_, ?_, ?_, ?_, this, ?_, ?_⟩, fun _ => by simpa using hal, ?_, ?_, ?_⟩ <;>
      simp only [recOr0, Option.getD] <;> omega

/-- everything a successful `Deposit` did: the pool part returned `(p', depLo, depHi, sh)` -/
structure DepositOk (M : Addr) (prm : Params) (s s' : KSt) (who : Addr) (dA : Denom) (xA : Int) (dB : Denom)
    (xB : Int) (slip : Dec) (p' : Pool) (depLo depHi sh : Int) : Prop where
  ne : dA ≠ dB
  add : AddSpec (recOr0 (s.pool (poolId dA dB))) p' (if dB < dA then xB else xA) (if dB < dA then xA else xB)
    depLo depHi sh
  allowed : s.pool (poolId dA dB) = none → prm.allowed (poolId dA dB) = true
  pos : 0 < sh ∧ 0 < depLo ∧ 0 < depHi
  valid : 0 < p'.a ∧ 0 < p'.b ∧ 0 < p'.s
  slip : (Dec.sub (Dec.max (Dec.quo (Dec.ofInt xA) (Dec.ofInt (if dB < dA then depHi else depLo)))
      (Dec.quo (Dec.ofInt xB) (Dec.ofInt (if dB < dA then depLo else depHi)))) Dec.one).m ≤ slip.m
  moved : Moved M s s' who (poolId dA dB) (some p') (s.sh who (poolId dA dB) + sh)
    (poolId dA dB).lo depLo (poolId dA dB).hi depHi

theorem deposit_ok {M : Addr} {prm : Params} {s s' : KSt} {who : Addr} {dA : Denom} {xA : Int} {dB : Denom}
    {xB : Int} {slip : Dec} (hok : deposit M prm s who dA xA dB xB slip = .ok s') :
    ∃ p' depLo depHi sh, DepositOk M prm s s' who dA xA dB xB slip p' depLo depHi sh := by
  revert hok
  fun_cases deposit M prm s who dA xA dB xB slip <;> intro hok <;> cases hok
  rename_i hg pid xLo xHi p' depLo depHi sh hdp depA depB hz hsz maxChange slippage hslip s1 hup s2 hus b1 hc1
    b2 hc2
  obtain ⟨ad, hal, -, -, os⟩ := depositPool_spec hdp
  obtain ⟨u1, u2, u3, u4⟩ := updatePool_eff hup
  obtain ⟨v1, v2, v4⟩ := updateShares_eff hus
  have hsh0 : 0 < sh := by have := ad.sh_nonneg; omega
  have hps : p'.s ≠ 0 := by have := ad.s_eq; omega
  have hd := sorted_pos ad.a_nonneg ad.b_nonneg hz
  refine ⟨p', depLo, depHi, sh, fun e => hg (.inr (.inr (.inl e))), ad, hal, ⟨hsh0, hd⟩, u4 hps,
    Int.not_lt.mp hslip, ?_, ?_, ?_⟩
  · intro q; rw [v1, u3 q, if_neg hps]
  · intro a q; rw [v4 a q, u1]
  · intro a e; show b2 a e = _; rw [sendCoin_eff hc2 a e, sendCoin_eff hc1 a e, v2, u2]

/-- everything a successful `Withdraw` did: `(p', wLo, wHi)` is what `RemoveLiquidity` returned on the
    stored record `r` -/
structure WithdrawOk (M : Addr) (s s' : KSt) (who : Addr) (shares : Int) (dA : Denom) (minA : Int) (dB : Denom)
    (minB : Int) (r p' : Pool) (wLo wHi : Int) : Prop where
  ne : dA ≠ dB
  found : s.pool (poolId dA dB) = some r
  valid : 0 < r.a ∧ 0 < r.b ∧ 0 < r.s
  owned : shares ≤ s.sh who (poolId dA dB)
  rem : RemSpec r p' shares wLo wHi
  minA : minA ≤ (if dB < dA then wHi else wLo)
  minB : minB ≤ (if dB < dA then wLo else wHi)
  stored : p'.s ≠ 0 → 0 < p'.a ∧ 0 < p'.b ∧ 0 < p'.s
  moved : Moved M s s' who (poolId dA dB) (if p'.s = 0 then none else some p')
    (s.sh who (poolId dA dB) - shares) (poolId dA dB).lo (-wLo) (poolId dA dB).hi (-wHi)

theorem withdraw_ok {M : Addr} {s s' : KSt} {who : Addr} {shares : Int} {dA : Denom} {minA : Int} {dB : Denom}
    {minB : Int} (hok : withdraw M s who shares dA minA dB minB = .ok s') :
    ∃ r p' wLo wHi, WithdrawOk M s s' who shares dA minA dB minB r p' wLo wHi := by
  revert hok
  fun_cases withdraw M s who shares dA minA dB minB <;> intro hok <;> cases hok
  rename_i hg pid owned _ hown r hr p hload p' wLo wHi hrem wA wB hz hmin s1 hup s2 hus b1 hc1 b2 hc2
  obtain ⟨rfl, ra, rb, rs⟩ := loadRecord_some hload
  obtain ⟨u1, u2, u3, u4⟩ := updatePool_eff hup
  obtain ⟨v1, v2, v4⟩ := updateShares_eff hus
  refine ⟨p, p', wLo, wHi, fun e => hg (.inr (.inr (.inr e))), hr, ⟨ra, rb, rs⟩, Int.not_lt.mp hown,
    removeLiquidity_spec (by omega) (by omega) hrem, by omega, by omega, u4, ?_, ?_, ?_⟩
  · intro q; rw [v1, u3 q]
  · intro a q; rw [v4 a q, u1]
  · intro a e; show b2 a e = _
    rw [sendCoin_back hc2 a e, sendCoin_back hc1 a e, v2, u2]

theorem commitSwap_ok {M : Addr} {s s' : KSt} {pid : PoolId} {p' : Pool} {who : Addr} {dIn : Denom} {xIn : Int}
    {dOut : Denom} {xOut : Int} (h : commitSwap M s pid p' who dIn xIn dOut xOut = .ok s') :
    (0 < p'.a ∧ 0 < p'.b ∧ 0 < p'.s) ∧ Moved M s s' who pid (some p') (s.sh who pid) dIn xIn dOut (-xOut) := by
  revert h
  fun_cases commitSwap M s pid p' who dIn xIn dOut xOut <;> intro h <;> cases h
  rename_i s1 hset b1 hc1 b2 hc2
  obtain ⟨u1, u2, u3, hv⟩ := setPool_eff hset
  refine ⟨hv, u3, ?_, ?_⟩
  · intro a q; show s1.sh a q = _; rw [u1]; split
    · rename_i hc; rw [hc.1, hc.2]
    · rfl
  · intro a e; show b2 a e = _
    rw [sendCoin_back hc2 a e, sendCoin_eff hc1 a e, u2]

/-- the accounting and the guarantees of the pool-level swap behind a keeper swap, by direction:
    reserves of the token paid in / paid out before and after -/
def rIn (p : Pool) (pid : PoolId) (dIn : Denom) : Int := if dIn = pid.lo then p.a else p.b
def rOut (p : Pool) (pid : PoolId) (dIn : Denom) : Int := if dIn = pid.lo then p.b else p.a

theorem dir_pos (p : Pool) (pid : PoolId) (d : Denom) :
    0 < rIn p pid d ∧ 0 < rOut p pid d ↔ 0 < p.a ∧ 0 < p.b := by
  unfold rIn rOut; split <;> omega

/-- the reserves of a record by denomination are those by direction of the trade; the one place where the
    pool's order of the two denominations is looked at -/
theorem resv_dir {dIn dOut : Nat} (hne : dIn ≠ dOut) (p : Pool) (d : Denom) :
    resv (poolId dIn dOut) (some p) d = (if d = dIn then rIn p (poolId dIn dOut) dIn else 0) +
      (if d = dOut then rOut p (poolId dIn dOut) dIn else 0) := by
  unfold rIn rOut
  rw [resv_eq]
  show (if d = (poolId dIn dOut).lo then p.a else 0) + (if d = (poolId dIn dOut).hi then p.b else 0) = _
  obtain ⟨-, ⟨h1, h2, -⟩ | ⟨h1, h2, -⟩⟩ := poolId_cases hne
  · rw [if_pos h1, if_pos h1, ← h1, ← h2]
  · have hd : ¬ dIn = (poolId dIn dOut).lo := fun e => hne (e.trans h2.symm)
    rw [if_neg hd, if_neg hd, ← h1, ← h2]
    exact Int.add_comm _ _

/-- `SwapWithExactInput`: the input denomination selects the direction -/
theorem poolSwapIn_spec {r p' : Pool} {dIn dOut : Nat} {xIn : Int} {fee : Dec} {out fv : Int}
    (ha : 0 < r.a) (hb : 0 < r.b)
    (h : (if dIn = (poolId dIn dOut).lo then swapExactAForB r xIn fee else swapExactBForA r xIn fee)
      = some (p', out, fv)) :
    SwapSpec (rIn r (poolId dIn dOut) dIn) (rOut r (poolId dIn dOut) dIn)
             (rIn p' (poolId dIn dOut) dIn) (rOut p' (poolId dIn dOut) dIn) xIn out fv fee.m ∧ p'.s = r.s := by
  unfold rIn rOut
  by_cases hd : dIn = (poolId dIn dOut).lo
  · simp only [if_pos hd] at h ⊢; exact swapExactAForB_spec ha hb h
  · simp only [if_neg hd] at h ⊢; exact swapExactBForA_spec ha hb h

/-- `SwapWithExactOutput`: the output denomination selects the direction -/
theorem poolSwapOut_spec {r p' : Pool} {dIn dOut : Nat} {xOut : Int} {fee : Dec} {inp fv : Int}
    (hne : dIn ≠ dOut) (ha : 0 < r.a) (hb : 0 < r.b)
    (h : (if dOut = (poolId dIn dOut).lo then swapBForExactA r xOut fee else swapAForExactB r xOut fee)
      = some (p', inp, fv)) :
    SwapSpec (rIn r (poolId dIn dOut) dIn) (rOut r (poolId dIn dOut) dIn)
             (rIn p' (poolId dIn dOut) dIn) (rOut p' (poolId dIn dOut) dIn) inp xOut fv fee.m ∧ p'.s = r.s ∧
      fv < inp := by
  unfold rIn rOut
  obtain ⟨-, ⟨h1, h2, -⟩ | ⟨h1, h2, -⟩⟩ := poolId_cases hne
  · have hd : ¬ dOut = (poolId dIn dOut).lo := fun e => hne (h1.trans e.symm)
    simp only [if_pos h1, if_neg hd] at h ⊢; exact swapAForExactB_spec ha h
  · have hd : ¬ dIn = (poolId dIn dOut).lo := fun e => hne (e.trans h2.symm)
    simp only [if_pos h2, if_neg hd] at h ⊢; exact swapBForExactA_spec hb h

/-- everything a successful keeper swap did: the trader paid `x` of `dIn` and received `y` of `dOut`, and the
    stored record `r` became `p'` by a pool-level swap with these amounts and fee part `fv` at rate `f`/10¹⁸ -/
structure SwapOk (M : Addr) (f : Int) (s s' : KSt) (who : Addr) (dIn : Denom) (x : Int) (dOut : Denom) (y : Int)
    (r p' : Pool) (fv : Int) : Prop where
  ne : dIn ≠ dOut
  found : s.pool (poolId dIn dOut) = some r
  spec : SwapSpec (rIn r (poolId dIn dOut) dIn) (rOut r (poolId dIn dOut) dIn)
    (rIn p' (poolId dIn dOut) dIn) (rOut p' (poolId dIn dOut) dIn) x y fv f
  shares : p'.s = r.s
  valid : 0 < p'.a ∧ 0 < p'.b ∧ 0 < p'.s
  moved : Moved M s s' who (poolId dIn dOut) (some p') (s.sh who (poolId dIn dOut)) dIn x dOut (-y)

/-- `SwapExactForTokens`; the slippage check is on the output -/
theorem swapExact_ok {M : Addr} {prm : Params} {s s' : KSt} {who : Addr} {dIn : Denom} {xIn : Int}
    {dOut : Denom} {minOut : Int} {slip : Dec}
    (hok : swapExactForTokens M prm s who dIn xIn dOut minOut slip = .ok s') :
    ∃ r p' out fv, SwapOk M prm.fee.m s s' who dIn xIn dOut out r p' fv ∧ 0 < minOut ∧ out ≠ 0 ∧
      slippageOk (Dec.quo (Dec.ofInt out) (Dec.ofInt minOut)) slip = true := by
  revert hok
  -- every branch but the last refuses outright; the last hands over to `commitSwap`
  fun_cases swapExactForTokens M prm s who dIn xIn dOut minOut slip <;> intro hok <;> try cases hok
  rename_i hg pid r hr p hload p' out fv hsw hz hsl
  obtain ⟨rfl, ra, rb, rs⟩ := loadRecord_some hload
  obtain ⟨sp, hs⟩ := poolSwapIn_spec ra rb hsw
  obtain ⟨hv, mv⟩ := commitSwap_ok hok
  exact ⟨p, p', out, fv, ⟨fun e => hg (.inr (.inr (.inl e))), hr, sp, hs, hv, mv⟩, by omega, hz,
    by simpa using hsl⟩

/-- `SwapForExactTokens`; the slippage check is on the input before the fee, which is positive -/
theorem swapForExact_ok {M : Addr} {prm : Params} {s s' : KSt} {who : Addr} {dIn : Denom} {maxIn : Int}
    {dOut : Denom} {xOut : Int} {slip : Dec}
    (hok : swapForExactTokens M prm s who dIn maxIn dOut xOut slip = .ok s') :
    ∃ r p' inp fv, SwapOk M prm.fee.m s s' who dIn inp dOut xOut r p' fv ∧ 0 < maxIn ∧ fv < inp ∧
      slippageOk (Dec.quo (Dec.ofInt maxIn) (Dec.ofInt (inp - fv))) slip = true := by
  revert hok
  fun_cases swapForExactTokens M prm s who dIn maxIn dOut xOut slip <;> intro hok <;> try cases hok
  rename_i hg pid r hr p hload hge p' inp fv hsw hsl
  obtain ⟨rfl, ra, rb, rs⟩ := loadRecord_some hload
  have hne : dIn ≠ dOut := fun e => hg (.inr (.inr (.inl e)))
  obtain ⟨sp, hs, hlt⟩ := poolSwapOut_spec hne ra rb hsw
  obtain ⟨hv, mv⟩ := commitSwap_ok hok
  exact ⟨p, p', inp, fv, ⟨hne, hr, sp, hs, hv, mv⟩, by omega, hlt, by simpa using hsl⟩

section
variable {M : Addr} {accts : List Addr} {pids : List PoolId} {prm : Params} {s s' : KSt}

theorem deposit_inv {who : Addr} {dA : Denom} {xA : Int} {dB : Denom} {xB : Int} {slip : Dec}
    (hnA : accts.Nodup) (hnP : pids.Nodup) (hw : who ∈ accts) (hwM : who ≠ M)
    (hallow : ∀ pid, prm.allowed pid = true → pid ∈ pids)
    (h : Inv M accts pids s) (hok : deposit M prm s who dA xA dB xB slip = .ok s') :
    Inv M accts pids s' := by
  obtain ⟨p', depLo, depHi, sh, d⟩ := deposit_ok hok
  have hp : poolId dA dB ∈ pids := by
    cases hr : s.pool (poolId dA dB) with
    | none => exact hallow _ (d.allowed hr)
    | some r => exact h.known _ (by rw [hr]; nofun)
  have := h.shNonneg who (poolId dA dB); have := d.pos.1; have := d.add.s_eq
  refine d.moved.inv h hnA hnP hw hwM hp (by omega) (by intro p hp'; cases hp'; exact d.valid)
    (resv_add d.add.a_eq d.add.b_eq) ?_
  rw [totalShares_eq (s.pool _)]; show p'.s - _ = _; omega

theorem withdraw_inv {who : Addr} {shares : Int} {dA : Denom} {minA : Int} {dB : Denom} {minB : Int}
    (hnA : accts.Nodup) (hnP : pids.Nodup) (hw : who ∈ accts) (hwM : who ≠ M)
    (h : Inv M accts pids s) (hok : withdraw M s who shares dA minA dB minB = .ok s') :
    Inv M accts pids s' := by
  obtain ⟨r, p', wLo, wHi, w⟩ := withdraw_ok hok
  have hp : poolId dA dB ∈ pids := h.known _ (by rw [w.found]; nofun)
  have rm := w.rem
  have := rm.a_eq; have := rm.b_eq; have := rm.s_eq; have := w.owned
  refine w.moved.inv h hnA hnP hw hwM hp (by omega) ?_ (resv_add ?_ ?_) ?_
  · intro p hp'; split at hp' <;> cases hp'; exact w.stored ‹_›
  · rw [rm.recOr0_stored, w.found]; show p'.a = r.a + _; omega
  · rw [rm.recOr0_stored, w.found]; show p'.b = r.b + _; omega
  · rw [totalShares_eq, rm.recOr0_stored, w.found]; show p'.s - r.s = _; omega

namespace SwapOk
variable {M : Addr} {f : Int} {s s' : KSt} {who : Addr} {dIn dOut : Denom} {x y : Int} {r p' : Pool} {fv : Int}

theorem inv {accts : List Addr} {pids : List PoolId} (k : SwapOk M f s s' who dIn x dOut y r p' fv)
    (hnA : accts.Nodup) (hnP : pids.Nodup) (hw : who ∈ accts) (hwM : who ≠ M) (h : Inv M accts pids s) :
    Inv M accts pids s' := by
  have hr := k.found
  have hp : poolId dIn dOut ∈ pids := h.known _ (by rw [hr]; nofun)
  refine k.moved.inv h hnA hnP hw hwM hp (h.shNonneg _ _) (by intro p hp'; cases hp'; exact k.valid)
    (fun d => ?_) (by rw [hr]; show p'.s - r.s = _; have := k.shares; omega)
  rw [hr, resv_dir k.ne, resv_dir k.ne, k.spec.in_added, k.spec.out_taken]
  split <;> split <;> omega

theorem paid (k : SwapOk M f s s' who dIn x dOut y r p' fv) (hwM : who ≠ M) :
    s.bal who dIn - s'.bal who dIn = x :=
  k.moved.paid₁ hwM k.ne

theorem received (k : SwapOk M f s s' who dIn x dOut y r p' fv) (hwM : who ≠ M) :
    s'.bal who dOut - s.bal who dOut = y := by
  have := k.moved.paid₂ hwM k.ne; omega

theorem effect (k : SwapOk M f s s' who dIn x dOut y r p' fv) (hwM : who ≠ M) :
    s.pool (poolId dIn dOut) = some r ∧ s'.pool (poolId dIn dOut) = some p' ∧ p'.s = r.s ∧
    s.bal who dIn - s'.bal who dIn = x ∧ s'.bal who dOut - s.bal who dOut = y ∧ 0 < x ∧ 0 ≤ y ∧
    SwapSpec (rIn r (poolId dIn dOut) dIn) (rOut r (poolId dIn dOut) dIn)
      (rIn p' (poolId dIn dOut) dIn) (rOut p' (poolId dIn dOut) dIn) x y fv f :=
  ⟨k.found, by rw [k.moved.pool, if_pos rfl], k.shares, k.paid hwM, k.received hwM, k.spec.inp_pos,
    k.spec.out_nonneg, k.spec⟩

end SwapOk

theorem kstep_inv {op : Op}
    (hnA : accts.Nodup) (hnP : pids.Nodup) (hw : op.who ∈ accts) (hwM : op.who ≠ M)
    (hallow : ∀ pid, prm.allowed pid = true → pid ∈ pids)
    (h : Inv M accts pids s) (hok : kstep M prm s op = .ok s') : Inv M accts pids s' := by
  cases op with
  | deposit who dA xA dB xB slip => exact deposit_inv hnA hnP hw hwM hallow h hok
  | withdraw who sh dA mA dB mB => exact withdraw_inv hnA hnP hw hwM h hok
  | swapExact who dI xI dO mO slip =>
    obtain ⟨r, p', out, fv, k, -⟩ := swapExact_ok hok
    exact k.inv hnA hnP hw hwM h
  | swapForExact who dI mI dO xO slip =>
    obtain ⟨r, p', inp, fv, k, -⟩ := swapForExact_ok hok
    exact k.inv hnA hnP hw hwM h

theorem runOps_inv (hnA : accts.Nodup) (hnP : pids.Nodup) (ops : List (Params × Op)) (s : KSt)
    (ho : ∀ o ∈ ops, o.2.who ∈ accts ∧ o.2.who ≠ M ∧ ∀ pid, o.1.allowed pid = true → pid ∈ pids)
    (h : Inv M accts pids s) : Inv M accts pids (runOps M s ops) := by
  fun_induction runOps M s ops with
  | case1 s => exact h
  | case2 s prm op rest s' hs ih =>
    obtain ⟨h1, h2, h3⟩ := ho (prm, op) List.mem_cons_self
    exact ih (fun o ho' => ho o (List.mem_cons_of_mem _ ho')) (kstep_inv hnA hnP h1 h2 h3 h hs)
  | case3 s prm op rest _ ih => exact ih (fun o ho' => ho o (List.mem_cons_of_mem _ ho')) h

theorem resv_nonneg {s : KSt} (hvalid : ∀ pid p, s.pool pid = some p → 0 < p.a ∧ 0 < p.b ∧ 0 < p.s)
    (d : Denom) (pid : PoolId) : 0 ≤ resv pid (s.pool pid) d := by
  cases hr : s.pool pid with
  | none => exact Int.le_refl 0
  | some r =>
    obtain ⟨ra, rb, -⟩ := hvalid pid r hr
    simp only [resv]; split <;> split <;> omega

theorem module_covers_resv (h : Inv M accts pids s) {pid : PoolId} {r : Pool} (hr : s.pool pid = some r) (d : Denom) :
    resv pid (some r) d ≤ s.bal M d := by
  rw [h.custody d, ← hr]
  exact sumL_ge_mem pids (fun q => resv q (s.pool q) d) (fun q => resv_nonneg h.valid d q) pid
    (h.known pid (by rw [hr]; nofun))

theorem module_covers (h : Inv M accts pids s) {pid : PoolId} {r : Pool} (hr : s.pool pid = some r)
    (hlh : pid.lo ≠ pid.hi) :
    r.a ≤ s.bal M pid.lo ∧ r.b ≤ s.bal M pid.hi := by
  have cA := module_covers_resv h hr pid.lo
  have cB := module_covers_resv h hr pid.hi
  rw [resv_eq, if_pos rfl, if_neg hlh, Int.add_zero] at cA
  rw [resv_eq, if_neg (Ne.symm hlh), if_pos rfl, Int.zero_add] at cB
  exact ⟨cA, cB⟩

theorem owned_le_total (h : Inv M accts pids s) {who : Addr} (hw : who ∈ accts) (pid : PoolId) :
    s.sh who pid ≤ totalShares (s.pool pid) := by
  rw [h.shares pid]
  exact sumL_ge_mem accts (fun a => s.sh a pid) (fun a => h.shNonneg a pid) who hw

theorem addLiquidity_total {p : Pool} {da db : Int} (ha : 0 < p.a) (hb : 0 < p.b) (hda : 0 < da)
    (hdb : 0 < db) : ∃ r, addLiquidity p da db = some r := by
  unfold addLiquidity
  rw [if_neg (by omega), if_neg (by omega), if_neg (by omega), if_neg (by omega), if_neg (by omega)]
  exact ⟨_, rfl⟩

theorem depositPool_no_panic {prm : Params} {pid : PoolId} {rec : Option Pool} {xLo xHi : Int}
    (hv : ∀ r, rec = some r → 0 < r.a ∧ 0 < r.b ∧ 0 < r.s) (hLo : 0 < xLo) (hHi : 0 < xHi) :
    depositPool prm pid rec xLo xHi ≠ .panic := by
  -- the one panic is that of `AddLiquidity`, which a loaded record and positive amounts rule out
  fun_cases depositPool prm pid rec xLo xHi <;> intro hp <;> cases hp
  rename_i r p hl hadd
  obtain ⟨rfl, ra, rb, rs⟩ := loadRecord_some hl
  obtain ⟨v, hv⟩ := addLiquidity_total ra rb hLo hHi
  cases hv.symm.trans hadd

theorem deposit_no_panic {who : Addr} {dA : Denom} {xA : Int} {dB : Denom} {xB : Int} {slip : Dec}
    (h : Inv M accts pids s) : deposit M prm s who dA xA dB xB slip ≠ .panic := by
  -- three branches panic: the pool part, storing the new record, storing the new share record
  fun_cases deposit M prm s who dA xA dB xB slip <;> intro hp <;> cases hp
  · rename_i hg pid xLo xHi hdp
    exact depositPool_no_panic (h.valid _) (by dsimp only [xLo]; split <;> omega)
      (by dsimp only [xHi]; split <;> omega) hdp
  · -- the new record is valid
    rename_i p' depLo depHi sh hdp depA depB hz hsz maxChange slippage _ hup
    obtain ⟨ad, -, oa, ob, os⟩ := depositPool_spec hdp
    have := ad.a_eq; have := ad.b_eq; have := ad.s_eq; have := ad.sh_nonneg
    have hd := sorted_pos ad.a_nonneg ad.b_nonneg hz
    have := updatePool_none hup; omega
  · rename_i pid xLo xHi p' depLo depHi sh hdp depA depB _ _ maxChange slippage _ s1 hup hus
    have := (depositPool_spec hdp).1.sh_nonneg
    have := updateShares_none hus
    rw [(updatePool_eff hup).1] at this
    have := h.shNonneg who pid; omega

/-- On a state satisfying the invariant `Withdraw` never panics (the pool of a depositor exists and its record
    loads, the share value is within the reserves, the module account can pay it out) and refuses only for one
    of its documented reasons: an invalid message, no deposit, more shares than owned, a share value below a
    minimum.  No parameter is consulted. -/
theorem withdraw_total {who : Addr} (shares : Int) (dA : Denom) (minA : Int) (dB : Denom) (minB : Int)
    (hw : who ∈ accts) (h : Inv M accts pids s) :
    (∃ s', withdraw M s who shares dA minA dB minB = .ok s') ∨
    (withdraw M s who shares dA minA dB minB = .err ∧
      ((¬ 0 < shares ∨ ¬ 0 < minA ∨ ¬ 0 < minB ∨ dA = dB) ∨ s.sh who (poolId dA dB) = 0 ∨
        shares > s.sh who (poolId dA dB) ∨
        ∃ r, s.pool (poolId dA dB) = some r ∧
          ((if dB < dA then r.b else r.a) * shares / r.s < minA ∨
           (if dB < dA then r.a else r.b) * shares / r.s < minB))) := by
  -- the shares of `who` are part of the pool's total
  have covered : ∀ {pid r}, s.pool pid = some r → s.sh who pid ≤ r.s := by
    intro pid r hr
    have := owned_le_total h hw pid
    rwa [hr] at this
  fun_cases withdraw M s who shares dA minA dB minB
  · exact .inr ⟨rfl, .inl ‹_›⟩
  · exact .inr ⟨rfl, .inr (.inl ‹_›)⟩
  · exact .inr ⟨rfl, .inr (.inr (.inl ‹_›))⟩
  · -- the pool of a depositor exists
    rename_i _ pid owned h0 _ hr
    have hle := owned_le_total h hw pid
    rw [hr] at hle
    exact absurd (Int.le_antisymm hle (h.shNonneg who pid)) h0
  · -- its record loads
    rename_i r hr hl
    obtain ⟨ra, rb, rs⟩ := h.valid _ r hr
    cases (loadRecord_valid ra rb rs).symm.trans hl
  · -- and holds at least the shares to be redeemed
    rename_i r hr p hl hrem
    obtain ⟨rfl, ra, rb, rs⟩ := loadRecord_some hl
    have := covered hr
    cases (removeLiquidity_eq p shares (by omega) (by omega) (by omega) (by omega)).symm.trans hrem
  · -- a share value of zero is below the (positive) minimum
    rename_i r hr p hl p' wLo wHi hrem wA wB hz
    obtain ⟨rfl, ra, rb, -⟩ := loadRecord_some hl
    obtain ⟨-, -, -, -, -, rfl, rfl, -⟩ := removeLiquidity_spec (Int.le_of_lt ra) (Int.le_of_lt rb) hrem
    refine .inr ⟨rfl, .inr (.inr (.inr ⟨p, hr, ?_⟩))⟩
    by_cases c : dB < dA <;> simp only [wA, wB, c, ite_true, ite_false] at hz ⊢ <;> omega
  · rename_i r hr p hl p' wLo wHi hrem wA wB _ hm
    obtain ⟨rfl, ra, rb, -⟩ := loadRecord_some hl
    obtain ⟨-, -, -, -, -, rfl, rfl, -⟩ := removeLiquidity_spec (Int.le_of_lt ra) (Int.le_of_lt rb) hrem
    refine .inr ⟨rfl, .inr (.inr (.inr ⟨p, hr, ?_⟩))⟩
    by_cases c : dB < dA <;> simp only [wA, wB, c, ite_true, ite_false] at hm ⊢ <;> exact hm
  · -- what is left of the record is valid, or nothing is left
    rename_i r hr p hl p' wLo wHi hrem wA wB _ _ hup
    obtain ⟨rfl, ra, rb, rs⟩ := loadRecord_some hl
    have rm := removeLiquidity_spec (Int.le_of_lt ra) (Int.le_of_lt rb) hrem
    have := covered hr; have := rm.s_eq
    obtain ⟨hz', hbad⟩ := updatePool_none hup
    have := rm.partial_pos ra rb (by omega)
    omega
  · rename_i hus
    have := updateShares_none hus
    omega
  · -- the module account holds the reserves, of which the share value is a part
    rename_i hg pid owned _ hown r hr p hl p' wLo wHi hrem wA wB _ _ s1 hup s2 hus hc1
    obtain ⟨rfl, ra, rb, rs⟩ := loadRecord_some hl
    have := (removeLiquidity_spec (Int.le_of_lt ra) (Int.le_of_lt rb) hrem).wa_le_a (Int.le_of_lt ra)
    have := (module_covers h hr (poolId_cases fun e => hg (.inr (.inr (.inr e)))).1).1
    have := sendCoin_none hc1
    rw [(updateShares_eff hus).2.1, (updatePool_eff hup).2.1] at this
    omega
  · rename_i hg pid owned _ hown r hr p hl p' wLo wHi hrem wA wB _ _ s1 hup s2 hus b1 hc1 hc2
    obtain ⟨rfl, ra, rb, rs⟩ := loadRecord_some hl
    have := (removeLiquidity_spec (Int.le_of_lt ra) (Int.le_of_lt rb) hrem).wb_le_b (Int.le_of_lt rb)
    have hlh := (poolId_cases fun e => hg (.inr (.inr (.inr e)))).1
    have := (module_covers h hr hlh).2
    have := sendCoin_none hc2
    rw [sendCoin_eff hc1, (updateShares_eff hus).2.1, (updatePool_eff hup).2.1, if_neg (fun e => hlh e.2.symm),
      if_neg (fun e => hlh e.2.symm)] at this
    omega
  · exact .inl ⟨_, rfl⟩

theorem withdraw_no_panic {who : Addr} {shares : Int} {dA : Denom} {minA : Int} {dB : Denom} {minB : Int}
    (hw : who ∈ accts) (h : Inv M accts pids s) : withdraw M s who shares dA minA dB minB ≠ .panic := by
  rcases withdraw_total shares dA minA dB minB hw h with ⟨s', e⟩ | ⟨e, -⟩ <;>
    rw [e] <;> nofun

theorem commitSwap_no_panic {M : Addr} {s : KSt} {pid : PoolId} {p' : Pool} {who : Addr}
    {dIn : Denom} {xIn : Int} {dOut : Denom} {xOut : Int}
    (hv : 0 < p'.a ∧ 0 < p'.b ∧ 0 < p'.s) (hne : dIn ≠ dOut) (hcov : xOut ≤ s.bal M dOut) :
    commitSwap M s pid p' who dIn xIn dOut xOut ≠ .panic := by
  fun_cases commitSwap M s pid p' who dIn xIn dOut xOut <;> intro hp <;> cases hp
  · rename_i hset; have := setPool_none hset; omega
  · -- the payer's coins are another denomination: the module account still covers the output
    rename_i s1 hset b1 hc1 hc2
    have := sendCoin_none hc2
    rw [sendCoin_eff hc1, (setPool_eff hset).2.1, if_neg (fun e => hne e.2.symm),
      if_neg (fun e => hne e.2.symm)] at this
    omega

theorem module_covers_out (h : Inv M accts pids s) {dIn dOut : Nat} (hne : dIn ≠ dOut) {r : Pool}
    (hr : s.pool (poolId dIn dOut) = some r) : rOut r (poolId dIn dOut) dIn ≤ s.bal M dOut := by
  have c := module_covers_resv h hr dOut
  rw [resv_dir hne, if_neg (Ne.symm hne), if_pos rfl, Int.zero_add] at c
  exact c

/-- after a pool-level swap on the stored record `commitSwap` cannot panic: the new record is valid and the
    output is less than the reserve it is taken from, which the module account holds -/
theorem commitSwap_after_swap (h : Inv M accts pids s) {who : Addr} {dIn dOut : Denom} (hne : dIn ≠ dOut)
    {r p' : Pool} (hr : s.pool (poolId dIn dOut) = some r) {x y fv f : Int}
    (sp : SwapSpec (rIn r (poolId dIn dOut) dIn) (rOut r (poolId dIn dOut) dIn)
      (rIn p' (poolId dIn dOut) dIn) (rOut p' (poolId dIn dOut) dIn) x y fv f) (hs : p'.s = r.s) :
    commitSwap M s (poolId dIn dOut) p' who dIn x dOut y ≠ .panic := by
  obtain ⟨ra, rb, rs⟩ := h.valid _ r hr
  have hcov := module_covers_out h hne hr
  have i1 := sp.in_added; have i2 := sp.out_taken; have i3 := sp.inp_pos; have i4 := sp.out_left
  have r0 := (dir_pos r (poolId dIn dOut) dIn).mpr ⟨ra, rb⟩
  have hv := (dir_pos p' (poolId dIn dOut) dIn).mp ⟨by omega, i4⟩
  exact commitSwap_no_panic ⟨hv.1, hv.2, by omega⟩ hne (by omega)

theorem swapExact_no_panic {who : Addr} {dIn : Denom} {xIn : Int} {dOut : Denom} {minOut : Int} {slip : Dec}
    (hf0 : 0 ≤ prm.fee.m) (hf1 : prm.fee.m < P) (h : Inv M accts pids s) :
    swapExactForTokens M prm s who dIn xIn dOut minOut slip ≠ .panic := by
  fun_cases swapExactForTokens M prm s who dIn xIn dOut minOut slip <;> intro hp <;> try cases hp
  · -- a stored record loads
    rename_i r hr hl
    obtain ⟨ra, rb, rs⟩ := h.valid _ r hr
    cases (loadRecord_valid ra rb rs).symm.trans hl
  · -- on a valid record the pool-level swap succeeds
    rename_i hg pid r hr p hl hsw
    obtain ⟨rfl, ra, rb, rs⟩ := loadRecord_some hl
    split at hsw
    · obtain ⟨v, hv⟩ := applySwap_total p prm.fee (.exactAForB xIn) ra rb ⟨by omega, hf0, hf1⟩
      cases hv.symm.trans hsw
    · obtain ⟨v, hv⟩ := applySwap_total p prm.fee (.exactBForA xIn) ra rb ⟨by omega, hf0, hf1⟩
      cases hv.symm.trans hsw
  · rename_i hg pid r hr p hl p' out fv hsw _ _
    obtain ⟨rfl, ra, rb, rs⟩ := loadRecord_some hl
    obtain ⟨sp, hs⟩ := poolSwapIn_spec ra rb hsw
    exact commitSwap_after_swap h (fun e => hg (.inr (.inr (.inl e)))) hr sp hs hp

theorem swapForExact_no_panic {who : Addr} {dIn : Denom} {maxIn : Int} {dOut : Denom} {xOut : Int} {slip : Dec}
    (hf0 : 0 ≤ prm.fee.m) (hf1 : prm.fee.m < P) (h : Inv M accts pids s) :
    swapForExactTokens M prm s who dIn maxIn dOut xOut slip ≠ .panic := by
  fun_cases swapForExactTokens M prm s who dIn maxIn dOut xOut slip <;> intro hp <;> try cases hp
  · rename_i r hr hl
    obtain ⟨ra, rb, rs⟩ := h.valid _ r hr
    cases (loadRecord_valid ra rb rs).symm.trans hl
  · rename_i hg pid r hr p hl hge hsw
    obtain ⟨rfl, ra, rb, rs⟩ := loadRecord_some hl
    split at hsw <;> rename_i hd
    · rw [if_pos hd] at hge
      obtain ⟨v, hv⟩ := applySwap_total p prm.fee (.bForExactA xOut) ra rb ⟨by omega, by omega, hf0, hf1⟩
      cases hv.symm.trans hsw
    · rw [if_neg hd] at hge
      obtain ⟨v, hv⟩ := applySwap_total p prm.fee (.aForExactB xOut) ra rb ⟨by omega, by omega, hf0, hf1⟩
      cases hv.symm.trans hsw
  · rename_i hg pid r hr p hl _ p' inp fv hsw _
    obtain ⟨rfl, ra, rb, rs⟩ := loadRecord_some hl
    have hne : dIn ≠ dOut := fun e => hg (.inr (.inr (.inl e)))
    obtain ⟨sp, hs, -⟩ := poolSwapOut_spec hne ra rb hsw
    exact commitSwap_after_swap h hne hr sp hs hp

theorem kstep_no_panic {op : Op}
    (hw : op.who ∈ accts) (hf0 : 0 ≤ prm.fee.m) (hf1 : prm.fee.m < P) (h : Inv M accts pids s) :
    kstep M prm s op ≠ .panic := by
  cases op with
  | deposit who dA xA dB xB slip => exact deposit_no_panic h
  | withdraw who sh dA mA dB mB => exact withdraw_no_panic hw h
  | swapExact who dI xI dO mO slip => exact swapExact_no_panic hf0 hf1 h
  | swapForExact who dI mI dO xO slip => exact swapForExact_no_panic hf0 hf1 h

end

theorem Dec_max_comm (a b : Dec) : Dec.max a b = Dec.max b a := by
  unfold Dec.max
  by_cases h1 : a.m < b.m
  · have h2 : ¬ b.m < a.m := by omega
    simp only [h1, h2, ite_true, ite_false]
  · by_cases h2 : b.m < a.m
    · simp only [h1, h2, ite_true, ite_false]
    · simp only [h1, h2, ite_false]
      cases a; cases b; simp only [Dec.mk.injEq] at *; omega

theorem deposit_comm (M : Addr) (prm : Params) (s : KSt) (who : Addr) (dA : Nat) (xA : Int)
    (dB : Nat) (xB : Int) (slip : Dec) :
    deposit M prm s who dA xA dB xB slip = deposit M prm s who dB xB dA xA slip := by
  -- it is enough to compare the message naming the greater denomination first with the other one
  have key : ∀ (dA : Nat) (xA : Int) (dB : Nat) (xB : Int), dB < dA →
      deposit M prm s who dA xA dB xB slip = deposit M prm s who dB xB dA xA slip := by
    intro dA xA dB xB hlt
    have hg : (¬ 0 < xB ∨ ¬ 0 < xA ∨ dB = dA ∨ slip.m < 0) ↔ (¬ 0 < xA ∨ ¬ 0 < xB ∨ dA = dB ∨ slip.m < 0) := by
      omega
    unfold deposit
    by_cases hv : ¬ 0 < xA ∨ ¬ 0 < xB ∨ dA = dB ∨ slip.m < 0
    · rw [if_pos hv, if_pos (hg.mpr hv)]
    rw [if_neg hv, if_neg (fun h => hv (hg.mp h)), poolId_comm dB dA (by omega)]
    -- what remains differs in the order of the arguments of `MaxDec` and of the disjunction `depA = 0 ∨ depB = 0`
    simp only [if_pos hlt, if_neg (Nat.lt_asymm hlt), Dec_max_comm (Dec.quo (Dec.ofInt xB) _), or_comm]
  rcases Nat.lt_trichotomy dA dB with h | rfl | h
  · exact (key dB xB dA xA h).symm
  · unfold deposit; rw [if_pos (.inr (.inr (.inl rfl))), if_pos (.inr (.inr (.inl rfl)))]
  · exact key dA xA dB xB h

theorem withdraw_comm (M : Addr) (s : KSt) (who : Addr) (shares : Int) (dA : Nat) (minA : Int)
    (dB : Nat) (minB : Int) :
    withdraw M s who shares dA minA dB minB = withdraw M s who shares dB minB dA minA := by
  have key : ∀ (dA : Nat) (minA : Int) (dB : Nat) (minB : Int), dB < dA →
      withdraw M s who shares dA minA dB minB = withdraw M s who shares dB minB dA minA := by
    intro dA minA dB minB hlt
    have hg : (¬ 0 < shares ∨ ¬ 0 < minB ∨ ¬ 0 < minA ∨ dB = dA) ↔
        (¬ 0 < shares ∨ ¬ 0 < minA ∨ ¬ 0 < minB ∨ dA = dB) := by
      omega
    unfold withdraw
    by_cases hv : ¬ 0 < shares ∨ ¬ 0 < minA ∨ ¬ 0 < minB ∨ dA = dB
    · rw [if_pos hv, if_pos (hg.mpr hv)]
    rw [if_neg hv, if_neg (fun h => hv (hg.mp h)), poolId_comm dB dA (by omega)]
    -- what remains differs in the order of the disjunctions `wA = 0 ∨ wB = 0` and `wA < minA ∨ wB < minB`
    simp only [if_pos hlt, if_neg (Nat.lt_asymm hlt), or_comm]
  rcases Nat.lt_trichotomy dA dB with h | rfl | h
  · exact (key dB minB dA minA h).symm
  · unfold withdraw; rw [if_pos (.inr (.inr (.inr rfl))), if_pos (.inr (.inr (.inr rfl)))]
  · exact key dA minA dB minB h

/-- On a state satisfying the invariant, a withdrawal of shares the account owns whose share value meets the
    message's own (positive) minimums cannot be refused: the result is `.ok`.  `withdraw` takes no `Params`
    argument at all — in particular the allowed-pools list is not consulted, so de-listing a pool that holds
    liquidity never locks its depositors in. -/
theorem withdraw_available (M : Addr) (accts : List Addr) (pids : List PoolId) (s : KSt)
    (who : Addr) (shares : Int) (dA : Denom) (minA : Int) (dB : Denom) (minB : Int)
    (hw : who ∈ accts) (hwM : who ≠ M) (h : Inv M accts pids s)
    (hne : dA ≠ dB) (hs0 : 0 < shares) (hmA : 0 < minA) (hmB : 0 < minB)
    (hown : shares ≤ s.sh who (poolId dA dB))
    (r : Pool) (hr : s.pool (poolId dA dB) = some r)
    (hvA : minA ≤ (if dB < dA then r.b else r.a) * shares / r.s)
    (hvB : minB ≤ (if dB < dA then r.a else r.b) * shares / r.s) :
    ∃ s', withdraw M s who shares dA minA dB minB = .ok s' := by
  rcases withdraw_total shares dA minA dB minB hw h with hok | ⟨-, hR⟩
  · exact hok
  exfalso
  rcases hR with (hg | hg | hg | hg) | h0 | hgt | ⟨r', hr', hv⟩
  · exact hg hs0
  · exact hg hmA
  · exact hg hmB
  · exact hne hg
  · omega
  · omega
  · rw [hr] at hr'; cases hr'; omega

end KV.SW
