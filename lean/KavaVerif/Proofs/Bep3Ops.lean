/-
  Helper lemmas for C13 (x/bep3), part 3: what each operation did when it succeeded (one inversion lemma per
  operation: the guards that passed, in arithmetic form, and the successor state), preservation of the
  invariant by each operation, and towards the converse for claim / refund: in a state satisfying the
  invariant the amount of a live swap is covered by its supply counter and by the module account, and a covered
  decrement or transfer succeeds.  Core Lean only.
-/
import KavaVerif.Proofs.Bep3Inv
set_option linter.unusedSimpArgs false
set_option linter.unusedVariables false

namespace KV.Bep3

theorem bankSend_some {bal bal' : Addr → Denom → Int} {frm to : Addr} {d : Denom} {amt : Int}
    (h : bankSend bal frm to d amt = some bal') :
    amt ≤ bal frm d ∧ ∀ x y, bal' x y =
      bal x y - (if x = frm ∧ y = d then amt else 0) + (if x = to ∧ y = d then amt else 0) := by
  unfold bankSend at h
  split at h
  · cases h
  · cases h
    refine ⟨by omega, fun x y => ?_⟩
    simp only [upd2]
    by_cases hy : y = d
    · subst hy
      by_cases h1 : x = frm <;> by_cases h2 : x = to
      · subst h1; subst h2; simp
      · subst h1; simp [h2]
      · subst h2; simp [h1]
      · simp [h1, h2]
    · simp [hy]

theorem decIncoming_some {sup sup' : Supply} {amt : Int} (h : decIncoming sup amt = some sup') :
    amt ≤ sup.incoming ∧ sup' = { sup with incoming := sup.incoming - amt } := by
  revert h
  fun_cases decIncoming sup amt <;> intro h <;> cases h
  exact ⟨by omega, rfl⟩

theorem decOutgoing_some {sup sup' : Supply} {amt : Int} (h : decOutgoing sup amt = some sup') :
    amt ≤ sup.outgoing ∧ sup' = { sup with outgoing := sup.outgoing - amt } := by
  revert h
  fun_cases decOutgoing sup amt <;> intro h <;> cases h
  exact ⟨by omega, rfl⟩

theorem decCurrent_some {sup sup' : Supply} {amt : Int} (h : decCurrent sup amt = some sup') :
    amt ≤ sup.current ∧ sup' = { sup with current := sup.current - amt } := by
  revert h
  fun_cases decCurrent sup amt <;> intro h <;> cases h
  exact ⟨by omega, rfl⟩

theorem incIncoming_some {a : Asset} {sup sup' : Supply} {amt : Int} (h : incIncoming a sup amt = some sup') :
    sup.current + sup.incoming + amt ≤ a.limit ∧
    (a.timeLimited = true → sup.tlCurrent + sup.incoming + amt ≤ a.tbl) ∧
    sup' = { sup with incoming := sup.incoming + amt } := by
  revert h
  fun_cases incIncoming a sup amt <;> intro h <;> cases h
  rename_i h1 h2
  exact ⟨by omega, fun htl => by simp only [htl, true_and] at h2; omega, rfl⟩

theorem incOutgoing_some {sup sup' : Supply} {amt : Int} (h : incOutgoing sup amt = some sup') :
    sup.outgoing + amt ≤ sup.current ∧ sup' = { sup with outgoing := sup.outgoing + amt } := by
  revert h
  fun_cases incOutgoing sup amt <;> intro h <;> cases h
  exact ⟨by omega, rfl⟩

theorem incCurrent_some {a : Asset} {sup sup' : Supply} {amt : Int} (h : incCurrent a sup amt = some sup') :
    sup.current + amt ≤ a.limit ∧ (a.timeLimited = true → sup.tlCurrent + amt ≤ a.tbl) ∧
    sup' = { sup with current := sup.current + amt,
                      tlCurrent := if a.timeLimited then sup.tlCurrent + amt else sup.tlCurrent } := by
  revert h
  fun_cases incCurrent a sup amt <;> intro h <;> cases h
  · rename_i h1 htl h2; exact ⟨by omega, fun _ => by omega, by rw [if_pos htl]⟩
  · rename_i h1 htl; exact ⟨by omega, fun ht => absurd ht htl, by rw [if_neg htl]⟩

theorem storeNew_eq {hs : Hashes} {s : St} {n : Swap} {sup : Supply} {bal : Addr → Denom → Int}
    (hid : n.id = getSwapID hs n) (hnew : findSwap s.swaps n.id = none) :
    storeNew hs s n sup bal =
      { s with swaps := n :: s.swaps, byBlock := insKey s.byBlock (n.expire, n.id),
               supply := upd s.supply n.denom sup, bal := bal } := by
  have hk : keyed hs n = n := by unfold keyed; rw [← hid]
  unfold storeNew
  rw [hk, setSwap_new hnew, ← hid]

/-- closing a stored swap, in a state satisfying the invariant: the record is replaced by its completed version,
    its by-block key is gone (a refund leaves the index alone, but an expired swap has no key there) and its
    long-term key is added -/
theorem closeSwap_eq {cfg : Cfg} {hs : Hashes} {s : St} (h : Inv cfg hs s) {id : Id} {sw : Swap}
    (hf : findSwap s.swaps id = some sw) {sup : Denom → Supply} {bal : Addr → Denom → Int} {bs : Denom → Int}
    {rm : Bool} (hrm : rm = true ∨ sw.status = .expired) :
    closeSwap hs { s with supply := sup, bal := bal, bankSupply := bs } sw rm =
      { s with swaps := replaceSwap s.swaps (done s.height sw), byBlock := delKey s.byBlock (sw.expire, sw.id),
               longterm := insKey s.longterm (s.height + horizon, sw.id),
               supply := sup, bal := bal, bankSupply := bs } := by
  obtain ⟨hm, rfl⟩ := findSwap_some hf
  obtain ⟨hg, hset⟩ := set_copy h hm (sw' := { sw with status := .completed, closed := s.height }) rfl rfl
  have hb : (if rm then delKey s.byBlock (sw.expire, sw.id) else s.byBlock) = delKey s.byBlock (sw.expire, sw.id) := by
    rcases hrm with rfl | hst
    · rfl
    · have hnk : delKey s.byBlock (sw.expire, sw.id) = s.byBlock :=
        delKey_of_not_mem fun hk => by rw [bbkey_mem h hm, hst] at hk; cases hk
      rw [hnk]; cases rm <;> rfl
  unfold closeSwap
  simp only [hg, hb, hset]
  rfl

theorem find_closed {cfg : Cfg} {hs : Hashes} {s : St} (h : Inv cfg hs s) {id : Id} {sw : Swap}
    (hf : findSwap s.swaps id = some sw) {sup : Denom → Supply} {bal : Addr → Denom → Int} {bs : Denom → Int}
    {rm : Bool} (hrm : rm = true ∨ sw.status = .expired) (x : Id) :
    findSwap (closeSwap hs { s with supply := sup, bal := bal, bankSupply := bs } sw rm).swaps x =
      if x = id then some (done s.height sw) else findSwap s.swaps x := by
  rw [closeSwap_eq h hf hrm]
  exact findSwap_replace_found (sw' := done s.height sw) hf (findSwap_some hf).2 x

/-- creating an incoming swap: the sender is the deputy, current + incoming stay within the limits in force, only
    the incoming supply moves -/
structure CreateIn (s : St) (sender recipient : Addr) (d : Denom) (amt : Int) (a : Asset) (sup : Supply)
    (bal' : Addr → Denom → Int) : Prop where
  dep : sender = a.deputy
  rcp : recipient ≠ a.deputy
  lim : (s.supply d).current + (s.supply d).incoming + amt ≤ a.limit
  tlim : a.timeLimited = true → (s.supply d).tlCurrent + (s.supply d).incoming + amt ≤ a.tbl
  sup_eq : sup = { s.supply d with incoming := (s.supply d).incoming + amt }
  bal_eq : bal' = s.bal

/-- creating an outgoing swap: the recipient is the deputy, the outgoing supply moves and the amount goes from the
    sender to the module account -/
structure CreateOut (cfg : Cfg) (s : St) (sender recipient : Addr) (span : Nat) (d : Denom) (amt : Int) (a : Asset)
    (sup : Supply) (bal' : Addr → Denom → Int) : Prop where
  dep : sender ≠ a.deputy
  rcp : recipient = a.deputy
  lockLo : a.minLock ≤ span
  lockHi : span ≤ a.maxLock
  fee : a.fee + a.minAmt < amt
  outle : (s.supply d).outgoing + amt ≤ (s.supply d).current
  sup_eq : sup = { s.supply d with outgoing := (s.supply d).outgoing + amt }
  funds : amt ≤ s.bal sender d
  bal_eq : ∀ x y, bal' x y = s.bal x y - (if x = sender ∧ y = d then amt else 0) +
    (if x = cfg.module ∧ y = d then amt else 0)

/-- the guards a successful create passed; `sup` and `bal'` are the new supply record of `d` and the new balances -/
structure CreateOk (cfg : Cfg) (hs : Hashes) (s : St) (hash : Hash) (ts : Int) (span : Nat) (sender recipient : Addr)
    (other : Nat) (d : Denom) (amt : Int) (a : Asset) (dir : Dir) (sup : Supply) (bal' : Addr → Denom → Int) :
    Prop where
  fresh : findSwap s.swaps (hs.sid hash sender other) = none
  macc : cfg.macc recipient = false
  asset : getAsset s.assets d = some a
  active : a.active = true
  amin : a.minAmt ≤ amt
  amax : amt ≤ a.maxAmt
  tsLo : unixSec (s.time + pastOffset) ≤ ts
  tsHi : ts < unixSec (s.time + futureOffset)
  side : (dir = .incoming ∧ CreateIn s sender recipient d amt a sup bal') ∨
    (dir = .outgoing ∧ CreateOut cfg s sender recipient span d amt a sup bal')

theorem create_spec {cfg : Cfg} {hs : Hashes} {s s' : St} {hash : Hash} {ts : Int} {span : Nat}
    {sender recipient : Addr} {other : Nat} {coins : List (Denom × Int)}
    (hok : create cfg hs s hash ts span sender recipient other coins = .ok s') :
    ∃ d amt a dir sup bal',
      coins = [(d, amt)] ∧ CreateOk cfg hs s hash ts span sender recipient other d amt a dir sup bal' ∧
      s' = { s with swaps := newSwap hs s hash ts span sender recipient other d amt dir :: s.swaps,
                    byBlock := insKey s.byBlock ((s.height + span) % 18446744073709551616, hs.sid hash sender other),
                    supply := upd s.supply d sup, bal := bal' } := by
  revert hok
  -- one case per branch of `create`, with the facts that select it in source order: the failing branches return
  -- `.err` and go by `cases hok`, the two successful ones stay
  fun_cases create cfg hs s hash ts span sender recipient other coins <;> intro hok <;> cases hok
  · rename_i hnew hmacc d amt a ha hact hamt hts hdep hrec sup hsup
    obtain ⟨l1, l2, rfl⟩ := incIncoming_some hsup
    exact ⟨d, amt, a, .incoming, _, s.bal, rfl, ⟨hnew, Bool.eq_false_iff.mpr hmacc, ha, Bool.of_not_eq_false hact, by omega,
      by omega, by omega, by omega, Or.inl ⟨rfl, hdep, hrec, l1, l2, rfl, rfl⟩⟩, storeNew_eq rfl hnew⟩
  · rename_i hnew hmacc d amt a ha hact hamt hts hdep hrec hspan hfee sup hsup bal' hbal
    obtain ⟨l1, rfl⟩ := incOutgoing_some hsup
    obtain ⟨b1, b2⟩ := bankSend_some hbal
    exact ⟨d, amt, a, .outgoing, _, bal', rfl, ⟨hnew, Bool.eq_false_iff.mpr hmacc, ha, Bool.of_not_eq_false hact, by omega,
      by omega, by omega, by omega, Or.inr ⟨rfl, hdep, by simpa using hrec, by omega, by omega, by omega, l1, rfl, b1, b2⟩⟩,
      storeNew_eq rfl hnew⟩

/-- claiming an incoming swap: its amount leaves the incoming supply for the current supply (within the limits in
    force), is minted and paid to the recipient -/
structure ClaimIn (cfg : Cfg) (s : St) (sw : Swap) (a : Asset) (sup : Supply) (bal : Addr → Denom → Int)
    (bs : Denom → Int) : Prop where
  asset : getAsset s.assets sw.denom = some a
  covered : sw.amt ≤ (s.supply sw.denom).incoming
  lim : (s.supply sw.denom).current + sw.amt ≤ a.limit
  tlim : a.timeLimited = true → (s.supply sw.denom).tlCurrent + sw.amt ≤ a.tbl
  unblocked : cfg.blocked sw.recipient = false
  sup_eq : sup = { s.supply sw.denom with
                  incoming := (s.supply sw.denom).incoming - sw.amt,
                  current := (s.supply sw.denom).current + sw.amt,
                  tlCurrent := if a.timeLimited then (s.supply sw.denom).tlCurrent + sw.amt
                               else (s.supply sw.denom).tlCurrent }
  bal_eq : ∀ x y, bal x y = s.bal x y + (if x = sw.recipient ∧ y = sw.denom then sw.amt else 0)
  bs_eq : ∀ y, bs y = s.bankSupply y + (if y = sw.denom then sw.amt else 0)

/-- claiming an outgoing swap: its amount leaves the outgoing and the current supply and is burned from the module
    account -/
structure ClaimOut (cfg : Cfg) (s : St) (sw : Swap) (sup : Supply) (bal : Addr → Denom → Int) (bs : Denom → Int) :
    Prop where
  covered : sw.amt ≤ (s.supply sw.denom).outgoing
  curle : sw.amt ≤ (s.supply sw.denom).current
  funds : sw.amt ≤ s.bal cfg.module sw.denom
  sup_eq : sup = { s.supply sw.denom with
                  outgoing := (s.supply sw.denom).outgoing - sw.amt,
                  current := (s.supply sw.denom).current - sw.amt }
  bal_eq : ∀ x y, bal x y = s.bal x y - (if x = cfg.module ∧ y = sw.denom then sw.amt else 0)
  bs_eq : ∀ y, bs y = s.bankSupply y + (if y = sw.denom then - sw.amt else 0)

/-- the guards a successful claim of the swap `sw` passed; `sup`, `bal`, `bs` are the supply record of the swap's
    denomination, the balances and the bank supply handed to `closeSwap` -/
structure ClaimOk (cfg : Cfg) (hs : Hashes) (s : St) (id : Id) (rn : Nat) (sw : Swap) (sup : Supply)
    (bal : Addr → Denom → Int) (bs : Denom → Int) : Prop where
  find : findSwap s.swaps id = some sw
  isOpen : sw.status = .open
  pre : hs.sid (hs.H rn sw.ts) sw.sender sw.other = getSwapID hs sw
  side : (sw.dir = .incoming ∧ ∃ a, ClaimIn cfg s sw a sup bal bs) ∨ (sw.dir = .outgoing ∧ ClaimOut cfg s sw sup bal bs)

theorem claim_spec {cfg : Cfg} {hs : Hashes} {s s' : St} {id : Id} {rn : Nat}
    (hok : claim cfg hs s id rn = .ok s') :
    ∃ sw sup bal bs, ClaimOk cfg hs s id rn sw sup bal bs ∧
      s' = closeSwap hs { s with supply := upd s.supply sw.denom sup, bal := bal, bankSupply := bs } sw true := by
  revert hok
  fun_cases claim cfg hs s id rn <;> intro hok <;> cases hok
  · rename_i sw hf hst hpre hdir sup1 h1 a ha sup2 h2 bal1 hbl bal2 hb
    obtain ⟨l1, rfl⟩ := decIncoming_some h1
    obtain ⟨l2, l3, rfl⟩ := incCurrent_some h2
    obtain ⟨-, hb'⟩ := bankSend_some hb
    refine ⟨sw, _, bal2, _, ⟨hf, by simpa using hst, by simpa using hpre,
      Or.inl ⟨hdir, a, ha, l1, l2, l3, by simpa using hbl, rfl, fun x y => ?_, upd_add (fun v => v) rfl⟩⟩, rfl⟩
    rw [hb']; unfold bal1 upd2
    by_cases hc : x = cfg.module ∧ y = sw.denom
    · obtain ⟨rfl, rfl⟩ := hc; simp only [and_self, if_true]; omega
    · simp only [hc, if_false]; omega
  · rename_i sw hf hst hpre hdir sup1 h1 sup2 h2 hb
    obtain ⟨l1, rfl⟩ := decOutgoing_some h1
    obtain ⟨l2, rfl⟩ := decCurrent_some h2
    refine ⟨sw, _, _, _, ⟨hf, by simpa using hst, by simpa using hpre,
      Or.inr ⟨hdir, l1, l2, by omega, rfl, fun x y => ?_, upd_add (fun v => v) (Int.sub_eq_add_neg ..)⟩⟩, rfl⟩
    unfold upd2; split
    · rename_i hc; rw [hc.1, hc.2]
    · omega

/-- refunding an incoming swap: its amount leaves the incoming supply, nothing else moves -/
structure RefundIn (s : St) (sw : Swap) (sup : Supply) (bal : Addr → Denom → Int) : Prop where
  covered : sw.amt ≤ (s.supply sw.denom).incoming
  sup_eq : sup = { s.supply sw.denom with incoming := (s.supply sw.denom).incoming - sw.amt }
  bal_eq : bal = s.bal

/-- refunding an outgoing swap: its amount leaves the outgoing supply and goes from the module account back to the
    sender -/
structure RefundOut (cfg : Cfg) (s : St) (sw : Swap) (sup : Supply) (bal : Addr → Denom → Int) : Prop where
  covered : sw.amt ≤ (s.supply sw.denom).outgoing
  sup_eq : sup = { s.supply sw.denom with outgoing := (s.supply sw.denom).outgoing - sw.amt }
  unblocked : cfg.blocked sw.sender = false
  funds : sw.amt ≤ s.bal cfg.module sw.denom
  bal_eq : ∀ x y, bal x y = s.bal x y - (if x = cfg.module ∧ y = sw.denom then sw.amt else 0) +
    (if x = sw.sender ∧ y = sw.denom then sw.amt else 0)

/-- the guards a successful refund of the swap `sw` passed -/
structure RefundOk (cfg : Cfg) (s : St) (id : Id) (sw : Swap) (sup : Supply) (bal : Addr → Denom → Int) : Prop where
  find : findSwap s.swaps id = some sw
  isExpired : sw.status = .expired
  side : (sw.dir = .incoming ∧ RefundIn s sw sup bal) ∨ (sw.dir = .outgoing ∧ RefundOut cfg s sw sup bal)

theorem refund_spec {cfg : Cfg} {hs : Hashes} {s s' : St} {id : Id}
    (hok : refund cfg hs s id = .ok s') :
    ∃ sw sup bal, RefundOk cfg s id sw sup bal ∧
      s' = closeSwap hs { s with supply := upd s.supply sw.denom sup, bal := bal } sw false := by
  revert hok
  fun_cases refund cfg hs s id <;> intro hok <;> cases hok
  · rename_i sw hf hst hdir sup1 h1
    obtain ⟨l1, rfl⟩ := decIncoming_some h1
    exact ⟨sw, _, s.bal, ⟨hf, by simpa using hst, Or.inl ⟨hdir, l1, rfl, rfl⟩⟩, rfl⟩
  · rename_i sw hf hst hdir sup1 h1 hbl bal' hb
    obtain ⟨l1, rfl⟩ := decOutgoing_some h1
    obtain ⟨b1, b2⟩ := bankSend_some hb
    exact ⟨sw, _, bal', ⟨hf, by simpa using hst, Or.inr ⟨hdir, l1, rfl, by simpa using hbl, b1, b2⟩⟩, rfl⟩

theorem create_inv {cfg : Cfg} {hs : Hashes} {s s' : St} (h : Inv cfg hs s) {hash : Hash} {ts : Int} {span : Nat}
    {sender recipient : Addr} {other : Nat} {coins : List (Denom × Int)} (hsm : sender ≠ cfg.module)
    (hok : create cfg hs s hash ts span sender recipient other coins = .ok s') : Inv cfg hs s' := by
  obtain ⟨d, amt, a, dir, sup, bal', -, c, rfl⟩ := create_spec hok
  have hpos : 0 < amt := by have := h.pmin d a c.asset; have := c.amin; omega
  have hnc : (newSwap hs s hash ts span sender recipient other d amt dir).status ≠ .completed := Status.noConfusion
  refine inv_add h (newSwap hs s hash ts span sender recipient other d amt dir) sup bal' c.fresh rfl rfl hpos c.macc hsm
    ?_ ?_ ?_ fun d' => ?_
  · rcases c.side with ⟨rfl, k⟩ | ⟨rfl, k⟩ <;> rw [k.sup_eq]
    · exact (if_pos rfl).symm ▸ rfl
    · exact (Int.add_zero _).symm
  · rcases c.side with ⟨rfl, k⟩ | ⟨rfl, k⟩ <;> rw [k.sup_eq]
    · exact (Int.add_zero _).symm
    · exact (if_pos rfl).symm ▸ rfl
  · rcases c.side with ⟨-, k⟩ | ⟨-, k⟩ <;> rw [k.sup_eq]
    · exact h.outle d
    · exact k.outle
  · rw [val_live hnc]
    rcases c.side with ⟨rfl, k⟩ | ⟨rfl, k⟩
    · rw [k.bal_eq]; exact (Int.add_zero _).symm
    · have hms : ¬ cfg.module = sender := fun e => hsm e.symm
      have hdd : (d = d') = (d' = d) := propext eq_comm
      rw [k.bal_eq]; simp [newSwap, hms, hdd]

theorem claim_inv {cfg : Cfg} {hs : Hashes} {s s' : St} (h : Inv cfg hs s) (hcfg : cfg.macc cfg.module = true)
    {id : Id} {rn : Nat} (hok : claim cfg hs s id rn = .ok s') : Inv cfg hs s' := by
  obtain ⟨sw, sup, bal, bs, c, rfl⟩ := claim_spec hok
  obtain ⟨hm, rfl⟩ := findSwap_some c.find
  have hnc : sw.status ≠ .completed := by rw [c.isOpen]; exact Status.noConfusion
  have hpos := h.pos sw hm
  have ho := h.outle sw.denom
  rw [closeSwap_eq h c.find (Or.inl rfl)]
  refine inv_close h hm hnc ?_ ?_ ?_ fun d => ?_
  · rcases c.side with ⟨hd, a, k⟩ | ⟨hd, k⟩ <;> rw [k.sup_eq] <;>
      simp only [hd, if_true, if_false, reduceCtorEq] <;> omega
  · rcases c.side with ⟨hd, a, k⟩ | ⟨hd, k⟩ <;> rw [k.sup_eq] <;>
      simp only [hd, if_true, if_false, reduceCtorEq] <;> omega
  · rcases c.side with ⟨hd, a, k⟩ | ⟨hd, k⟩ <;> rw [k.sup_eq] <;> simp only [] <;> omega
  · rw [val_live hnc]
    rcases c.side with ⟨hd, a, k⟩ | ⟨hd, k⟩ <;> rw [k.bal_eq]
    · -- the recipient is not the module account (no swap pays out to a module account)
      have hmr : ¬ cfg.module = sw.recipient := by
        intro e
        have := h.rcp sw hm
        rw [← e, hcfg] at this; cases this
      simp [hd, hmr]
    · have hdd : (sw.denom = d) = (d = sw.denom) := propext eq_comm
      simp [hd, hdd]

theorem refund_inv {cfg : Cfg} {hs : Hashes} {s s' : St} (h : Inv cfg hs s) {id : Id}
    (hok : refund cfg hs s id = .ok s') : Inv cfg hs s' := by
  obtain ⟨sw, sup, bal, c, rfl⟩ := refund_spec hok
  obtain ⟨hm, rfl⟩ := findSwap_some c.find
  have hnc : sw.status ≠ .completed := by rw [c.isExpired]; exact Status.noConfusion
  have hpos := h.pos sw hm
  have ho := h.outle sw.denom
  rw [closeSwap_eq h c.find (Or.inr c.isExpired)]
  refine inv_close h hm hnc ?_ ?_ ?_ fun d => ?_
  · rcases c.side with ⟨hd, k⟩ | ⟨hd, k⟩ <;> rw [k.sup_eq] <;> simp only [hd, if_true, if_false, reduceCtorEq] <;> omega
  · rcases c.side with ⟨hd, k⟩ | ⟨hd, k⟩ <;> rw [k.sup_eq] <;> simp only [hd, if_true, if_false, reduceCtorEq] <;> omega
  · rcases c.side with ⟨hd, k⟩ | ⟨hd, k⟩ <;> rw [k.sup_eq] <;> simp only [] <;> omega
  · rw [val_live hnc]
    rcases c.side with ⟨hd, k⟩ | ⟨hd, k⟩ <;> rw [k.bal_eq]
    · simp [hd]
    · have hms : ¬ cfg.module = sw.sender := fun e => h.snd sw hm e.symm
      by_cases hdd : d = sw.denom
      · subst hdd; simp [hd, hms]
      · have hdd' : ¬ sw.denom = d := fun e => hdd e.symm
        simp [hdd, hdd', hms]

theorem sumBy_nonneg (p : Swap → Bool) {l : List Swap} (hpos : ∀ x ∈ l, 0 < x.amt) : 0 ≤ sumBy p l := by
  induction l with
  | nil => exact Int.le_refl 0
  | cons y ys ih =>
    have h1 := hpos y List.mem_cons_self
    have h2 := ih (fun x hx => hpos x (List.mem_cons_of_mem _ hx))
    rw [sumBy_cons]
    unfold val
    split <;> omega

theorem val_le_sumBy (p : Swap → Bool) {l : List Swap} (hpos : ∀ x ∈ l, 0 < x.amt) {x : Swap} (hm : x ∈ l) :
    val p x ≤ sumBy p l := by
  induction l with
  | nil => cases hm
  | cons y ys ih =>
    rw [sumBy_cons]
    have hys : ∀ z ∈ ys, 0 < z.amt := fun z hz => hpos z (List.mem_cons_of_mem _ hz)
    cases hm with
    | head => have := sumBy_nonneg p hys; omega
    | tail _ hm' =>
      have := ih hys hm'
      have : 0 ≤ val p y := by
        have := hpos y List.mem_cons_self
        unfold val; split <;> omega
      omega

theorem live_covered {cfg : Cfg} {hs : Hashes} {s : St} (h : Inv cfg hs s) {sw : Swap} (hm : sw ∈ s.swaps)
    (hst : sw.status ≠ .completed) :
    (sw.dir = .incoming → sw.amt ≤ (s.supply sw.denom).incoming) ∧
    (sw.dir = .outgoing → sw.amt ≤ (s.supply sw.denom).outgoing ∧ sw.amt ≤ s.bal cfg.module sw.denom ∧
        sw.amt ≤ (s.supply sw.denom).current) := by
  constructor
  · intro hd
    have := val_le_sumBy (live .incoming sw.denom) h.pos hm
    rw [val_live hst, ← h.inc] at this
    simpa [hd] using this
  · intro hd
    have := val_le_sumBy (live .outgoing sw.denom) h.pos hm
    rw [val_live hst] at this
    simp only [hd, and_self, ite_true] at this
    have h1 := h.out sw.denom
    have h2 := h.cust sw.denom
    have h3 := h.outle sw.denom
    exact ⟨by omega, by omega, by omega⟩

theorem decIncoming_ok {sup : Supply} {amt : Int} (h : amt ≤ sup.incoming) :
    decIncoming sup amt = some { sup with incoming := sup.incoming - amt } := if_neg (by omega)

theorem decOutgoing_ok {sup : Supply} {amt : Int} (h : amt ≤ sup.outgoing) :
    decOutgoing sup amt = some { sup with outgoing := sup.outgoing - amt } := if_neg (by omega)

theorem decCurrent_ok {sup : Supply} {amt : Int} (h : amt ≤ sup.current) :
    decCurrent sup amt = some { sup with current := sup.current - amt } := if_neg (by omega)

theorem bankSend_ok {bal : Addr → Denom → Int} {frm : Addr} {d : Denom} {amt : Int} (h : amt ≤ bal frm d) (to : Addr) :
    ∃ bal', bankSend bal frm to d amt = some bal' := ⟨_, if_neg (by omega)⟩

theorem incCurrent_ok {a : Asset} {sup : Supply} {amt : Int} (h1 : sup.current + amt ≤ a.limit)
    (h2 : a.timeLimited = true → sup.tlCurrent + amt ≤ a.tbl) : ∃ sup', incCurrent a sup amt = some sup' := by
  unfold incCurrent
  rw [if_neg (by omega)]
  split
  · rename_i htl; have := h2 htl; exact ⟨_, if_neg (by omega)⟩
  · exact ⟨_, rfl⟩

end KV.Bep3
