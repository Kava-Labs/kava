/-
  Helper lemmas for C12: invariants over histories.
  (a) `Inv`: x/staking well-formedness + backing, preserved by every operation of the repaired code
      (`mintReceived = true`), slashes included;
  (b) `Good`: exchange rate one, whole shares, backing — preserved by every operation of the code as it is,
      except a slash of that validator.
  Both are `StakeClosed` — kept by the staking messages of accounts other than the module — so that one case
  analysis over the operations (`step_keeps`) serves both; mint, burn and slash are what each proves for itself.
-/
import KavaVerif.Proofs.Liquid
set_option linter.unusedSimpArgs false
set_option linter.unusedVariables false
namespace KV.Liquid
open KV

def dsum (del : Addr → Option Dec) : List Addr → Int
  | [] => 0
  | a :: t => optm (del a) + dsum del t

theorem dsum_updD_notin (l : List Addr) (f : Addr → Option Dec) (a : Addr) (x : Option Dec) (h : a ∉ l) :
    dsum (updD f a x) l = dsum f l := by
  induction l with
  | nil => rfl
  | cons b t ih =>
    simp only [List.mem_cons, not_or] at h
    have hb : ¬ b = a := fun e => h.1 e.symm
    simp only [dsum, updD, hb, ite_false, ih h.2]

theorem dsum_updD {l : List Addr} (f : Addr → Option Dec) {a : Addr} (x : Option Dec) (hn : l.Nodup) (h : a ∈ l) :
    dsum (updD f a x) l = dsum f l - optm (f a) + optm x := by
  induction l with
  | nil => cases h
  | cons b t ih =>
    have hnd := List.nodup_cons.mp hn
    by_cases hb : b = a
    · subst hb
      simp only [dsum, updD, ite_true, dsum_updD_notin t f b x hnd.1]
      omega
    · have hm : a ∈ t := by
        cases h with
        | head => exact absurd rfl hb
        | tail _ h' => exact h'
      simp only [dsum, updD, hb, ite_false, ih hnd.2 hm]
      omega

theorem optm_of {D : Int → Prop} {f : Addr → Option Dec} (h0 : D 0) (h : ∀ a d, f a = some d → D d.m) (b : Addr) :
    D (optm (f b)) := by
  unfold optm; split
  · exact h b _ ‹_›
  · exact h0

theorem dsum_nonneg (l : List Addr) {f : Addr → Option Dec} (h : ∀ a d, f a = some d → 0 ≤ d.m) : 0 ≤ dsum f l := by
  induction l with
  | nil => exact Int.le_refl 0
  | cons b t ih => exact Int.add_nonneg (optm_of (Int.le_refl 0) h b) ih

theorem le_dsum {l : List Addr} {f : Addr → Option Dec} (h : ∀ a d, f a = some d → 0 ≤ d.m) {a : Addr} (ha : a ∈ l) :
    optm (f a) ≤ dsum f l := by
  induction l with
  | nil => cases ha
  | cons b t ih =>
    cases ha with
    | head => exact Int.le_add_of_nonneg_right (dsum_nonneg t h)
    | tail _ h' => exact Int.le_trans (ih h') (Int.le_add_of_nonneg_left (optm_of (Int.le_refl 0) h b))

/-- well-formedness of the staking records of one validator (x/staking's own invariants):
    only listed accounts hold delegations, shares are non-negative and add up to the validator's
    DelegatorShares, tokens are non-negative. -/
def WF (accts : List Addr) (c : VSt) : Prop :=
  (∀ a, a ∉ accts → c.del a = none) ∧ (∀ a d, c.del a = some d → 0 ≤ d.m) ∧
  (∀ v, c.val = some v → 0 ≤ v.tokens ∧ v.shares.m = dsum c.del accts)

/-- `WF` of a literal state: outside the list no delegation (the `if` chain of the literal), inside non-negative
    shares and the sum, both by evaluation -/
theorem WF_of_list {accts : List Addr} {c : VSt} (h1 : ∀ a, a ∉ accts → c.del a = none)
    (h2 : ∀ a ∈ accts, 0 ≤ dm c a) (h3 : ∀ v, c.val = some v → 0 ≤ v.tokens ∧ v.shares.m = dsum c.del accts) :
    WF accts c := by
  refine ⟨h1, fun a d hd => ?_, h3⟩
  by_cases ha : a ∈ accts
  · have := h2 a ha
    rw [dm_eq, hd] at this; exact this
  · rw [h1 a ha] at hd; cases hd

variable {bk : Bool} {accts : List Addr} {M : Addr} {g : Cfg} {c c' : VSt} {d : Addr}

theorem WF.dm_nonneg (h : WF accts c) (a : Addr) : 0 ≤ dm c a := optm_of (Int.le_refl 0) h.2.1 a

theorem WF.shares_nonneg (h : WF accts c) {v : Val} (hv : c.val = some v) : 0 ≤ v.shares.m := by
  rw [(h.2.2 v hv).2]; exact dsum_nonneg accts h.2.1

theorem WF.del_le_shares (h : WF accts c) {a : Addr} {x : Dec} {v : Val} (ha : a ∈ accts) (hx : c.del a = some x)
    (hv : c.val = some v) : x.m ≤ v.shares.m := by
  have := le_dsum h.2.1 ha
  rw [hx, ← (h.2.2 v hv).2] at this; exact this

theorem tquo_nonneg {a b : Int} (ha : 0 ≤ a) (hb : 0 ≤ b) : 0 ≤ tquo a b := by
  rw [tquo_nonneg_eq a b ha hb]; exact Int.ediv_nonneg ha hb

theorem unbond_inv (hn : accts.Nodup) {c1 : VSt} {sh : Dec} {amt : Int}
    (hd : d ∈ accts) (hs : 0 ≤ sh.m) (hwf : WF accts c) (h : unbond c d sh = .ok (c1, amt)) :
    WF accts c1 ∧ 0 ≤ amt := by
  obtain ⟨x, v, v2, hx, -, hv, hr, rfl⟩ := unbond_spec h
  obtain ⟨hle, hdm, hoth, -⟩ := unbond_frame h
  obtain ⟨hT, hS⟩ := hwf.2.2 v hv
  obtain ⟨t2, s2, a6⟩ := remove_jailAdj hr
  have hamt : 0 ≤ amt ∧ 0 ≤ v.tokens - amt := by
    rcases a6 with ⟨-, e1⟩ | ⟨-, hne, e1, e3⟩
    · exact ⟨e1 ▸ hT, Int.le_of_eq (by rw [e1, Int.sub_self])⟩
    · have hSpos : 0 < v.shares.m := Int.lt_iff_le_and_ne.mpr ⟨hwf.shares_nonneg hv, Ne.symm hne⟩
      rw [tfs_trunc _ sh hT hSpos hs] at e1
      exact ⟨e1 ▸ tokOut_nonneg _ _ sh.m hT hSpos hs, e3⟩
  refine ⟨⟨fun a ha => ?_, del_of_dm fun a => ?_, fun v' hv' => ?_⟩, hamt.1⟩
  · rw [hoth a (fun e => ha (e ▸ hd))]; exact hwf.1 a ha
  · rw [hdm a]; split
    · exact Int.sub_nonneg_of_le hle
    · exact hwf.dm_nonneg a
  · cases val_after_unbond hv'
    refine ⟨t2 ▸ hamt.2, ?_⟩
    show _ = dsum (updD c.del d _) accts
    rw [s2, hS, dsum_updD c.del _ hn hd, hx, optm_drop_zero]
    show _ = _ - x.m + (x.m - sh.m)
    omega

theorem delegate_inv (hn : accts.Nodup) {c2 : VSt} {amt : Int} {r : Dec}
    (hd : d ∈ accts) (ha : 0 ≤ amt) (hwf : WF accts c) (h : delegate c d amt = .ok (c2, r)) :
    WF accts c2 ∧ 0 ≤ r.m := by
  obtain ⟨v, v1, hv, hadd, rfl⟩ := delegate_spec h
  obtain ⟨hdm, hoth, -⟩ := delegate_frame h
  obtain ⟨hT, hS⟩ := hwf.2.2 v hv
  obtain ⟨rfl, b7⟩ := addTokensFromDel_spec hadd
  have hr : 0 ≤ r.m := by
    rcases b7 with ⟨-, e⟩ | ⟨-, -, e⟩
    · rw [e]; exact Int.mul_nonneg ha (by decide)
    · rw [e]; exact tquo_nonneg (Int.mul_nonneg (hwf.shares_nonneg hv) ha) hT
  refine ⟨⟨fun a ha' => ?_, del_of_dm fun a => ?_, fun v' hv' => ?_⟩, hr⟩
  · rw [hoth a (fun e => ha' (e ▸ hd))]; exact hwf.1 a ha'
  · rw [hdm a]; split
    · exact Int.add_nonneg (hwf.dm_nonneg d) hr
    · exact hwf.dm_nonneg a
  · cases hv'
    refine ⟨Int.add_nonneg hT ha, ?_⟩
    show v.shares.m + r.m = dsum (updD c.del d _) accts
    rw [hS, dsum_updD c.del _ hn hd]
    simp only [optm, dm_eq]; omega

theorem transfer_frame {c2 : VSt} {frm to : Addr} {sh r : Dec} (hne : frm ≠ to)
    (h : transfer g c frm to sh = .ok (c2, r)) :
    (∀ a, dm c2 a = if a = frm then dm c frm - sh.m else if a = to then dm c to + r.m else dm c a) ∧
    Untouched c2 c := by
  obtain ⟨-, c1, amt, hu, hcase⟩ := transfer_spec h
  obtain ⟨-, hdm1, -, u1⟩ := unbond_frame hu
  rcases hcase with ⟨-, -, hc, hr0⟩ | ⟨-, hd⟩
  · subst hc hr0
    refine ⟨fun a => ?_, u1⟩
    rw [hdm1 a]
    by_cases h1 : a = frm
    · rw [if_pos h1, if_pos h1]
    · rw [if_neg h1, if_neg h1]
      by_cases h2 : a = to
      · rw [if_pos h2, h2]; exact (Int.add_zero _).symm
      · rw [if_neg h2]
  · obtain ⟨hdm2, -, u2⟩ := delegate_frame hd
    refine ⟨fun a => ?_, u2.trans u1⟩
    rw [hdm2 a]
    by_cases h1 : a = to
    · subst h1
      simp only [Ne.symm hne, ite_false, ite_true, hdm1 a]
    · simp only [h1, ite_false, hdm1 a]

theorem transfer_inv (hn : accts.Nodup) {c2 : VSt} {frm to : Addr} {sh r : Dec}
    (hf : frm ∈ accts) (ht : to ∈ accts) (hwf : WF accts c)
    (h : transfer g c frm to sh = .ok (c2, r)) : WF accts c2 ∧ 0 ≤ r.m := by
  obtain ⟨hpos, c1, amt, hu, hcase⟩ := transfer_spec h
  obtain ⟨wf1, hamt⟩ := unbond_inv hn hf (Int.le_of_lt hpos) hwf hu
  rcases hcase with ⟨-, -, hc, hr0⟩ | ⟨-, hd⟩
  · subst hc hr0; exact ⟨wf1, Int.le_refl 0⟩
  · exact delegate_inv hn ht hamt wf1 hd

/-- staking records well-formed and (when `bk`) the derivative backed.  `Inv true` is the invariant of the
    repaired code; `Inv false` is plain well-formedness, preserved by the code as it is. -/
def Inv (bk : Bool) (accts : List Addr) (M : Addr) (c : VSt) : Prop := WF accts c ∧ (bk = true → Backed M c)

theorem Backed.of_eq (hs : c'.supply = c.supply) (hdm : dm c' M = dm c M) (h : Backed M c) :
    Backed M c' := by
  unfold Backed at *; rw [hs, hdm]; exact h

theorem Backed.of_del_eq (hd : c'.del = c.del) (hs : c'.supply = c.supply) (h : Backed M c) : Backed M c' :=
  h.of_eq hs (by rw [dm_eq, hd]; rfl)

theorem unbond_backed {sh : Dec} {amt : Int} (hne : d ≠ M) (h : unbond c d sh = .ok (c', amt)) (hb : Backed M c) :
    Backed M c' := by
  obtain ⟨-, hdm, -, u⟩ := unbond_frame h
  exact hb.of_eq u.supply (by rw [hdm M, if_neg (Ne.symm hne)])

theorem delegate_backed {amt : Int} {r : Dec} (hne : d ≠ M) (h : delegate c d amt = .ok (c', r)) (hb : Backed M c) :
    Backed M c' := by
  obtain ⟨hdm, -, u⟩ := delegate_frame h
  exact hb.of_eq u.supply (by rw [hdm M, if_neg (Ne.symm hne)])

theorem mint_inv_fixed (hn : accts.Nodup) (hg : bk = true → g.mintReceived = true) {amount der : Int}
    (hM : M ∈ accts) (hd : d ∈ accts) (hne : d ≠ M)
    (hinv : Inv bk accts M c) (h : mint g M c d true amount = .ok (c', der)) : Inv bk accts M c' := by
  obtain ⟨hwf, hb⟩ := hinv
  obtain ⟨-, shares, c1, r, -, ht, hder, rfl⟩ := mint_effect h
  obtain ⟨wf1, hr⟩ := transfer_inv hn hd hM hwf ht
  obtain ⟨hdm, u⟩ := transfer_frame hne ht
  refine ⟨wf1, fun hbt => ?_⟩
  -- ⌊r⌋ units are minted against the `r` shares the module received
  have hb := hb hbt
  rw [hg hbt, if_pos rfl] at hder
  unfold Backed at *
  show (c1.supply + der) * P ≤ dm c1 M
  rw [hdm M, if_neg (Ne.symm hne), if_pos rfl, u.supply, hder, Int.add_mul]
  have : r.truncateInt * P ≤ r.m := chopTrunc_mul_le hr
  omega

/-- a burn takes `amount` units from the supply and `amount` shares from the module's delegation -/
theorem burn_margin {amount : Int} {r : Dec} (hne : d ≠ M) (h : burn g M c d amount = .ok (c', r)) :
    dm c' M - c'.supply * P = dm c M - c.supply * P := by
  obtain ⟨-, ht⟩ := burn_effect h
  obtain ⟨hdm, u⟩ := transfer_frame (fun e => hne e.symm) ht
  rw [hdm M, if_pos rfl, u.supply]
  show dm c M - amount * P - (c.supply - amount) * P = dm c M - c.supply * P
  rw [Int.sub_mul]; omega

theorem burn_backed {amount : Int} {r : Dec} (hne : d ≠ M) (h : burn g M c d amount = .ok (c', r))
    (hb : Backed M c) : Backed M c' := by
  have := burn_margin hne h
  unfold Backed at *; omega

theorem burn_inv (hn : accts.Nodup) {amount : Int} {r : Dec} (hM : M ∈ accts) (hd : d ∈ accts) (hne : d ≠ M)
    (hinv : Inv bk accts M c) (h : burn g M c d amount = .ok (c', r)) : Inv bk accts M c' := by
  obtain ⟨-, ht⟩ := burn_effect h
  have hwf0 : WF accts { c with bal := updI c.bal d (c.bal d - amount), supply := c.supply - amount } := hinv.1
  exact ⟨(transfer_inv hn hM hd hwf0 ht).1, fun hbt => burn_backed hne h (hinv.2 hbt)⟩

theorem validate_nonneg {amt : Int} {sh : Dec} (hwf : WF accts c) (ha : 0 ≤ amt)
    (h : validateUnbondAmount c d amt = some sh) : 0 ≤ sh.m := by
  obtain ⟨v, x, hv, hx, -, hc⟩ := validate_spec h
  rcases hc with ⟨rfl, -⟩ | e
  · exact hwf.2.1 d sh hx
  · rw [e]; exact tquo_nonneg (Int.mul_nonneg (hwf.shares_nonneg hv) ha) (hwf.2.2 v hv).1

theorem frame_inv (h1 : c'.val = c.val) (h2 : c'.del = c.del)
    (h3 : c'.supply = c.supply) (hinv : Inv bk accts M c) : Inv bk accts M c' := by
  obtain ⟨⟨w1, w2, w3⟩, hb⟩ := hinv
  exact ⟨⟨by rw [h2]; exact w1, by rw [h2]; exact w2, by rw [h1, h2]; exact w3⟩,
    fun hbt => (hb hbt).of_del_eq h2 h3⟩

theorem stkRedelegateOut_nonneg (hn : accts.Nodup) {amt tokens : Int} (hd : d ∈ accts) (hwf : WF accts c)
    (h : stkRedelegateOut c d amt = .ok (c', tokens)) : 0 ≤ tokens := by
  obtain ⟨hpos, sh, hv, hu⟩ := stkRedelegateOut_ok h
  exact (unbond_inv hn hd (validate_nonneg hwf (Int.le_of_lt hpos) hv) hwf hu).2

theorem stkSlash_inv {b : Int} (hinv : Inv bk accts M c)
    (h : stkSlash c b = .ok c') : Inv bk accts M c' := by
  obtain ⟨v, hv, hb, rfl⟩ := stkSlash_ok h
  obtain ⟨⟨w1, w2, w3⟩, hbk⟩ := hinv
  refine ⟨⟨w1, w2, fun v' hv' => ?_⟩, hbk⟩
  cases hv'
  exact ⟨by show 0 ≤ v.tokens - b; omega, (w3 v hv).2⟩

theorem stkSetStatus_inv {st : Status} {j : Bool} (hinv : Inv bk accts M c)
    (h : stkSetStatus c st j = .ok c') : Inv bk accts M c' := by
  obtain ⟨v, hv, e2, e3, hval⟩ := stkSetStatus_ok h
  obtain ⟨⟨w1, w2, w3⟩, hbk⟩ := hinv
  refine ⟨⟨by rw [e2]; exact w1, by rw [e2]; exact w2, fun v' hv' => ?_⟩, fun hbt => (hbk hbt).of_del_eq e2 e3⟩
  cases hval v' hv'
  rw [e2]; exact w3 v hv

/-- the accounts whose delegation records an operation may create -/
def Op.actors : Op → List Addr
  | .mint d _ _ => [d]
  | .burn d _ _ => [d]
  | .delegate d _ _ => [d]
  | .undelegate d _ _ => [d]
  | .redelegate d _ _ _ => [d]
  | _ => []

theorem updC_same (s : Chain) (w : Nat) (c : VSt) : updC s w c w = c := by unfold updC; simp
theorem updC_other (s : Chain) (w v : Nat) (c : VSt) (h : v ≠ w) : updC s w c v = s v := by unfold updC; simp [h]

theorem updC_keeps {Q : VSt → Prop} (s : Chain) (w v : Nat) (c : VSt) (h : Q (s v)) (hc : v = w → Q c) :
    Q (updC s w c v) := by
  unfold updC; split
  · exact hc ‹_›
  · exact h

/-- A property of one validator's slice that the staking messages of accounts other than the module keep: it reads
    only the validator, the delegations and the supply, and survives `Unbond` of validated shares, `Delegate` and a
    status change. -/
structure StakeClosed (M : Addr) (accts : List Addr) (Q : VSt → Prop) : Prop where
  frame : ∀ {c c' : VSt}, c'.val = c.val → c'.del = c.del → c'.supply = c.supply → Q c → Q c'
  of_unbond : ∀ {c c' : VSt} {d : Addr} {amt a : Int} {sh : Dec}, d ∈ accts → d ≠ M → 0 < amt →
    validateUnbondAmount c d amt = some sh → Q c → unbond c d sh = .ok (c', a) → Q c'
  of_delegate : ∀ {c c' : VSt} {d : Addr} {amt : Int} {r : Dec}, d ∈ accts → d ≠ M → 0 ≤ amt → Q c →
    delegate c d amt = .ok (c', r) → Q c'
  of_setStatus : ∀ {c c' : VSt} {st : Status} {j : Bool}, Q c → stkSetStatus c st j = .ok c' → Q c'

section
variable {Q : VSt → Prop} (hQ : StakeClosed M accts Q)
include hQ

theorem stkUndelegate_keeps {amt : Int} (hd : d ∈ accts) (hne : d ≠ M) (hq : Q c)
    (h : stkUndelegate c d amt = .ok c') : Q c' := by
  obtain ⟨hpos, sh, a, hv, hu⟩ := stkUndelegate_ok h
  obtain ⟨c1, hu1, rfl⟩ := stkUndelegateShares_ok hu
  exact hQ.frame (c := c1) rfl rfl rfl (hQ.of_unbond hd hne hpos hv hq hu1)

theorem stkRedelegateOut_keeps {amt tokens : Int} (hd : d ∈ accts) (hne : d ≠ M) (hq : Q c)
    (h : stkRedelegateOut c d amt = .ok (c', tokens)) : Q c' := by
  obtain ⟨hpos, sh, hv, hu⟩ := stkRedelegateOut_ok h
  exact hQ.of_unbond hd hne hpos hv hq hu

theorem stkRedelegateIn_keeps {tokens : Int} {fb : Bool} (hd : d ∈ accts) (hne : d ≠ M) (ht : 0 ≤ tokens)
    (hq : Q c) (h : stkRedelegateIn c d tokens fb = .ok c') : Q c' := by
  obtain ⟨c1, r, hd', e1, e2, e3⟩ := stkRedelegateIn_ok h
  exact hQ.frame e1 e2 e3 (hQ.of_delegate hd hne ht hq hd')

/-- One step keeps `Q` on validator `v`'s slice, given what mint, burn and a slash of `v` do to it and that
    redelegated tokens are non-negative (they come out of another validator's slice). -/
theorem step_keeps {s s' : Chain} {op : Op} {v : Nat}
    (hmint : ∀ c' d a x, d ∈ accts → d ≠ M → mint g M (s v) d true a = .ok (c', x) → Q c')
    (hburn : ∀ c' d a x, d ∈ accts → d ≠ M → burn g M (s v) d a = .ok (c', x) → Q c')
    (hslash : ∀ c' b, op = .slash v b → stkSlash (s v) b = .ok c' → Q c')
    (htok : ∀ d src a c1 tokens, d ∈ accts → stkRedelegateOut (s src) d a = .ok (c1, tokens) → 0 ≤ tokens)
    (hact : ∀ a ∈ op.actors, a ∈ accts) (hq : Q (s v)) (h : step g M s op = .ok s') : Q (s' v) := by
  have hs := step_ok h
  cases op with
  | mint d w a =>
    obtain ⟨hne, c, x, hr, rfl⟩ := hs
    exact updC_keeps s w v c hq fun e => hmint c d a x (hact d List.mem_cons_self) hne (e ▸ hr)
  | burn d w a =>
    obtain ⟨hne, c, x, hr, rfl⟩ := hs
    exact updC_keeps s w v c hq fun e => hburn c d a x (hact d List.mem_cons_self) hne (e ▸ hr)
  | send a b w n =>
    obtain ⟨c, hr, rfl⟩ := hs
    obtain ⟨e1, e2, e3⟩ := bankSend_ok hr
    exact updC_keeps s w v c hq fun e => hQ.frame e1 e2 e3 (e ▸ hq)
  | delegate d w a =>
    obtain ⟨hne, c, hr, rfl⟩ := hs
    obtain ⟨hpos, r, hd'⟩ := stkDelegate_ok hr
    exact updC_keeps s w v c hq fun e =>
      hQ.of_delegate (hact d List.mem_cons_self) hne (Int.le_of_lt hpos) (e ▸ hq) hd'
  | undelegate d w a =>
    obtain ⟨hne, c, hr, rfl⟩ := hs
    exact updC_keeps s w v c hq fun e => stkUndelegate_keeps hQ (hact d List.mem_cons_self) hne (e ▸ hq) hr
  | redelegate d src dst a =>
    obtain ⟨hdM, -, c1, tokens, fb, c, hout, hr, rfl⟩ := hs
    have hd := hact d List.mem_cons_self
    refine updC_keeps _ dst v c (updC_keeps s src v c1 hq fun e => stkRedelegateOut_keeps hQ hd hdM (e ▸ hq) hout)
      fun e => stkRedelegateIn_keeps hQ hd hdM (htok d src a c1 tokens hd hout) ?_ hr
    rw [← e]; exact hq
  | slash w b =>
    obtain ⟨c, hr, rfl⟩ := hs
    exact updC_keeps s w v c hq fun e => hslash c b (e ▸ rfl) (e ▸ hr)
  | setStatus w st j =>
    obtain ⟨c, hr, rfl⟩ := hs
    exact updC_keeps s w v c hq fun e => hQ.of_setStatus (e ▸ hq) hr
  | redelDone d w =>
    rw [hs]
    exact updC_keeps s w v _ hq fun e => hQ.frame (c := s w) rfl rfl rfl (e ▸ hq)

end

theorem inv_closed (hn : accts.Nodup) : StakeClosed M accts (Inv bk accts M) where
  frame := frame_inv
  of_unbond hd hne hpos hv hq hu :=
    ⟨(unbond_inv hn hd (validate_nonneg hq.1 (Int.le_of_lt hpos) hv) hq.1 hu).1, fun hbt => unbond_backed hne hu (hq.2 hbt)⟩
  of_delegate hd hne ha hq h := ⟨(delegate_inv hn hd ha hq.1 h).1, fun hbt => delegate_backed hne h (hq.2 hbt)⟩
  of_setStatus := stkSetStatus_inv

theorem step_inv_fixed (hn : accts.Nodup) (hg : bk = true → g.mintReceived = true) (hM : M ∈ accts)
    {s s' : Chain} {op : Op} (hact : ∀ a ∈ op.actors, a ∈ accts) (hinv : ∀ v, Inv bk accts M (s v))
    (h : step g M s op = .ok s') (v : Nat) : Inv bk accts M (s' v) :=
  step_keeps (inv_closed hn) (fun _ _ _ _ hd hne => mint_inv_fixed hn hg hM hd hne (hinv v))
    (fun _ _ _ _ hd hne => burn_inv hn hM hd hne (hinv v)) (fun _ _ _ => stkSlash_inv (hinv v))
    (fun _ src _ _ _ hd => stkRedelegateOut_nonneg hn hd (hinv src).1) hact (hinv v) h

theorem run_invariant {I : Chain → Prop} (g : Cfg) (M : Addr) (ops : List Op) (s s' : Chain)
    (hstep : ∀ op ∈ ops, ∀ s s', I s → step g M s op = .ok s' → I s') (hi : I s) (h : run g M s ops = some s') :
    I s' := by
  fun_induction run g M s ops
  · cases h; exact hi
  · rename_i s op ops s1 hs ih
    exact ih (fun o ho => hstep o (List.mem_cons_of_mem _ ho)) (hstep op List.mem_cons_self s _ hi hs) h
  · rename_i ih
    exact ih (fun o ho => hstep o (List.mem_cons_of_mem _ ho)) hi h
  · cases h

theorem run_inv_fixed (bk : Bool) (accts : List Addr) (hn : accts.Nodup) (g : Cfg) (hg : bk = true → g.mintReceived = true) (M : Addr) (hM : M ∈ accts)
    (ops : List Op) : ∀ (s s' : Chain), (∀ op ∈ ops, ∀ a ∈ op.actors, a ∈ accts) → (∀ v, Inv bk accts M (s v)) →
      run g M s ops = some s' → ∀ v, Inv bk accts M (s' v) :=
  fun s s' hact => run_invariant g M ops s s' fun op ho s s' hi h => step_inv_fixed hn hg hM (hact op ho) hi h

/-- exchange rate one and whole shares: the validator was never slashed and never left trimmings -/
def Rate1 (c : VSt) : Prop :=
  (∀ a d, c.del a = some d → 0 ≤ d.m ∧ d.m % P = 0) ∧
  (∀ v, c.val = some v → 0 ≤ v.tokens ∧ v.shares.m = v.tokens * P)

def Good (M : Addr) (c : VSt) : Prop := Rate1 c ∧ Backed M c

theorem Rate1.dm (h : Rate1 c) (a : Addr) : 0 ≤ dm c a ∧ dm c a % P = 0 :=
  optm_of (D := fun m => 0 ≤ m ∧ m % P = 0) ⟨Int.le_refl 0, rfl⟩ h.1 a

/-- at rate one (`T·10^18` shares for `T` tokens) `amt` tokens are worth `amt` whole shares -/
theorem tquo_rate_one {T amt : Int} (hT : 0 ≤ T) (ht : T ≠ 0) (ha : 0 ≤ amt) : tquo (T * P * amt) T = amt * P := by
  rw [Int.mul_assoc, Int.mul_comm P, tquo_nonneg_eq _ _ (Int.mul_nonneg hT (Int.mul_nonneg ha (by decide))) hT,
    Int.mul_ediv_cancel_left _ ht]

theorem unbond_rate1 {c1 : VSt} {sh : Dec} {amt k : Int} (hk : sh.m = k * P) (hk0 : 0 ≤ k)
    (hr1 : Rate1 c) (h : unbond c d sh = .ok (c1, amt)) : Rate1 c1 ∧ amt = k := by
  obtain ⟨x, v, v2, -, -, hv, hr, rfl⟩ := unbond_spec h
  obtain ⟨hle, hdm, -⟩ := unbond_frame h
  obtain ⟨hT, hS⟩ := hr1.2 v hv
  obtain ⟨t2, s2, a6⟩ := remove_jailAdj hr
  have hs0 : 0 ≤ sh.m := by rw [hk]; exact Int.mul_nonneg hk0 (by decide)
  have hamt : amt = k ∧ 0 ≤ v.tokens - amt := by
    rcases a6 with ⟨e0, e1⟩ | ⟨-, hne, e1, e3⟩
    · rw [hS, hk, ← Int.sub_mul] at e0
      have : v.tokens - k = 0 := (Int.mul_eq_zero.mp e0).resolve_right (by decide)
      omega
    · have hTpos : 0 < v.tokens := by
        rcases Int.lt_or_eq_of_le hT with h' | h'
        · exact h'
        · rw [← h', Int.zero_mul] at hS; omega
      rw [tfs_trunc _ sh hT (by rw [hS]; exact Int.mul_pos hTpos P_pos) hs0, hS, hk, tokOut_rate_one _ _ hTpos hk0] at e1
      exact ⟨e1, e3⟩
  refine ⟨⟨del_of_dm (D := fun m => 0 ≤ m ∧ m % P = 0) fun a => ?_, fun v' hv' => ?_⟩, hamt.1⟩
  · rw [hdm a]; split
    · exact ⟨Int.sub_nonneg_of_le hle, by rw [hk, Int.sub_mul_emod_self_right]; exact (hr1.dm d).2⟩
    · exact hr1.dm a
  · cases val_after_unbond hv'
    exact ⟨t2 ▸ hamt.2, by rw [s2, t2, hS, hk, hamt.1, Int.sub_mul]⟩

theorem delegate_rate1 {c2 : VSt} {amt : Int} {r : Dec} (ha : 0 ≤ amt) (hr1 : Rate1 c)
    (h : delegate c d amt = .ok (c2, r)) : Rate1 c2 ∧ r.m = amt * P := by
  obtain ⟨v, v1, hv, hadd, rfl⟩ := delegate_spec h
  obtain ⟨hdm, -⟩ := delegate_frame h
  obtain ⟨hT, hS⟩ := hr1.2 v hv
  obtain ⟨rfl, b7⟩ := addTokensFromDel_spec hadd
  have hr : r.m = amt * P := by
    rcases b7 with ⟨-, e⟩ | ⟨hs, ht, e⟩
    · exact e
    · rw [e, hS, tquo_rate_one hT ht ha]
  refine ⟨⟨del_of_dm (D := fun m => 0 ≤ m ∧ m % P = 0) fun a => ?_, fun v' hv' => ?_⟩, hr⟩
  · rw [hdm a, hr]; split
    · exact ⟨Int.add_nonneg (hr1.dm d).1 (Int.mul_nonneg ha (by decide)),
        by rw [Int.add_mul_emod_self_right]; exact (hr1.dm d).2⟩
    · exact hr1.dm a
  · cases hv'
    exact ⟨Int.add_nonneg hT ha, by show v.shares.m + r.m = _; rw [hS, hr, Int.add_mul]⟩

theorem validate_rate1 {amt : Int} {sh : Dec} (hr1 : Rate1 c) (ha : 0 < amt)
    (h : validateUnbondAmount c d amt = some sh) : ∃ k, sh.m = k * P ∧ 0 ≤ k := by
  obtain ⟨v, x, hv, hx, ht, hc⟩ := validate_spec h
  obtain ⟨hT, hS⟩ := hr1.2 v hv
  rcases hc with ⟨rfl, -⟩ | e
  · -- the cap: all of the delegation, which is whole
    obtain ⟨hx0, hxP⟩ := hr1.1 d sh hx
    refine ⟨sh.m / P, ?_, Int.ediv_nonneg hx0 (by decide)⟩
    have := Int.ediv_mul_add_emod sh.m P; rw [hxP] at this
    omega
  · exact ⟨amt, by rw [e, hS, tquo_rate_one hT ht (Int.le_of_lt ha)], Int.le_of_lt ha⟩

theorem transfer_rate1 {c2 : VSt} {frm to : Addr} {sh r : Dec} (k : Int) (hk : sh.m = k * P)
    (hr1 : Rate1 c) (h : transfer g c frm to sh = .ok (c2, r)) : Rate1 c2 ∧ r.m = sh.m := by
  obtain ⟨hpos, c1, amt, hu, hcase⟩ := transfer_spec h
  have hk0 : 0 < k := by
    rw [hk] at hpos
    exact Int.pos_of_mul_pos_left hpos (by decide)
  obtain ⟨rr1, hamt⟩ := unbond_rate1 hk (by omega) hr1 hu
  rcases hcase with ⟨-, ha0, -, -⟩ | ⟨-, hd⟩
  · -- whole shares at rate one are worth k ≥ 1 tokens: the zero-amount branch is unreachable
    omega
  · obtain ⟨rr2, hr⟩ := delegate_rate1 (by omega) rr1 hd
    exact ⟨rr2, by rw [hr, hamt, hk]⟩

theorem truncateInt_mul_P {k : Int} {d : Dec} (h : d.m = k * P) (hk : 0 ≤ k) : d.truncateInt = k := by
  unfold Dec.truncateInt
  rw [chopTrunc_nonneg_eq _ (by rw [h]; exact Int.mul_nonneg hk (by decide)), h]
  exact Int.mul_ediv_cancel k (by decide)

theorem mint_good {amount der : Int} (hne : d ≠ M)
    (hgood : Good M c) (h : mint g M c d true amount = .ok (c', der)) :
    Good M c' ∧ dm c' d = dm c d - der * P ∧ c'.bal d = c.bal d + der := by
  obtain ⟨hr1, hb⟩ := hgood
  obtain ⟨hpos, shares, c1, r, hv, ht, hder, rfl⟩ := mint_effect h
  obtain ⟨k, hk, hk0⟩ := validate_rate1 hr1 hpos hv
  obtain ⟨rr1, hr⟩ := transfer_rate1 k hk hr1 ht
  obtain ⟨hdm, u⟩ := transfer_frame hne ht
  have hderk : der = k := by
    rw [hder]; split
    · exact truncateInt_mul_P (by rw [hr, hk]) hk0
    · exact truncateInt_mul_P hk hk0
  refine ⟨⟨rr1, ?_⟩, by show dm c1 d = _; rw [hdm d, if_pos rfl, hk, hderk], by show updI _ _ _ d = _; rw [u.bal]; exact if_pos rfl⟩
  unfold Backed at *
  show (c1.supply + der) * P ≤ dm c1 M
  rw [hdm M, if_neg (Ne.symm hne), if_pos rfl, u.supply, hr, hk, hderk, Int.add_mul]
  omega

theorem burn_good {amount : Int} {r : Dec} (hne : d ≠ M)
    (hgood : Good M c) (h : burn g M c d amount = .ok (c', r)) : Good M c' := by
  obtain ⟨-, ht⟩ := burn_effect h
  have hr0 : Rate1 { c with bal := updI c.bal d (c.bal d - amount), supply := c.supply - amount } := hgood.1
  exact ⟨(transfer_rate1 amount rfl hr0 ht).1, burn_backed hne h hgood.2⟩

theorem good_frame (h1 : c'.val = c.val) (h2 : c'.del = c.del) (h3 : c'.supply = c.supply)
    (hg : Good M c) : Good M c' :=
  ⟨⟨by rw [h2]; exact hg.1.1, by rw [h1]; exact hg.1.2⟩, hg.2.of_del_eq h2 h3⟩

theorem stkSetStatus_good {st : Status} {j : Bool} (hg : Good M c)
    (h : stkSetStatus c st j = .ok c') : Good M c' := by
  obtain ⟨v, hv, e2, e3, hval⟩ := stkSetStatus_ok h
  refine ⟨⟨by rw [e2]; exact hg.1.1, fun v' hv' => ?_⟩, hg.2.of_del_eq e2 e3⟩
  cases hval v' hv'
  exact hg.1.2 v hv

def Op.slashes (op : Op) (v : Nat) : Prop := ∃ b, op = .slash v b

theorem good_closed : StakeClosed M accts (Good M) where
  frame := good_frame
  of_unbond _ hne hpos hv hq hu := by
    obtain ⟨k, hk, hk0⟩ := validate_rate1 hq.1 hpos hv
    exact ⟨(unbond_rate1 hk hk0 hq.1 hu).1, unbond_backed hne hu hq.2⟩
  of_delegate _ hne ha hq h := ⟨(delegate_rate1 ha hq.1 h).1, delegate_backed hne h hq.2⟩
  of_setStatus := stkSetStatus_good

theorem step_good (hn : accts.Nodup) {s s' : Chain} {op : Op} {v : Nat}
    (hact : ∀ a ∈ op.actors, a ∈ accts) (hwf : ∀ w, Inv false accts M (s w)) (hns : ¬ op.slashes v)
    (hg : Good M (s v)) (h : step g M s op = .ok s') : Good M (s' v) :=
  step_keeps good_closed (fun _ _ _ _ _ hne hm => (mint_good hne hg hm).1) (fun _ _ _ _ _ hne => burn_good hne hg)
    (fun _ b e => absurd ⟨b, e⟩ hns) (fun _ src _ _ _ hd => stkRedelegateOut_nonneg hn hd (hwf src).1) hact hg h

theorem run_good (accts : List Addr) (hn : accts.Nodup) (g : Cfg) (M : Addr) (hM : M ∈ accts) (v : Nat) (ops : List Op) :
    ∀ (s s' : Chain), (∀ op ∈ ops, ∀ a ∈ op.actors, a ∈ accts) → (∀ op ∈ ops, ¬ op.slashes v) →
      (∀ w, Inv false accts M (s w)) → Good M (s v) → run g M s ops = some s' → Good M (s' v) :=
  fun s s' hact hns hwf hg h =>
    (run_invariant (I := fun s => (∀ w, Inv false accts M (s w)) ∧ Good M (s v)) g M ops s s'
      (fun op ho s s' hi h =>
        ⟨step_inv_fixed (bk := false) hn (fun e => nomatch e) hM (hact op ho) hi.1 h,
         step_good hn (hact op ho) hi.1 (hns op ho) hi.2 h⟩) ⟨hwf, hg⟩ h).2
end KV.Liquid
