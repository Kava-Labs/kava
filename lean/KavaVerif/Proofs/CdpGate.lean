/-
  C05: what a successful user action / keeper liquidation implies about the collateralization ratio
  (formulation (a)), and the price-feed gate of `ValidateCollateral`.  Core Lean only.
-/
import KavaVerif.Proofs.CdpBlock

namespace KV.Cdp
open KV

variable {E : Env} {g now c p : Int} {s s' : St} {owner depositor keeper : Acct} {ty : Nat} {cd pd : Denom}
  {cp : CollParam}

/-- `CR(c) ≥ L` for the CDP record `c` at the spot price of state `s` -/
def GateOk (E : Env) (s : St) (cp : CollParam) (c : Cdp) : Prop :=
  ∃ r, calcCR c.coll cp.cf c.prin c.fees E.P.debtCf (s.price cp.spot) = .ok r ∧ cp.liqRatio.m ≤ r.m

theorem withdraw_gate (h : withdraw E now s owner depositor ty c cd = .ok s') :
    ∃ cp id c0 c2, E.P.colls[ty]? = some cp ∧ findCdp s owner ty = some (id, c0) ∧ s'.cdp id = some c2 ∧
      c2.ty = ty ∧ GateOk E s cp c2 ∧ s.status cp.spot = true ∧ s.status cp.liq = true := by
  obtain ⟨cp, id, c0, s1, c1, r, s2, R, rfl⟩ := withdraw_ok h
  obtain ⟨hcp, -, hst1, hst2, -⟩ := validateCollateral_spec R.valid
  have := R.gate
  exact ⟨cp, id, c0, _, hcp, R.find, upd_same .., R.ty1, ⟨r, R.spec.price ▸ R.ratio, by omega⟩, hst1, hst2⟩

theorem draw_gate (h : draw E now s owner ty p pd = .ok s') :
    ∃ cp id c0 c2, E.P.colls[ty]? = some cp ∧ findCdp s owner ty = some (id, c0) ∧ s'.cdp id = some c2 ∧
      c2.ty = ty ∧ GateOk E s cp c2 ∧ s.status cp.spot = true ∧ s.status cp.liq = true := by
  obtain ⟨id, c0, cp, s1, c1, r, s3, R, rfl⟩ := draw_ok h
  obtain ⟨hcp, -, hst1, hst2, -⟩ := validateCollateral_spec R.valid
  have := R.gate
  exact ⟨cp, id, c0, _, R.ty0 ▸ hcp, R.find, upd_same .., R.ty1, ⟨r, R.spec.price ▸ R.ratio, by omega⟩, hst1, hst2⟩

theorem create_gate (h : create E now s owner ty c cd p pd = .ok s') :
    ∃ cp c2, E.P.colls[ty]? = some cp ∧ s'.cdp s.nextId = some c2 ∧ c2.ty = ty ∧ c2.owner = owner ∧
      GateOk E s cp c2 ∧ s.status cp.spot = true ∧ s.status cp.liq = true := by
  obtain ⟨cp, r, s1, s3, R, rfl⟩ := create_ok h
  obtain ⟨hcp, -, hst1, hst2, -⟩ := validateCollateral_spec R.valid
  have := R.gate
  exact ⟨cp, _, hcp, upd_same .., rfl, rfl, ⟨r, R.ratio, by omega⟩, hst1, hst2⟩

/-- creation, deposit and withdrawal are refused while either market status flag is down -/
theorem feed_gate_validate
    (hcp : E.P.colls[ty]? = some cp) (hdown : s.status cp.spot = false ∨ s.status cp.liq = false) :
    validateCollateral E s ty cd = none := by
  rcases Option.eq_none_or_eq_some (validateCollateral E s ty cd) with hv | ⟨cp', hv⟩
  · exact hv
  · obtain ⟨hcp', -, h1, h2, -⟩ := validateCollateral_spec hv
    rw [hcp] at hcp'; cases hcp'
    rcases hdown with h | h
    · rw [h1] at h; cases h
    · rw [h2] at h; cases h

/-- keeper liquidation: the synchronised CDP is below the ratio at the liquidation price, and the whole
    position is gone afterwards -/
theorem liquidate_sound (hW : WF E) (hI : Inv E g s) (hk : (3 : Nat) ≤ keeper)
    (h : liquidate E now s keeper owner ty = .ok s') :
    ∃ cp id c0 s1 c1 r, E.P.colls[ty]? = some cp ∧ findCdp s owner ty = some (id, c0) ∧
      syncInterest E now s id c0 = .ok (s1, c1) ∧
      calcCR c1.coll cp.cf c1.prin c1.fees E.P.debtCf (s.price cp.liq) = .ok r ∧ r.m < cp.liqRatio.m ∧
      s'.cdp id = none ∧ (∀ a, s'.dep id a = 0) := by
  obtain ⟨id, c0, s1, c1, cp, r, reward, s4, c2, deps, R, K⟩ := liquidate_seize hW hI hk h
  have SP := K.spec hW
  have := R.gate
  exact ⟨cp, id, c0, s1, c1, r, R.params, R.find, R.sync, R.spec.price ▸ R.ratio, by omega, SP.gone, SP.deps0⟩

end KV.Cdp
