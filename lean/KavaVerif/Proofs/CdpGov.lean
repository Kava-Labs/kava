/-
  C04 / C05 helper lemmas, governance: the parameters of x/cdp change on a live chain (governance end blocker,
  committee begin blocker) while CDPs exist.  Every step of the model takes the parameters in force as an
  argument (`Env`), so a change between two steps is a change of that argument.  What a change cannot alter
  without making the stored ratio-index keys and the custody sums meaningless is the *shape* of the environment:
  the account universe, the debt conversion factor, and per collateral type (position) its denom and its
  conversion factor.  Everything else — liquidation ratio, stability fee, debt limits, debt floor, keeper reward,
  index count, market ids, auction thresholds and lots, the order of the list, whether a type is listed at all
  (`active`) — may change freely: the invariant does not see it.  Core Lean only.
-/
import KavaVerif.Proofs.CdpBlock
import KavaVerif.Proofs.CdpExample

namespace KV.Cdp
open KV

variable {E : Env} {g now : Int} {s s' : St} {ty : Nat} {cd : Denom} {cp : CollParam}

/-- two environments that differ by a parameter change which leaves the attributes of the stored data alone -/
structure SameShape (E E' : Env) : Prop where
  accts : E'.accts = E.accts
  debtCf : E'.P.debtCf = E.P.debtCf
  cf : ∀ ty, cfOf E' ty = cfOf E ty
  denom : ∀ ty, denomOf E' ty = denomOf E ty

theorem SameShape.refl (E : Env) : SameShape E E := ⟨rfl, rfl, fun _ => rfl, fun _ => rfl⟩

theorem SameShape.symm {E E' : Env} (h : SameShape E E') : SameShape E' E :=
  ⟨h.accts.symm, h.debtCf.symm, fun ty => (h.cf ty).symm, fun ty => (h.denom ty).symm⟩

theorem SameShape.trans {E E' E'' : Env} (h : SameShape E E') (h' : SameShape E' E'') : SameShape E E'' :=
  ⟨h'.accts.trans h.accts, h'.debtCf.trans h.debtCf, fun ty => (h'.cf ty).trans (h.cf ty),
   fun ty => (h'.denom ty).trans (h.denom ty)⟩

/-- the checkable form: same accounts, same debt conversion factor, and the two type lists agree position by
    position on (denom, conversion factor) — the liquidation ratio, the fee, the limits, the market ids, the
    `active` flag and the loop order are free -/
theorem sameShape_of_lists {E' : Env} (ha : E'.accts = E.accts) (hd' : E'.P.debtCf = E.P.debtCf)
    (hm : E'.P.colls.map (fun (cp : CollParam) => (cp.denom, cp.cf)) = E.P.colls.map (fun (cp : CollParam) => (cp.denom, cp.cf))) :
    SameShape E E' := by
  -- `denomOf` and `cfOf` read the two components of the list entry, with default 0
  have hd : ∀ E : Env, ∀ ty, denomOf E ty = (((E.P.colls[ty]?).map fun cp => (cp.denom, cp.cf)).map Prod.fst).getD 0 :=
    fun E ty => by unfold denomOf; cases E.P.colls[ty]? <;> rfl
  have hc : ∀ E : Env, ∀ ty, cfOf E ty = (((E.P.colls[ty]?).map fun cp => (cp.denom, cp.cf)).map Prod.snd).getD 0 :=
    fun E ty => by unfold cfOf; cases E.P.colls[ty]? <;> rfl
  exact ⟨ha, hd', fun ty => by rw [hc, hc]; simp only [← List.getElem?_map, hm],
    fun ty => by rw [hd, hd]; simp only [← List.getElem?_map, hm]⟩

theorem keyOf_shape {E' : Env} (h : SameShape E E') : keyOf E' = keyOf E := by
  funext c
  unfold keyOf
  rw [h.cf, h.debtCf]

theorem collOf_shape {E' : Env} (h : SameShape E E') : collOf E' = collOf E := by
  funext cdp d id
  unfold collOf
  split
  · rw [h.denom]
  · rfl

/-- a parameter change that keeps the shape keeps the invariant: nothing has to be migrated -/
theorem inv_shape {E' : Env} (h : SameShape E E') (hI : Inv E g s) : Inv E' g s := by
  obtain ⟨hidx, hown, hcoll, hdebt⟩ := hI
  refine ⟨?_, hown, ?_, hdebt⟩
  · unfold IdxOk at *
    rw [keyOf_shape h]
    exact hidx
  · unfold CollOk at *
    rw [collOf_shape h, h.accts]
    exact hcoll

/-- a history in which the parameters may change before any step: every step carries the environment in force -/
def runG (s : St) : List (Env × Op) → St
  | [] => s
  | (E, op) :: rest => runG (apply E s op) rest

theorem runG_inv {E0 : Env} : ∀ (steps : List (Env × Op)) (s : St), Inv E0 g s →
    (∀ E op, (E, op) ∈ steps → WF E ∧ SameShape E0 E ∧ OpOk E op) → Inv E0 g (runG s steps) := by
  intro steps
  induction steps with
  | nil => intro s hI _; exact hI
  | cons st rest ih =>
    intro s hI hall
    obtain ⟨E, op⟩ := st
    simp only [runG]
    obtain ⟨hW, hS, hop⟩ := hall E op (by simp)
    have h1 : Inv E g (apply E s op) := apply_inv hW (inv_shape hS hI) hop
    exact ih _ (inv_shape hS.symm h1) (fun E' op' hm => hall E' op' (List.mem_cons_of_mem _ hm))

theorem validateCollateral_inactive (h : isActive E ty = false) :
    validateCollateral E s ty cd = none := by
  rcases Option.eq_none_or_eq_some (validateCollateral E s ty cd) with hv | ⟨cp, hv⟩
  · exact hv
  · have hcp := (validateCollateral_spec hv).1
    simp [isActive, activeColl, hcp, validateCollateral_active hv] at h

/-- while a collateral type is not listed in the parameters (removed by governance, or not yet added), every
    user operation on it fails — create, deposit, withdraw, draw, repay, keeper liquidation — so by
    `C04_failed_noop` the CDPs of that type, their deposits and both indexes are frozen -/
theorem inactive_refuses (h : isActive E ty = false) (now : Int) :
    (∀ o c cd p pd, (create E now s o ty c cd p pd).isOk = false) ∧
    (∀ o d c cd, (deposit E now s o d ty c cd).isOk = false) ∧
    (∀ o d c cd, (withdraw E now s o d ty c cd).isOk = false) ∧
    (∀ o p pd, (draw E now s o ty p pd).isOk = false) ∧
    (∀ o p pd, (repay E now s o ty p pd).isOk = false) ∧
    (∀ k o, (liquidate E now s k o ty).isOk = false) :=
  ⟨fun _ _ _ _ _ => by rw [create_refused (validateCollateral_inactive h)]; rfl,
   fun _ _ _ _ => by rw [deposit_refused (validateCollateral_inactive h)]; rfl,
   fun _ _ _ _ => by rw [withdraw_refused (validateCollateral_inactive h)]; rfl,
   fun _ _ _ => by rw [draw_refused (fun _ => validateCollateral_inactive h)]; rfl,
   fun _ _ _ => by rw [repay_refused h]; rfl,
   fun _ _ => by rw [liquidate_refused h]; rfl⟩

/-- the begin blocker visits exactly the listed types, in the order of the parameter list -/
theorem blockTypes_active {facs : List Dec} {f : Dec}
    (hm : (ty, cp, f) ∈ blockTypes E facs) : isActive E ty = true := by
  obtain ⟨hcp, ha, -⟩ := blockTypes_mem hm
  unfold isActive activeColl
  rw [hcp]
  simp [ha]

/-- a begin block leaves every CDP of a collateral type that is not listed exactly as it was (not synchronised,
    not seized), whatever the prices are -/
theorem beginBlock_keeps_unlisted {skip : Bool} {facs : List Dec}
    (hW : WF E) (hI : Inv E g s) (h : beginBlock E now skip facs s = .ok s')
    (j : Nat) (c : Cdp) (hc : s.cdp j = some c) (hu : isActive E c.ty = false) : s'.cdp j = some c := by
  refine (beginBlock_inv hW hI h).2 j c hc fun ty cp f hm e => ?_
  have := blockTypes_active hm
  rw [← e, hu] at this; cases this

/-- the example world with its only collateral type removed -/
def exEnvRemoved : Env := { exEnv with P := { exEnv.P with colls := [{ exColl with active := false }] } }

/-- … and with the type back under a higher liquidation ratio (2.0), a different fee class and swapped markets -/
def exEnvRaised : Env :=
  { exEnv with P := { exEnv.P with colls := [{ exColl with liqRatio := ⟨2000000000000000000⟩, feeIsOne := true, spot := 1, liq := 0 }] } }

end KV.Cdp
