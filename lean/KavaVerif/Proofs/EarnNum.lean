/-
  Exactness of the sdk.Dec expressions used by x/earn's ConvertToShares / ConvertToAssets:
  on non-negative operands they are plain integer floors of mantissas.
-/
import KavaVerif.Model.Earn
set_option linter.unusedSimpArgs false
set_option linter.unusedVariables false
namespace KV.Earn
open KV

theorem P_pos : (0:Int) < P := by decide
theorem P_ne : P ≠ 0 := by decide

theorem mul_ofInt (x t : Int) : Dec.mul (Dec.ofInt x) ⟨t⟩ = ⟨x * t⟩ := by
  unfold Dec.mul Dec.ofInt
  rw [Int.mul_right_comm, chopRound_mul_P]

theorem quoTruncate_m {n d : Int} (hn : 0 ≤ n) (hd : 0 < d) : (Dec.quoTruncate ⟨n⟩ ⟨d⟩).m = n * P / d := by
  have h1 : 0 ≤ n * P * P := Int.mul_nonneg (Int.mul_nonneg hn (by decide)) (by decide)
  show chopTrunc (tquo (n * P * P) d) = _
  rw [tquo_nonneg_eq _ _ h1 (by omega), chopTrunc_nonneg_eq _ (Int.ediv_nonneg h1 (by omega)),
    Int.ediv_ediv_of_nonneg (by omega : 0 ≤ d), Int.mul_ediv_mul_of_pos_left (n * P) d P_pos]

theorem quoTruncate_ofInt {n V : Int} (hn : 0 ≤ n) (hV : 0 < V) :
    (Dec.quoTruncate ⟨n⟩ (Dec.ofInt V)).m = n / V := by
  rw [Dec.ofInt, quoTruncate_m hn (Int.mul_pos hV P_pos)]
  exact Int.mul_ediv_mul_of_pos_left n V P_pos

theorem quoTruncate_truncateInt {n t : Int} (hn : 0 ≤ n) (ht : 0 < t) :
    (Dec.quoTruncate ⟨n⟩ ⟨t⟩).truncateInt = n / t := by
  have h4 : 0 ≤ n * P / t := Int.ediv_nonneg (Int.mul_nonneg hn (by decide)) (by omega)
  rw [Dec.truncateInt, quoTruncate_m hn ht, chopTrunc_nonneg_eq _ h4,
    Int.ediv_ediv_of_nonneg (by omega : 0 ≤ t)]
  exact Int.mul_ediv_mul_of_pos_left n t P_pos

theorem tquo_nonpos {a b : Int} (ha : a ≤ 0) (hb : 0 ≤ b) : tquo a b ≤ 0 := by
  unfold tquo
  by_cases h0 : 0 ≤ a
  · have : a = 0 := by omega
    subst this; simp [hb]
  · simp only [h0, ite_false, hb, ite_true]
    have := Int.ediv_nonneg (by omega : 0 ≤ -a) hb
    omega

theorem quoTruncate_ofInt_nonpos {n V : Int} (hn : n ≤ 0) (hV : 0 < V) :
    (Dec.quoTruncate ⟨n⟩ (Dec.ofInt V)).m ≤ 0 :=
  tquo_nonpos (tquo_nonpos
    (Int.mul_nonpos_of_nonpos_of_nonneg (Int.mul_nonpos_of_nonpos_of_nonneg hn (by decide)) (by decide))
    (Int.mul_nonneg (by omega) (by decide))) (by decide)

theorem convertToShares_eq {s : St} (x : Int) (hf : s.found = true) (hv : s.val ≠ 0) :
    convertToShares s x =
      if (Dec.quoTruncate ⟨x * s.tot⟩ (Dec.ofInt s.val)).m = 0 then .err
      else if (Dec.quoTruncate ⟨x * s.tot⟩ (Dec.ofInt s.val)).m < 0 then .panic
      else .ok (Dec.quoTruncate ⟨x * s.tot⟩ (Dec.ofInt s.val)).m := by
  simp only [convertToShares, hf, hv, not_true_eq_false, ite_false, mul_ofInt]

theorem convertToShares_found {s : St} {x : Int} (hf : s.found = true) (hx : 0 ≤ x) (ht : 0 ≤ s.tot)
    (hv : 0 < s.val) :
    convertToShares s x = if x * s.tot / s.val = 0 then .err else .ok (x * s.tot / s.val) := by
  rw [convertToShares_eq x hf (by omega), quoTruncate_ofInt (Int.mul_nonneg hx ht) hv]
  have hq : 0 ≤ x * s.tot / s.val := Int.ediv_nonneg (Int.mul_nonneg hx ht) (by omega)
  rw [if_neg (by omega : ¬ x * s.tot / s.val < 0)]

theorem convertToShares_fresh {s : St} {x : Int} (hf : s.found = false) (hx : 0 ≤ x) :
    convertToShares s x = .ok (x * P) := by
  have : ¬ x * P < 0 := Int.not_lt.mpr (Int.mul_nonneg hx (by decide))
  simp only [convertToShares, Dec.ofInt, hf, Bool.false_eq_true, not_false_eq_true, ite_true, this,
    ite_false]

theorem convertToAssets_found {s : St} {n : Int} (hf : s.found = true) (ht : 0 < s.tot)
    (hv : 0 ≤ s.val) (hn : 0 ≤ n) : convertToAssets s n = .ok (s.val * n / s.tot) := by
  have ht0 : ¬ s.tot = 0 := by omega
  have : ¬ s.val * n / s.tot < 0 :=
    Int.not_lt.mpr (Int.ediv_nonneg (Int.mul_nonneg hv hn) (by omega))
  simp only [convertToAssets, hf, ht0, not_true_eq_false, ite_false, mul_ofInt,
    quoTruncate_truncateInt (Int.mul_nonneg hv hn) ht, this]

theorem convertToAssets_notfound {s : St} (n : Int) (hf : s.found = false) :
    convertToAssets s n = .err := by
  simp only [convertToAssets, hf, Bool.false_eq_true, not_false_eq_true, ite_true]

theorem convertToShares_ok {s : St} {x w : Int} (hf : s.found = true) (ht : 0 ≤ s.tot) (hv : 0 ≤ s.val)
    (h : convertToShares s x = .ok w) : 0 < s.val ∧ 0 < x ∧ w = x * s.tot / s.val ∧ 0 < w := by
  revert h
  fun_cases convertToShares s x <;> intro h <;> cases h
  · rename_i hnf _; exact absurd hf hnf
  rename_i _ hv0 issued h0 hneg
  have hV : 0 < s.val := by omega
  unfold issued at h0 hneg ⊢
  rw [mul_ofInt] at h0 hneg ⊢
  -- a non-positive amount gives a non-positive mantissa, which the two guards exclude
  have hx : 0 < x := Int.lt_of_not_ge fun hx =>
    have := quoTruncate_ofInt_nonpos (Int.mul_nonpos_of_nonpos_of_nonneg hx ht) hV
    by omega
  exact ⟨hV, hx, quoTruncate_ofInt (Int.mul_nonneg (by omega) ht) hV, by omega⟩

end KV.Earn
