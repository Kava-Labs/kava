/-
  Helper lemmas for C12 (x/liquid over the modelled x/staking primitives). Core Lean only.
  Dec arithmetic of the share/token conversions; for each modelled operation (the staking primitives,
  TransferDelegation / MintDerivative / BurnDerivative, the messages of other actors, one step of a history) one
  lemma that says what a successful run did, and for `Unbond` / `Delegate` what it left alone.
-/
import KavaVerif.Model.Liquid
set_option linter.unusedSimpArgs false
set_option linter.unusedVariables false

namespace KV.Liquid
open KV

theorem P_val : P = 1000000000000000000 := by decide
theorem H_val : H = 500000000000000000 := by decide
theorem P_pos : (0:Int) < P := by decide

theorem chopRound_nonneg_eq (x : Int) (hx : 0 ≤ x) : chopRound x = chopRoundNonneg x := by
  unfold chopRound; have : ¬ x < 0 := by omega
  simp only [this, ite_false]

theorem quo_m_nonneg (a b : Dec) (ha : 0 ≤ a.m) (hb : 0 < b.m) :
    (a.quo b).m = chopRoundNonneg (a.m * P * P / b.m) := by
  unfold Dec.quo
  have h1 : 0 ≤ a.m * P * P := Int.mul_nonneg (Int.mul_nonneg ha (by decide)) (by decide)
  simp only []
  rw [tquo_nonneg_eq _ _ h1 (by omega)]
  exact chopRound_nonneg_eq _ (Int.ediv_nonneg h1 (by omega))

theorem chopRoundNonneg_mul_P (a : Int) (ha : 0 ≤ a) : chopRoundNonneg (a * P) = a := by
  have := chopRound_mul_P a
  rw [chopRound_nonneg_eq _ (Int.mul_nonneg ha (by decide))] at this
  exact this

theorem chopTrunc_mul_le {x : Int} (h : 0 ≤ x) : chopTrunc x * P ≤ x := by
  rw [chopTrunc_nonneg_eq _ h]; exact Int.ediv_mul_le _ (by decide)

/-- `x / S` rounded half-even to 18 decimals (mantissa `r`) is at most half an ulp above: `r·S ≤ x·10^18 + S/2` -/
theorem roundQuo_upper (x S : Int) (hx : 0 ≤ x) (hS : 0 < S) :
    0 ≤ chopRoundNonneg (x * P * P / S) ∧ 2 * S * chopRoundNonneg (x * P * P / S) ≤ 2 * x * P + S := by
  have h1 : 0 ≤ x * P * P := Int.mul_nonneg (Int.mul_nonneg hx (by decide)) (by decide)
  generalize hN : x * P * P = N at h1
  have hq0 : 0 ≤ N / S := Int.ediv_nonneg h1 (by omega)
  have hqS : N / S * S ≤ N := Int.ediv_mul_le N (by omega)
  have hb := (chopRoundNonneg_bound (N / S) hq0).1
  refine ⟨chopRoundNonneg_nonneg _ hq0, ?_⟩
  generalize chopRoundNonneg (N / S) = r at *
  generalize N / S = q at *
  have h3 : (2 * (r * P)) * S ≤ (2 * q + P) * S := Int.mul_le_mul_of_nonneg_right (by omega) (by omega)
  have h4 : P * (2 * S * r) ≤ P * (2 * x * P + S) := by grind
  exact Int.le_of_mul_le_mul_left h4 (by decide)

/-- tokens handed out by `RemoveDelShares` for `sh` shares (mantissa) of a validator with `T` tokens and
    `S` delegator shares (mantissa): ⌊round₁₈(sh·T/S)⌋ -/
def tokOut (T S sh : Int) : Int := chopRoundNonneg (sh * T * P * P / S) / P

theorem tokOut_nonneg (T S sh : Int) (hT : 0 ≤ T) (hS : 0 < S) (hs : 0 ≤ sh) : 0 ≤ tokOut T S sh := by
  unfold tokOut
  have h1 : 0 ≤ sh * T * P * P := Int.mul_nonneg (Int.mul_nonneg (Int.mul_nonneg hs hT) (by decide)) (by decide)
  exact Int.ediv_nonneg (chopRoundNonneg_nonneg _ (Int.ediv_nonneg h1 (by omega))) (by decide)

theorem tokOut_upper (T S sh : Int) (hT : 0 ≤ T) (hS : 0 < S) (hs : 0 ≤ sh) :
    2 * P * (tokOut T S sh * S - sh * T) ≤ S := by
  have hr := (roundQuo_upper (sh * T) S (Int.mul_nonneg hs hT) hS).2
  have ha : tokOut T S sh * P ≤ chopRoundNonneg (sh * T * P * P / S) := Int.ediv_mul_le _ (by decide)
  generalize tokOut T S sh = a at *
  generalize chopRoundNonneg _ = r at *
  have h2 : 2 * S * (a * P) ≤ 2 * S * r := Int.mul_le_mul_of_nonneg_left ha (by omega)
  have e : 2 * P * (a * S - sh * T) = 2 * S * (a * P) - 2 * (sh * T) * P := by
    rw [Int.mul_sub]; congr 1 <;> ac_rfl
  rw [e]
  generalize 2 * S * (a * P) = u at *
  generalize 2 * (sh * T) * P = w at *
  generalize 2 * S * r = z at *
  omega

/-- less than one token is left behind -/
theorem tokOut_lower (T S sh : Int) (hT : 0 ≤ T) (hS : 0 < S) (hs : 0 ≤ sh) :
    sh * T < (tokOut T S sh + 1) * S := by
  have h1 : 0 ≤ sh * T * P * P := Int.mul_nonneg (Int.mul_nonneg (Int.mul_nonneg hs hT) (by decide)) (by decide)
  generalize hN : sh * T * P * P = N at h1
  have hq0 : 0 ≤ N / S := Int.ediv_nonneg h1 (by omega)
  have hqS : N < (N / S + 1) * S := Int.lt_ediv_add_one_mul_self N hS
  have hb := (chopRoundNonneg_bound (N / S) hq0).2
  have ha : chopRoundNonneg (N / S) < (tokOut T S sh + 1) * P := by
    unfold tokOut; rw [hN]; exact Int.lt_ediv_add_one_mul_self _ (by decide)
  generalize tokOut T S sh = a at *
  generalize chopRoundNonneg (N / S) = r at *
  generalize N / S = q at *
  have h2 : r * P ≤ (a * P + P - 1) * P := Int.mul_le_mul_of_nonneg_right (by grind) (by decide)
  have h3 : (2 * q) * S ≤ (2 * (a * P + P - 1) * P + P) * S := Int.mul_le_mul_of_nonneg_right (by grind) (by omega)
  have h4 : P * P * (sh * T) < P * P * ((a + 1) * S) := by
    simp only [P_val] at *
    grind
  exact Int.lt_of_mul_lt_mul_left h4 (by decide)

theorem tokOut_rate_one (T k : Int) (hT : 0 < T) (hk : 0 ≤ k) : tokOut T (T * P) (k * P) = k := by
  unfold tokOut
  have e : k * P * T * P * P = (k * P * P) * (T * P) := by grind
  rw [e, Int.mul_ediv_cancel _ (by have := P_pos; have : 0 < T * P := Int.mul_pos hT P_pos; omega)]
  have e2 : k * P * P = (k * P) * P := by grind
  rw [e2, chopRoundNonneg_mul_P _ (Int.mul_nonneg hk (by decide))]
  exact Int.mul_ediv_cancel k (by decide)

theorem tfs_trunc (v : Val) (sh : Dec) (hT : 0 ≤ v.tokens) (hS : 0 < v.shares.m) (hs : 0 ≤ sh.m) :
    (v.tokensFromShares sh).truncateInt = tokOut v.tokens v.shares.m sh.m := by
  unfold Val.tokensFromShares Dec.truncateInt
  have hm : 0 ≤ (sh.mulInt v.tokens).m := by unfold Dec.mulInt; exact Int.mul_nonneg hs hT
  rw [quo_m_nonneg _ _ hm hS]
  have h1 : 0 ≤ sh.m * v.tokens * P * P := Int.mul_nonneg (Int.mul_nonneg (Int.mul_nonneg hs hT) (by decide)) (by decide)
  rw [chopTrunc_nonneg_eq _ (chopRoundNonneg_nonneg _ (Int.ediv_nonneg (by unfold Dec.mulInt; exact h1) (by omega)))]
  rfl

/-- `SharesFromTokens` and `SharesFromTokensTruncated` coincide (nested floor): the cap in
    `ValidateUnbondAmount` is dead code in this SDK version. -/
theorem sft_eq_truncated (v : Val) (amt : Int) (hT : 0 < v.tokens) (hS : 0 ≤ v.shares.m) (ha : 0 ≤ amt) :
    v.sharesFromTokensTruncated amt = v.sharesFromTokens amt := by
  unfold Val.sharesFromTokensTruncated Val.sharesFromTokens
  have hT0 : ¬ v.tokens = 0 := by omega
  simp only [hT0, ite_false]
  congr 1
  unfold Dec.quoTruncate Dec.quoInt Dec.mulInt Dec.ofInt
  simp only []
  have hx : 0 ≤ v.shares.m * amt := Int.mul_nonneg hS ha
  generalize v.shares.m * amt = x at hx
  have hxP : 0 ≤ x * P * P := Int.mul_nonneg (Int.mul_nonneg hx (by decide)) (by decide)
  have hTP : 0 < v.tokens * P := Int.mul_pos hT P_pos
  rw [tquo_nonneg_eq _ _ hxP (by omega), tquo_nonneg_eq _ _ hx (by omega)]
  rw [chopTrunc_nonneg_eq _ (Int.ediv_nonneg hxP (by omega))]
  congr 1
  -- ⌊⌊x·P·P / (T·P)⌋ / P⌋ = ⌊x / T⌋
  have e1 : x * P * P / (v.tokens * P) = x * P / v.tokens := by
    rw [Int.mul_ediv_mul_of_pos_left _ _ P_pos]
  rw [e1, Int.ediv_ediv_of_nonneg (by omega), Int.mul_ediv_mul_of_pos_left _ _ P_pos]

/-- mantissa of a delegation (0 when there is no record) -/
def dm (c : VSt) (a : Addr) : Int := match c.del a with | some d => d.m | none => 0

def optm (o : Option Dec) : Int := match o with | some d => d.m | none => 0

theorem dm_eq (c : VSt) (a : Addr) : dm c a = optm (c.del a) := rfl

/-- a delegation that reaches zero shares is removed: the mantissa reads the same -/
theorem optm_drop_zero (z : Dec) : optm (if z.m = 0 then none else some z) = z.m := by
  split
  · exact (‹z.m = 0›).symm
  · rfl

variable {g : Cfg} {M : Addr} {c c' c1 c2 : VSt} {d frm to : Addr} {sh r : Dec} {amt : Int}

theorem del_of_dm {D : Int → Prop} (h : ∀ a, D (dm c a)) (a : Addr) (y : Dec) (hy : c.del a = some y) : D y.m := by
  have := h a
  rw [dm_eq, hy] at this; exact this

theorem removeDelShares_spec {v v2 : Val} (h : v.removeDelShares sh = some (v2, amt)) :
    v2 = { v with tokens := v.tokens - amt, shares := v.shares.sub sh } ∧
    ((v.shares.m - sh.m = 0 ∧ amt = v.tokens) ∨
     (v.shares.m - sh.m ≠ 0 ∧ v.shares.m ≠ 0 ∧ amt = (v.tokensFromShares sh).truncateInt ∧ 0 ≤ v.tokens - amt)) := by
  revert h
  fun_cases Val.removeDelShares v sh <;> intro h
  · cases h; exact ⟨by rw [Int.sub_self], Or.inl ⟨‹_›, rfl⟩⟩
  · cases h
  · cases h
  · obtain ⟨rfl, rfl⟩ := Prod.mk.inj (Option.some.inj h)
    exact ⟨rfl, Or.inr ⟨‹_›, ‹_›, rfl, Int.not_lt.mp ‹_›⟩⟩

theorem sharesFromTokens_some {v : Val} (h : v.sharesFromTokens amt = some sh) :
    v.tokens ≠ 0 ∧ sh.m = tquo (v.shares.m * amt) v.tokens := by
  unfold Val.sharesFromTokens at h
  split at h <;> cases h
  exact ⟨‹_›, rfl⟩

theorem addTokensFromDel_spec {v v1 : Val} (h : v.addTokensFromDel amt = some (v1, r)) :
    v1 = { v with tokens := v.tokens + amt, shares := v.shares.add r } ∧
    ((v.shares.m = 0 ∧ r.m = amt * P) ∨ (v.shares.m ≠ 0 ∧ v.tokens ≠ 0 ∧ r.m = tquo (v.shares.m * amt) v.tokens)) := by
  revert h
  fun_cases Val.addTokensFromDel v amt <;> intro h <;> cases h
  · exact ⟨rfl, Or.inl ⟨‹_›, rfl⟩⟩
  · exact ⟨rfl, Or.inr ⟨‹_›, sharesFromTokens_some ‹_›⟩⟩

/-- the validator as `Unbond` sees it after the self-delegation check -/
def jailAdj (v : Val) (d : Addr) (newDel : Dec) : Val :=
  if d = v.oper ∧ v.jailed = false ∧ v.belowMinSelf newDel = true then { v with jailed := true } else v

theorem unbond_spec (h : unbond c d sh = .ok (c1, amt)) :
    ∃ x v v2, c.del d = some x ∧ sh.m ≤ x.m ∧ c.val = some v ∧
      (jailAdj v d (x.sub sh)).removeDelShares sh = some (v2, amt) ∧
      c1 = { c with val := if v2.shares.m = 0 ∧ v2.status = .unbonded then none else some v2,
                    del := updD c.del d (if (x.sub sh).m = 0 then none else some (x.sub sh)) } := by
  revert h
  fun_cases unbond c d sh <;> intro h <;> cases h
  exact ⟨_, _, _, ‹_›, Int.not_lt.mp ‹_›, ‹_›, ‹_›, by rw [apply_ite (updD c.del d)]⟩

/-- a validator that is still there after `Unbond` is the one `RemoveDelShares` returned -/
theorem val_after_unbond {v2 v' : Val}
    (h : (if v2.shares.m = 0 ∧ v2.status = .unbonded then none else some v2) = some v') : v' = v2 := by
  split at h <;> cases h
  rfl

/-- jailing the operator does not change what `RemoveDelShares` computes -/
theorem remove_jailAdj {v v2 : Val} {nd : Dec} (h : (jailAdj v d nd).removeDelShares sh = some (v2, amt)) :
    v2.tokens = v.tokens - amt ∧ v2.shares.m = v.shares.m - sh.m ∧
    ((v.shares.m - sh.m = 0 ∧ amt = v.tokens) ∨
     (v.shares.m - sh.m ≠ 0 ∧ v.shares.m ≠ 0 ∧ amt = (v.tokensFromShares sh).truncateInt ∧ 0 ≤ v.tokens - amt)) := by
  unfold jailAdj at h
  split at h <;> obtain ⟨rfl, a⟩ := removeDelShares_spec h <;> exact ⟨rfl, rfl, a⟩

theorem delegate_spec (h : delegate c d amt = .ok (c2, r)) :
    ∃ v v1, c.val = some v ∧ v.addTokensFromDel amt = some (v1, r) ∧
      c2 = { c with val := some v1, del := updD c.del d (some ⟨dm c d + r.m⟩) } := by
  revert h
  fun_cases delegate c d amt <;> intro h <;> cases h
  have e : dm c d = (match c.del d with | none => Dec.zero | some x => x).m := by unfold dm; cases c.del d <;> rfl
  exact ⟨_, _, ‹_›, ‹_›, by rw [e]; rfl⟩

/-- what neither `Unbond` nor `Delegate` touches -/
structure Untouched (c' c : VSt) : Prop where
  supply : c'.supply = c.supply
  bal : c'.bal = c.bal
  ubd : c'.ubd = c.ubd
  redel : c'.redel = c.redel

theorem Untouched.trans {c c' c'' : VSt} (h2 : Untouched c'' c') (h1 : Untouched c' c) : Untouched c'' c :=
  ⟨h2.supply.trans h1.supply, h2.bal.trans h1.bal, h2.ubd.trans h1.ubd, h2.redel.trans h1.redel⟩

theorem unbond_frame (h : unbond c d sh = .ok (c1, amt)) :
    sh.m ≤ dm c d ∧ (∀ a, dm c1 a = if a = d then dm c d - sh.m else dm c a) ∧ (∀ a, a ≠ d → c1.del a = c.del a) ∧
    Untouched c1 c := by
  obtain ⟨x, v, v2, hx, hle, -, -, rfl⟩ := unbond_spec h
  refine ⟨by rw [dm_eq, hx]; exact hle, fun a => ?_, fun a ha => if_neg ha, ⟨rfl, rfl, rfl, rfl⟩⟩
  simp only [dm_eq, updD]
  by_cases had : a = d
  · rw [if_pos had, if_pos had, optm_drop_zero, hx]; rfl
  · rw [if_neg had, if_neg had]

theorem delegate_frame (h : delegate c d amt = .ok (c2, r)) :
    (∀ a, dm c2 a = if a = d then dm c d + r.m else dm c a) ∧ (∀ a, a ≠ d → c2.del a = c.del a) ∧
    Untouched c2 c := by
  obtain ⟨v, v1, -, -, rfl⟩ := delegate_spec h
  refine ⟨fun a => ?_, fun a ha => if_neg ha, ⟨rfl, rfl, rfl, rfl⟩⟩
  simp only [dm_eq, updD]
  by_cases had : a = d
  · simp only [had, ite_true, optm]
  · simp only [had, ite_false]

/-- `TransferDelegation` is `Unbond`, then (unless nothing came out and the zero-amount repair is on) `Delegate` -/
theorem transfer_spec (h : transfer g c frm to sh = .ok (c2, r)) :
    0 < sh.m ∧ ∃ c1 amt, unbond c frm sh = .ok (c1, amt) ∧
      ((g.skipZeroDelegate = true ∧ amt = 0 ∧ c2 = c1 ∧ r = Dec.zero) ∨
       (¬ (g.skipZeroDelegate = true ∧ amt = 0) ∧ delegate c1 to amt = .ok (c2, r))) := by
  revert h
  fun_cases transfer g c frm to sh <;> intro h <;> cases h
  · exact ⟨by omega, _, _, ‹_›, Or.inl ⟨‹_ ∧ _›.1, ‹_ ∧ _›.2, rfl, rfl⟩⟩
  · exact ⟨by omega, _, _, ‹_›, Or.inr ⟨‹_›, ‹_›⟩⟩

/-- the two guards of `TransferDelegation` the property speaks of -/
theorem transfer_redel (h : c.redel frm = true) :
    transfer g c frm to sh = .err := by
  unfold transfer; rw [if_pos h]

theorem transfer_belowMinSelf {v : Val} {x : Dec}
    (hv : c.val = some v) (hx : c.del frm = some x) (ho : frm = v.oper) (hb : v.belowMinSelf (x.sub sh) = true) :
    transfer g c frm to sh = .err := by
  unfold transfer
  rw [hx, hv]
  simp only [if_pos (And.intro ho hb)]
  split
  · rfl
  · split
    · rfl
    · split <;> rfl

theorem jailAdj_of_guard {v : Val} {nd : Dec} (h : ¬ (d = v.oper ∧ v.belowMinSelf nd = true)) :
    jailAdj v d nd = v := by
  unfold jailAdj
  have : ¬ (d = v.oper ∧ v.jailed = false ∧ v.belowMinSelf nd = true) := fun ⟨a, _, b⟩ => h ⟨a, b⟩
  rw [if_neg this]

/-- What a successful `TransferDelegation` does to the validator record and to the delegation records (what it
    leaves alone: `transfer_frame`).  Last clause: either (repaired code only) nothing was unbonded and nothing is
    re-delegated, or the unbonded tokens are delegated for the recipient. -/
theorem transfer_effect (hne : frm ≠ to)
    (h : transfer g c frm to sh = .ok (c2, r)) :
    ∃ x v v2 amt, c.del frm = some x ∧ c.val = some v ∧ 0 < sh.m ∧ sh.m ≤ x.m ∧
      v.removeDelShares sh = some (v2, amt) ∧
      c2.del frm = (if x.m - sh.m = 0 then none else some ⟨x.m - sh.m⟩) ∧
      (∀ a, a ≠ frm → a ≠ to → c2.del a = c.del a) ∧
      ((g.skipZeroDelegate = true ∧ amt = 0 ∧ r = Dec.zero ∧ c2.del to = c.del to ∧
          c2.val = (if v2.shares.m = 0 ∧ v2.status = .unbonded then none else some v2)) ∨
       (¬ (g.skipZeroDelegate = true ∧ amt = 0) ∧ ∃ v3,
          v2.addTokensFromDel amt = some (v3, r) ∧ c2.val = some v3 ∧ c2.del to = some ⟨dm c to + r.m⟩)) := by
  obtain ⟨hpos, c1, amt, hu, hcase⟩ := transfer_spec h
  obtain ⟨x, v, v2, hx, hle, hv, hr, rfl⟩ := unbond_spec hu
  rw [jailAdj_of_guard fun hg => by rw [transfer_belowMinSelf hv hx hg.1 hg.2] at h; cases h] at hr
  refine ⟨x, v, v2, amt, hx, hv, hpos, hle, hr, ?_⟩
  rcases hcase with ⟨hs, ha0, rfl, rfl⟩ | ⟨hns, hd⟩
  · exact ⟨if_pos rfl, fun a h1 _ => if_neg h1, Or.inl ⟨hs, ha0, rfl, if_neg (Ne.symm hne), rfl⟩⟩
  · obtain ⟨w, v3, hw, ha, rfl⟩ := delegate_spec hd
    cases val_after_unbond hw
    refine ⟨(if_neg hne).trans (if_pos rfl), fun a h1 h2 => (if_neg h2).trans (if_neg h1),
      Or.inr ⟨hns, v3, ha, rfl, (if_pos rfl).trans ?_⟩⟩
    rw [dm_eq, dm_eq]; exact congrArg (fun o => some (Dec.mk (optm o + r.m))) (if_neg (Ne.symm hne))

theorem xfer_val {v v2 v3 : Val} (h1 : v.removeDelShares sh = some (v2, amt))
    (h2 : v2.addTokensFromDel amt = some (v3, r)) :
    v3 = { v with shares := (v.shares.sub sh).add r } := by
  obtain ⟨rfl, -⟩ := removeDelShares_spec h1
  obtain ⟨rfl, -⟩ := addTokensFromDel_spec h2
  rw [Val.mk.injEq]
  exact ⟨Int.sub_add_cancel .., rfl, rfl, rfl, rfl, rfl⟩

theorem mint_effect {amount der : Int} (h : mint g M c d true amount = .ok (c', der)) :
    0 < amount ∧ ∃ shares c1 r, validateUnbondAmount c d amount = some shares ∧
      transfer g c d M shares = .ok (c1, r) ∧
      der = (if g.mintReceived then r.truncateInt else shares.truncateInt) ∧
      c' = { c1 with bal := updI c1.bal d (c1.bal d + der), supply := c1.supply + der } := by
  revert h
  fun_cases mint g M c d true amount <;> intro h
  case case6 =>
    obtain ⟨rfl, rfl⟩ := Prod.mk.inj (Res.ok.inj h)
    exact ⟨by omega, _, _, _, ‹_›, ‹_›, rfl, rfl⟩
  all_goals cases h

/-- `ValidateUnbondAmount`: the validator has tokens; the shares are those of `SharesFromTokens`, or — the cap — the
    whole delegation when that is less -/
theorem validate_spec (h : validateUnbondAmount c d amt = some sh) :
    ∃ v x, c.val = some v ∧ c.del d = some x ∧ v.tokens ≠ 0 ∧
      ((sh = x ∧ x.m < tquo (v.shares.m * amt) v.tokens) ∨ sh.m = tquo (v.shares.m * amt) v.tokens) := by
  revert h
  fun_cases validateUnbondAmount c d amt <;> intro h <;> cases h <;>
    obtain ⟨ht, e⟩ := sharesFromTokens_some ‹Val.sharesFromTokens _ amt = _›
  · exact ⟨_, _, ‹_›, ‹_›, ht, Or.inl ⟨rfl, e ▸ ‹_›⟩⟩
  · exact ⟨_, _, ‹_›, ‹_›, ht, Or.inr e⟩

theorem burn_effect {amount : Int} (h : burn g M c d amount = .ok (c', r)) :
    amount ≤ c.bal d ∧
    transfer g { c with bal := updI c.bal d (c.bal d - amount), supply := c.supply - amount } M d (Dec.ofInt amount)
      = .ok (c', r) := by
  revert h
  fun_cases burn g M c d amount <;> intro h
  · cases h
  · cases h
  · exact ⟨by omega, h⟩

theorem stkDelegate_ok (h : stkDelegate c d amt = .ok c') :
    0 < amt ∧ ∃ r, delegate c d amt = .ok (c', r) := by
  revert h
  fun_cases stkDelegate c d amt <;> intro h <;> cases h
  exact ⟨by omega, _, ‹_›⟩

theorem stkUndelegateShares_ok (h : stkUndelegateShares c d sh = .ok (c', amt)) :
    ∃ c1, unbond c d sh = .ok (c1, amt) ∧ c' = { c1 with ubd := updI c1.ubd d (c1.ubd d + amt) } := by
  revert h
  fun_cases stkUndelegateShares c d sh <;> intro h <;> cases h
  exact ⟨_, ‹_›, rfl⟩

theorem stkUndelegate_ok (h : stkUndelegate c d amt = .ok c') :
    0 < amt ∧ ∃ sh a, validateUnbondAmount c d amt = some sh ∧ stkUndelegateShares c d sh = .ok (c', a) := by
  revert h
  fun_cases stkUndelegate c d amt <;> intro h <;> cases h
  exact ⟨by omega, _, _, ‹_›, ‹_›⟩

theorem stkRedelegateOut_ok {tokens : Int} (h : stkRedelegateOut c d amt = .ok (c', tokens)) :
    0 < amt ∧ ∃ sh, validateUnbondAmount c d amt = some sh ∧ unbond c d sh = .ok (c', tokens) := by
  revert h
  fun_cases stkRedelegateOut c d amt <;> intro h <;> cases h
  exact ⟨by omega, _, ‹_›, ‹_›⟩

theorem stkRedelegateIn_ok {tokens : Int} {fb : Bool} (h : stkRedelegateIn c d tokens fb = .ok c') :
    ∃ c1 r, delegate c d tokens = .ok (c1, r) ∧ c'.val = c1.val ∧ c'.del = c1.del ∧ c'.supply = c1.supply := by
  revert h
  fun_cases stkRedelegateIn c d tokens fb <;> intro h <;> cases h
  exact ⟨_, _, ‹_›, by split <;> rfl, by split <;> rfl, by split <;> rfl⟩

theorem bankSend_ok {a b : Addr} {n : Int} (h : bankSend c a b n = .ok c') :
    c'.val = c.val ∧ c'.del = c.del ∧ c'.supply = c.supply := by
  revert h
  fun_cases bankSend c a b n <;> intro h <;> cases h
  exact ⟨rfl, rfl, rfl⟩

theorem stkSlash_ok {b : Int} (h : stkSlash c b = .ok c') :
    ∃ v, c.val = some v ∧ b ≤ v.tokens ∧ c' = { c with val := some { v with tokens := v.tokens - b } } := by
  revert h
  fun_cases stkSlash c b <;> intro h <;> cases h
  exact ⟨_, ‹_›, by omega, rfl⟩

theorem stkSetStatus_ok {st : Status} {j : Bool} (h : stkSetStatus c st j = .ok c') :
    ∃ v, c.val = some v ∧ c'.del = c.del ∧ c'.supply = c.supply ∧
      ∀ v', c'.val = some v' → v' = { v with status := st, jailed := j } := by
  revert h
  fun_cases stkSetStatus c st j <;> intro h <;> cases h
  · exact ⟨_, ‹_›, rfl, rfl, fun _ e => nomatch e⟩
  · exact ⟨_, ‹_›, rfl, rfl, fun _ e => (Option.some.inj e).symm⟩

theorem liftV_ok {α : Type} {s s' : Chain} {v : Nat} {r : Res (VSt × α)} (h : liftV s v r = .ok s') :
    ∃ c x, r = .ok (c, x) ∧ s' = updC s v c := by
  revert h
  fun_cases liftV s v r <;> intro h <;> cases h
  exact ⟨_, _, rfl, rfl⟩

theorem lift0_ok {s s' : Chain} {v : Nat} {r : Res VSt} (h : lift0 s v r = .ok s') :
    ∃ c, r = .ok c ∧ s' = updC s v c := by
  revert h
  fun_cases lift0 s v r <;> intro h <;> cases h
  exact ⟨_, rfl, rfl⟩

theorem step_ok {s s' : Chain} {op : Op} (h : step g M s op = .ok s') :
    match op with
    | .mint d v a => d ≠ M ∧ ∃ c x, mint g M (s v) d true a = .ok (c, x) ∧ s' = updC s v c
    | .burn d v a => d ≠ M ∧ ∃ c x, burn g M (s v) d a = .ok (c, x) ∧ s' = updC s v c
    | .send a b v n => ∃ c, bankSend (s v) a b n = .ok c ∧ s' = updC s v c
    | .delegate d v a => d ≠ M ∧ ∃ c, stkDelegate (s v) d a = .ok c ∧ s' = updC s v c
    | .undelegate d v a => d ≠ M ∧ ∃ c, stkUndelegate (s v) d a = .ok c ∧ s' = updC s v c
    | .redelegate d src dst a => d ≠ M ∧ src ≠ dst ∧ ∃ c1 tokens fb c, stkRedelegateOut (s src) d a = .ok (c1, tokens) ∧
        stkRedelegateIn (s dst) d tokens fb = .ok c ∧ s' = updC (updC s src c1) dst c
    | .slash v b => ∃ c, stkSlash (s v) b = .ok c ∧ s' = updC s v c
    | .setStatus v st j => ∃ c, stkSetStatus (s v) st j = .ok c ∧ s' = updC s v c
    | .redelDone d v => s' = updC s v (stkRedelDone (s v) d) := by
  cases op with
  | mint d v a | burn d v a =>
    simp only [step] at h ⊢
    split at h
    · cases h
    · exact ⟨‹_›, liftV_ok h⟩
  | delegate d v a | undelegate d v a =>
    simp only [step] at h ⊢
    split at h
    · cases h
    · exact ⟨‹_›, lift0_ok h⟩
  | send a b v n =>
    simp only [step] at h ⊢
    split at h
    · cases h
    · exact lift0_ok h
  | redelegate d src dst a =>
    simp only [step] at h ⊢
    split at h
    · cases h
    · rename_i hne
      split at h
      · cases h
      · cases h
      · obtain ⟨c, hr, rfl⟩ := lift0_ok h
        exact ⟨fun e => hne (Or.inl e), fun e => hne (Or.inr e), _, _, _, c, ‹_›, hr, rfl⟩
  | slash v b | setStatus v st j => exact lift0_ok h
  | redelDone d v => simp only [step] at h ⊢; cases h; rfl

def Res.okAnd {α : Type} (r : Res α) (p : α → Bool) : Bool := match r with | .ok a => p a | _ => false

theorem Res.okAnd_elim {α : Type} {r : Res α} {p : α → Bool} (h : r.okAnd p = true) :
    ∃ a, r = .ok a ∧ p a = true := by
  unfold Res.okAnd at h
  split at h
  · exact ⟨_, rfl, h⟩
  · cases h

/-- a fact about the validator record of a literal state -/
theorem of_val {c : VSt} {v0 : Val} {Q : Val → Prop} (hc : c.val = some v0) (h : Q v0) :
    ∀ v, c.val = some v → Q v :=
  fun _ hv => Option.some.inj (hc.symm.trans hv) ▸ h

/-- "the supply of a validator's derivative never exceeds the delegation shares held by the module account" -/
def Backed (M : Addr) (c : VSt) : Prop := c.supply * P ≤ dm c M
instance (M : Addr) (c : VSt) : Decidable (Backed M c) := by unfold Backed; exact inferInstance

/-- "without ever creating an empty delegation" -/
def NoEmptyAt (c : VSt) (a : Addr) : Prop := c.del a ≠ some ⟨0⟩
instance (c : VSt) (a : Addr) : Decidable (NoEmptyAt c a) := by unfold NoEmptyAt; exact inferInstance

/-- the chain's own valuation of an account's stake on this validator, as the numerator of a fraction over the
    validator's shares: (delegation shares + derivative units) × tokens.  Staked value in base units =
    `stakeNum c a / shares`. -/
def stakeNum (c : VSt) (a : Addr) : Int :=
  match c.val with
  | some v => (dm c a + c.bal a * P) * v.tokens
  | none => 0

def sharesOf (c : VSt) : Int := match c.val with | some v => v.shares.m | none => 0

/-- |value' − value| ≤ 2 base units, cross-multiplied: value = stakeNum / shares -/
def ValueWithinTwo (c c' : VSt) (a : Addr) : Prop :=
  stakeNum c' a * sharesOf c - stakeNum c a * sharesOf c' ≤ 2 * sharesOf c * sharesOf c' ∧
  stakeNum c a * sharesOf c' - stakeNum c' a * sharesOf c ≤ 2 * sharesOf c * sharesOf c'
instance (c c' : VSt) (a : Addr) : Decidable (ValueWithinTwo c c' a) := by unfold ValueWithinTwo; exact inferInstance

end KV.Liquid
