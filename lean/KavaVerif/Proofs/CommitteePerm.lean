/-
  Helper lemmas for C17 (a): the permission checker of x/committee/types/permissions.go versus the
  amino-JSON applier. Core tactics only.
-/
import KavaVerif.Model.Permissions
set_option linter.unusedSimpArgs false
set_option linter.unusedVariables false
namespace KV.Perm

theorem beq_sound :
    (∀ a b, Json.beq a b = true → a = b) ∧ (∀ a b : List (String × Json), beqObj a b = true → a = b) ∧
    (∀ a b, beqList a b = true → a = b) := by
  refine Json.beq.mutual_induct (fun a b => Json.beq a b = true → a = b)
    (fun a b => beqObj a b = true → a = b) (fun a b => beqList a b = true → a = b)
    (fun _ => rfl) ?_ ?_ ?_ ?_ ?_ ?_ (fun _ => rfl) ?_ ?_ (fun _ => rfl) ?_ ?_
  · intro a b h; rw [Json.beq, beq_iff_eq] at h; rw [h]
  · intro a b h; rw [Json.beq, beq_iff_eq] at h; rw [h]
  · intro a b h; rw [Json.beq, beq_iff_eq] at h; rw [h]
  · intro a b ih h; rw [Json.beq] at h; rw [ih h]
  · intro a b ih h; rw [Json.beq] at h; rw [ih h]
  · intro a b h1 h2 h3 h4 h5 h6 h; rw [Json.beq.eq_7 a b h1 h2 h3 h4 h5 h6] at h; cases h
  · intro x xs y ys ih1 ih2 h
    rw [beqList, Bool.and_eq_true] at h
    rw [ih1 h.1, ih2 h.2]
  · intro a b h1 h2 h; rw [beqList.eq_3 a b h1 h2] at h; cases h
  · intro k x xs l y ys ih1 ih2 h
    rw [beqObj, Bool.and_eq_true, Bool.and_eq_true, beq_iff_eq] at h
    rw [h.1.1, ih1 h.1.2, ih2 h.2]
  · intro a b h1 h2 h; rw [beqObj.eq_3 a b h1 h2] at h; cases h

theorem Json.eq_of_beq : ∀ (a b : Json), Json.beq a b = true → a = b := beq_sound.1
theorem eq_of_beqList : ∀ (a b : List Json), beqList a b = true → a = b := beq_sound.2.2
theorem eq_of_beqObj : ∀ (a b : List (String × Json)), beqObj a b = true → a = b := beq_sound.2.1

theorem hasKey_iff_mem_keys {o : Obj} {k : String} : hasKey o k = true ↔ k ∈ keys o := by
  unfold hasKey keys
  simp only [List.any_eq_true, beq_iff_eq, List.mem_map]

theorem hasKey_iff_lookup (o : Obj) (k : String) : hasKey o k = (o.lookup k).isSome := by
  induction o with
  | nil => rfl
  | cons kv rest ih =>
    obtain ⟨l, w⟩ := kv
    rw [hasKey, List.any_cons, ← hasKey, ih, List.lookup_cons, BEq.comm]
    cases k == l <;> rfl

theorem lookup_none_of_not_mem_keys {o : Obj} {k : String} (h : k ∉ keys o) : o.lookup k = none := by
  rw [← hasKey_iff_mem_keys, hasKey_iff_lookup] at h
  exact Option.not_isSome_iff_eq_none.1 h

theorem get_of_lookup_some {o : Obj} {k : String} {v : Json} (h : o.lookup k = some v) : get o k = v := by
  unfold get; rw [h]; rfl

theorem get_of_lookup_none {o : Obj} {k : String} (h : o.lookup k = none) : get o k = .null := by
  unfold get; rw [h]; rfl

theorem get_null_of_not_mem_keys {o : Obj} {k : String} (h : k ∉ keys o) : get o k = .null :=
  get_of_lookup_none (lookup_none_of_not_mem_keys h)

theorem validate_spec {cur inc : Obj} {allow : List String} (h : validate cur inc allow = true) :
    cur.length = inc.length ∧ (∀ k, k ∈ keys inc → k ∈ keys cur) ∧
    ∀ k, k ∈ keys cur → k ∉ allow → get cur k = get inc k := by
  revert h
  fun_cases validate cur inc allow with
  | case1 | case2 => exact nofun
  | case3 hl hsub =>
    intro h
    rw [Bool.not_eq_true, bne_eq_false_iff_eq] at hl
    rw [Bool.not_eq_true, Bool.not_eq_false', List.all_eq_true] at hsub
    rw [List.all_eq_true] at h
    refine ⟨hl, fun k hk => hasKey_iff_mem_keys.1 (hsub k hk), fun k hk hna => ?_⟩
    rcases Bool.or_eq_true _ _ ▸ h k hk with h1 | h2
    · exact absurd (List.contains_iff_mem.1 h1) hna
    · exact Json.eq_of_beq _ _ h2

theorem findFree_spec {r : Req} {inc : List Obj} {used : List Nat} {i : Nat}
    (h : findFree r inc used = some i) :
    i < inc.length ∧ i ∉ used ∧ ∃ v, inc[i]? = some v ∧ matchesReq v r = true := by
  unfold findFree at h
  have hm := List.mem_of_find?_eq_some h
  have hp := List.find?_some h
  simp only [List.mem_range] at hm
  simp only [Bool.and_eq_true, Bool.not_eq_true', List.contains_eq_mem, decide_eq_false_iff_not] at hp
  refine ⟨hm, hp.1, ?_⟩
  cases hv : inc[i]? with
  | none => rw [hv] at hp; simp at hp
  | some v => rw [hv] at hp; exact ⟨v, rfl, hp.2⟩

/-- what the loop established for the pair (current record, assigned incoming index) -/
def Pair (reqs : List Req) (inc : List Obj) (c : Obj) (i : Nat) : Prop :=
  ∃ r v, reqs.find? (matchesReq c) = some r ∧ inc[i]? = some v ∧ matchesReq v r = true ∧
    validate c v r.allowed = true

theorem assign_spec {reqs : List Req} {inc : List Obj} {cur : List Obj} {used idxs : List Nat}
    (h : assign reqs inc used cur = some idxs) :
    idxs.length = cur.length ∧ (∀ i, i ∈ idxs → i < inc.length ∧ i ∉ used) ∧ idxs.Nodup ∧
    ∀ p, p ∈ cur.zip idxs → Pair reqs inc p.1 p.2 := by
  fun_induction assign reqs inc used cur generalizing idxs with
  | case1 => cases h; exact ⟨rfl, nofun, List.nodup_nil, nofun⟩
  | case2 | case3 | case4 | case6 => cases h
  | case5 used c cs r hr i hi v hv hval ih =>
    obtain ⟨rest, hrest, rfl⟩ := Option.map_eq_some_iff.1 h
    obtain ⟨hlen, hbound, hnd, hpairs⟩ := ih hrest
    obtain ⟨hilt, hiu, v', hv', hmv⟩ := findFree_spec hi
    rw [hv] at hv'; cases hv'
    refine ⟨congrArg (· + 1) hlen, ?_, List.nodup_cons.2 ⟨fun hm => (hbound i hm).2 List.mem_cons_self, hnd⟩, ?_⟩
    · intro j hj
      rcases List.mem_cons.mp hj with rfl | hj
      · exact ⟨hilt, hiu⟩
      · exact ⟨(hbound j hj).1, fun hu => (hbound j hj).2 (List.mem_cons_of_mem _ hu)⟩
    · intro p hp
      rcases List.mem_cons.1 hp with rfl | hp
      · exact ⟨r, v, hr, hv, hmv, hval⟩
      · exact hpairs p hp

theorem allowsMulti_spec {reqs : List Req} {cur inc : List Obj} (h : allowsMulti reqs cur inc = true) :
    cur.length = inc.length ∧ ∃ idxs, assign reqs inc [] cur = some idxs := by
  revert h
  fun_cases allowsMulti reqs cur inc with
  | case1 => exact nofun
  | case2 hl =>
    rw [Bool.not_eq_true, bne_eq_false_iff_eq] at hl
    exact fun h => ⟨hl, Option.isSome_iff_exists.1 h⟩

theorem nodup_length_le (n : Nat) : ∀ l : List Nat, l.Nodup → (∀ x, x ∈ l → x < n) → l.length ≤ n := by
  induction n with
  | zero =>
    intro l _ h
    cases l with
    | nil => exact Nat.le_refl 0
    | cons a t => exact absurd (h a List.mem_cons_self) (Nat.not_lt_zero a)
  | succ n ih =>
    intro l hnd hlt
    refine Nat.sub_le_iff_le_add.1 (Nat.le_trans List.le_length_erase (ih (l.erase n) (hnd.erase n) fun x hx => ?_))
    obtain ⟨hne, hx⟩ := hnd.mem_erase_iff.1 hx
    exact Nat.lt_of_le_of_ne (Nat.le_of_lt_succ (hlt x hx)) hne

theorem pigeonhole : ∀ (n : Nat) (l : List Nat), l.Nodup → (∀ x, x ∈ l → x < n) → l.length = n →
    ∀ j, j < n → j ∈ l := by
  intro n l hnd hlt hlen j hj
  refine Decidable.byContradiction fun hjl => ?_
  have := nodup_length_le n (j :: l) (List.nodup_cons.2 ⟨hjl, hnd⟩) fun x hx => by
    rcases List.mem_cons.1 hx with rfl | hx
    · exact hj
    · exact hlt x hx
  rw [List.length_cons, hlen] at this
  exact Nat.not_succ_le_self n this

theorem filter_empty_of_unlisted {apcs : List APC} {c : Change}
    (h : ∀ a, a ∈ apcs → ¬ (a.subspace = c.subspace ∧ a.key = c.key)) : filterByParamChange apcs c = [] := by
  unfold filterByParamChange
  rw [List.filter_eq_nil_iff]
  intro a ha hp
  simp only [Bool.and_eq_true, beq_iff_eq] at hp
  exact h a ha ⟨hp.1.symm, hp.2.symm⟩

theorem allowsChanges_unlisted {apcs : List APC} {st : Store} {cs : List Change} {c : Change} (hc : c ∈ cs)
    (h : ∀ a, a ∈ apcs → ¬ (a.subspace = c.subspace ∧ a.key = c.key)) : allowsChanges apcs st cs ≠ .yes := by
  fun_induction allowsChanges apcs st cs with
  | case1 => cases hc
  | case2 d ds hyes ih =>
    rcases List.mem_cons.mp hc with rfl | hin
    · rw [filter_empty_of_unlisted h, anyAllows] at hyes; cases hyes
    · exact ih hin
  | case3 d ds hv => exact hv

theorem Verdict.ofBool_eq_yes {b : Bool} (h : Verdict.ofBool b = .yes) : b = true := by
  cases b
  · exact nomatch h
  · rfl

theorem Verdict.ofBool_ne_panic (b : Bool) : Verdict.ofBool b ≠ .panic := by
  cases b <;> exact nofun

/-- the shape both branches of `checkAgainst` share: decode the incoming value (failure = refusal), decode
    the current one (failure = `panic(err)`), compare -/
def decodeCompare {α : Type} (f : Json → Option α) (g : α → α → Bool) (curRaw value : Option Json) : Verdict :=
  match value.bind f with
  | none => .no
  | some inc =>
    match curRaw.bind f with
    | none => .panic
    | some cur => .ofBool (g cur inc)

theorem checkAgainst_eq (a : APC) (curRaw value : Option Json) : checkAgainst a curRaw value =
    if isArrayRaw curRaw then decodeCompare asMaps (allowsMulti a.multi) curRaw value
    else decodeCompare asMap (fun cur inc => validate cur inc a.single) curRaw value := by
  unfold checkAgainst decodeCompare
  split
  · cases value.bind asMaps with
    | none => rfl
    | some inc => cases curRaw.bind asMaps <;> rfl
  · cases value.bind asMap with
    | none => rfl
    | some inc => cases curRaw.bind asMap <;> rfl

theorem decodeCompare_eq_yes {α : Type} {f : Json → Option α} {g : α → α → Bool} {curJ incJ : Json}
    (h : decodeCompare f g (some curJ) (some incJ) = .yes) :
    ∃ cur inc, f curJ = some cur ∧ f incJ = some inc ∧ g cur inc = true := by
  revert h
  fun_cases decodeCompare f g (some curJ) (some incJ) with
  | case1 | case2 => exact nofun
  | case3 inc hinc cur hcur => exact fun h => ⟨cur, inc, hcur, hinc, Verdict.ofBool_eq_yes h⟩

theorem decodeCompare_ne_panic {α : Type} {f : Json → Option α} {g : α → α → Bool} {curRaw value : Option Json}
    (h : (curRaw.bind f).isSome = true) : decodeCompare f g curRaw value ≠ .panic := by
  fun_cases decodeCompare f g curRaw value with
  | case1 => exact nofun
  | case2 inc _ hcur => rw [hcur] at h; cases h
  | case3 => exact Verdict.ofBool_ne_panic _

/-- the decoded value of the LAST occurrence of key `k` in a raw JSON object -/
def lastValue : List (String × Json) → String → Option Json
  | [], _ => none
  | (k, v) :: rest, k' =>
    match lastValue rest k' with
    | some x => some x
    | none => if k == k' then some (decode v) else none

theorem lookup_insertSorted (k : String) (v : Json) (o : Obj) (hk : o.lookup k = none) (k' : String) :
    (insertSorted k v o).lookup k' = if k' == k then some v else o.lookup k' := by
  fun_induction insertSorted k v o with
  | case1 | case2 => rw [List.lookup_cons]; cases k' == k <;> rfl
  | case3 l w rest hlt ih =>
    rw [List.lookup_cons] at hk
    cases hkl : k == l with
    | true => rw [hkl] at hk; cases hk
    | false =>
      rw [hkl] at hk
      rw [List.lookup_cons, List.lookup_cons, ih hk]
      cases h2 : k' == l with
      | false => rfl
      | true =>
        have : (k' == k) = false := by rw [beq_iff_eq.1 h2, BEq.comm]; exact hkl
        rw [this]; rfl

theorem decodeObj_lookup (kvs : List (String × Json)) (k' : String) :
    (decodeObj kvs).lookup k' = lastValue kvs k' := by
  induction kvs generalizing k' with
  | nil => rfl
  | cons kv rest ih =>
    obtain ⟨k, v⟩ := kv
    rw [decodeObj, lastValue, ← ih k']
    rw [hasKey_iff_lookup]
    cases hl : (decodeObj rest).lookup k with
    | some x =>
      rw [Option.isSome_some, if_pos rfl]
      cases hl' : (decodeObj rest).lookup k' with
      | some y => rfl
      | none =>
        have : (k == k') = false := Bool.eq_false_iff.2 fun e => by
          rw [beq_iff_eq.1 e, hl'] at hl; cases hl
        rw [this]; rfl
    | none =>
      rw [Option.isSome_none, if_neg Bool.false_ne_true, lookup_insertSorted k _ _ hl k', BEq.comm]
      cases e : k == k' with
      | true => rw [← beq_iff_eq.1 e, hl]
      | false => cases (decodeObj rest).lookup k' <;> rfl
end KV.Perm
