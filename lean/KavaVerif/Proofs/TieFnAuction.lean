/-
  Source tie ("tie 1b") for x/auction/keeper/auctions.go: the Lean definitions REGENERATED from the Go source on every run
  (Generated/FnAuction.lean, tools/extract/fn*.go) equal the hand-written model functions the C06 theorems are
  about.  An edit of a Go function changes the generated definition and its equality proof stops checking.
-/
import KavaVerif.Generated.FnAuction
import KavaVerif.Model.Auction
import KavaVerif.Proofs.TieFnBase

namespace KV.TieFn
open KV KV.Go

/-- `earliestTime(now.Add(d), maxEnd)` = `endTime now d maxEnd` (times as unix nanoseconds) -/
theorem auction_earliestTime (now d maxEnd : Int) :
    GoFn.Auction.earliestTime_translated = true ∧
    GoFn.Auction.earliestTime (now + d) maxEnd = R.ok (KV.Auc.endTime now d maxEnd) := by
  refine ⟨rfl, ?_⟩
  simp only [GoFn.Auction.earliestTime, KV.Auc.endTime]
  tie_norm
  exact (apply_ite R.ok _ _ _).symm

end KV.TieFn
