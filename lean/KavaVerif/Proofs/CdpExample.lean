/-
  The concrete example world used by the non-vacuity examples and the counterexample theorems of
  Props/C04.lean and Props/C05.lean.  Core Lean only.
-/
import KavaVerif.Proofs.CdpInv

namespace KV.Cdp
open KV

/-- one collateral type: conversion factor 8, liquidation ratio 1.5, keeper reward 1 % -/
def exColl : CollParam :=
  { denom := 2, liqRatio := ⟨1500000000000000000⟩, debtLimit := 1000000000000000, feeIsOne := false,
    keeperReward := ⟨10000000000000000⟩, checkCount := 10, cf := 8, spot := 0, liq := 1 }

def exEnv : Env :=
  { P := { colls := [exColl], debtCf := 6, debtFloor := 10000000, globalLimit := 1000000000000000,
           surplusThreshold := 1000000000000000000, surplusLot := 1,
           debtThreshold := 1000000000000000000, debtLot := 1 },
    accts := [3, 4] }

/-- genesis: no CDPs, both prices 0.5, users 3 and 4 hold 100 units of collateral and 100 usdx -/
def exGenesis : St :=
  { cdp := fun _ => none, nextId := 1, dep := fun _ _ => 0, own := fun _ => [], idx := [],
    tprin := fun _ => 0, ifac := fun _ => some Dec.one, accr := fun _ => none, status := fun _ => true,
    price := fun _ => some ⟨500000000000000000⟩,
    bal := fun a d => if (a = 3 ∨ a = 4) ∧ d = 2 then 10000000000 else if (a = 3 ∨ a = 4) ∧ d = 0 then 100000000 else 0,
    supply := fun d => if d = 0 then 200000000 else 0 }

/-- user 3 opens 30 units of collateral / 10 usdx at price 0.5: exactly 150 % -/
def exAtRatio : St := apply exEnv exGenesis (.create 100 3 0 3000000000 2 10000000 0)

theorem exEnv_wf : WF exEnv := by
  refine ⟨by decide, by decide, ?_⟩
  intro ty cp h
  cases ty with
  | zero => simp [exEnv] at h; subst h; decide
  | succ n => simp [exEnv] at h

/-- `exAtRatio` after a further deposit of 30 (CR 300 %), with the liquidation market (only) having lost its
    price and its status flag lowered by the begin blocker — the state of former finding F12 -/
def exLiqDownDeposited : St :=
  let s := apply exEnv exAtRatio (.deposit 100 3 3 0 3000000000 2)
  { s with price := upd s.price 1 none, status := upd s.status 1 false }

/-- the state of former finding F2: user 3 opens 10 units / 10.000003 usdx at price 2.0, user 4 deposits the
    same 10 units (two equal deposits, odd debt), then both prices crash to 0.001 -/
def exTwoDeposits : St :=
  let s0 : St := { exGenesis with price := fun _ => some ⟨2000000000000000000⟩ }
  let s1 := apply exEnv s0 (.create 100 3 0 1000000000 2 10000003 0)
  let s2 := apply exEnv s1 (.deposit 100 3 4 0 1000000000 2)
  { s2 with price := fun _ => some ⟨1000000000000000⟩ }

/-- the history used for non-vacuity: create at the ratio, third-party deposit, draw, a block, partial repay,
    withdraw by the third party -/
def exHistory : List Op :=
  [.create 100 3 0 3000000000 2 10000000 0, .deposit 100 3 4 0 500000000 2, .draw 100 3 0 1000000 0,
   .beginBlock 101 false [Dec.one], .repay 101 3 0 500000 0, .withdraw 101 3 4 0 100000000 2]

/-- all recorded deposits held in denom `d` (over all ids allocated so far and all accounts) -/
def depositsIn (E : Env) (s : St) (d : Denom) : Int :=
  sumAcc (List.range s.nextId) (fun id =>
    match s.cdp id with
    | some c => if denomOf E c.ty = d then sumAcc E.accts (s.dep id) else 0
    | none => 0)

end KV.Cdp
