/-
  Helper lemmas for C06, part 1: finite sums and the largest-remainder split. Core Lean only.
-/
import KavaVerif.Model.Auction

namespace KV.Auc

theorem sumTo_congr (n : Nat) (f g : Nat → Int) (h : ∀ i, i < n → f i = g i) : sumTo n f = sumTo n g := by
  induction n with
  | zero => rfl
  | succ k ih =>
    simp only [sumTo]
    rw [ih (fun i hi => h i (by omega)), h k (by omega)]

theorem sumTo_le (n : Nat) (f g : Nat → Int) (h : ∀ i, i < n → f i ≤ g i) : sumTo n f ≤ sumTo n g := by
  induction n with
  | zero => exact Int.le_refl _
  | succ k ih =>
    simp only [sumTo]
    have := ih (fun i hi => h i (by omega))
    have := h k (by omega)
    omega

theorem sumTo_add (n : Nat) (f g : Nat → Int) : sumTo n (fun i => f i + g i) = sumTo n f + sumTo n g := by
  induction n with
  | zero => rfl
  | succ k ih => simp only [sumTo]; rw [ih]; omega

theorem sumTo_sub (n : Nat) (f g : Nat → Int) : sumTo n (fun i => f i - g i) = sumTo n f - sumTo n g := by
  induction n with
  | zero => rfl
  | succ k ih => simp only [sumTo]; rw [ih]; omega

theorem sumTo_mul_right (n : Nat) (f : Nat → Int) (c : Int) : sumTo n (fun i => f i * c) = sumTo n f * c := by
  induction n with
  | zero => simp [sumTo]
  | succ k ih => simp only [sumTo]; rw [ih, Int.add_mul]

theorem sumTo_mul_left (n : Nat) (f : Nat → Int) (c : Int) : sumTo n (fun i => c * f i) = c * sumTo n f := by
  simp only [Int.mul_comm c]; exact sumTo_mul_right n f c

theorem sumTo_const (n : Nat) (c : Int) : sumTo n (fun _ => c) = n * c := by
  induction n with
  | zero => simp [sumTo]
  | succ k ih => rw [sumTo, ih, Int.natCast_succ, Int.add_mul, Int.one_mul]

theorem sumTo_zero (n : Nat) : sumTo n (fun _ => 0) = 0 := (sumTo_const n 0).trans (Int.mul_zero _)

theorem sumTo_nonneg (n : Nat) (f : Nat → Int) (h : ∀ i, i < n → 0 ≤ f i) : 0 ≤ sumTo n f :=
  sumTo_zero n ▸ sumTo_le n (fun _ => 0) f h

theorem sumTo_ge_term (n : Nat) (f : Nat → Int) (h : ∀ i, i < n → 0 ≤ f i) (i : Nat) (hi : i < n) :
    f i ≤ sumTo n f := by
  induction n with
  | zero => omega
  | succ k ih =>
    simp only [sumTo]
    by_cases hik : i = k
    · subst hik
      have := sumTo_nonneg i f (fun j hj => h j (by omega))
      omega
    · have := ih (fun j hj => h j (by omega)) (by omega)
      have := h k (by omega)
      omega

theorem sumTo_succ_front (n : Nat) (f : Nat → Int) :
    sumTo (n + 1) f = f 0 + sumTo n (fun i => f (i + 1)) := by
  induction n with
  | zero => simp [sumTo]
  | succ k ih =>
    have e : sumTo (k + 1 + 1) f = sumTo (k + 1) f + f (k + 1) := rfl
    rw [e, ih]
    simp only [sumTo]
    omega

theorem sumL_eq_sumTo (l : List Int) : sumL l = sumTo l.length (fun i => l.getD i 0) := by
  induction l with
  | nil => rfl
  | cons x xs ih =>
    simp only [sumL, List.length_cons]
    rw [sumTo_succ_front, ih]
    simp

theorem sumTo_point (n x : Nat) (hx : x < n) : sumTo n (fun i => if i = x then 1 else 0) = 1 := by
  induction n with
  | zero => omega
  | succ k ih =>
    simp only [sumTo]
    by_cases hk : k = x
    · rw [sumTo_congr k _ (fun _ => 0) (fun i hi => if_neg (by omega)), sumTo_zero, if_pos hk]; rfl
    · rw [ih (by omega), if_neg hk]; rfl

theorem sumTo_indicator (n : Nat) (E : List Nat) (hn : E.Nodup) (hlt : ∀ i, i ∈ E → i < n) :
    sumTo n (fun i => if i ∈ E then 1 else 0) = E.length := by
  induction E with
  | nil => simp [sumTo_zero]
  | cons x xs ih =>
    have hnd := List.nodup_cons.mp hn
    have h1 : sumTo n (fun i => if i ∈ x :: xs then (1:Int) else 0)
        = sumTo n (fun i => (if i = x then 1 else 0) + (if i ∈ xs then 1 else 0)) := by
      apply sumTo_congr; intro i _
      by_cases hix : i = x
      · subst hix; simp [hnd.1]
      · simp [hix]
    rw [h1, sumTo_add, sumTo_point n x (hlt x (by simp)),
      ih hnd.2 (fun i hi => hlt i (by simp [hi]))]
    simp only [List.length_cons, Int.natCast_succ]; omega

def qF (a : Int) (ws : List Int) (i : Nat) : Int := a * ws.getD i 0 / sumL ws
def rF (a : Int) (ws : List Int) (i : Nat) : Int := a * ws.getD i 0 % sumL ws
/-- `leftToAllocate` -/
def leftover (a : Int) (ws : List Int) : Int := a - sumTo ws.length (qF a ws)

theorem isLRSplit_iff (a : Int) (ws parts : List Int) :
    IsLRSplit a ws parts ↔
      (parts.length = ws.length ∧
       (∀ i, i < ws.length → parts.getD i 0 - qF a ws i = 0 ∨ parts.getD i 0 - qF a ws i = 1) ∧
       sumTo ws.length (fun i => parts.getD i 0) = a ∧
       (∀ i, i < ws.length → ∀ j, j < ws.length → parts.getD i 0 - qF a ws i = 1 →
          parts.getD j 0 - qF a ws j = 0 → rF a ws j ≤ rF a ws i)) := Iff.rfl

theorem qr_identity (a : Int) (ws : List Int) (i : Nat) :
    qF a ws i * sumL ws + rF a ws i = a * ws.getD i 0 := by
  unfold qF rF; exact Int.ediv_mul_add_emod _ _

theorem split_identity (a : Int) (ws : List Int) :
    sumTo ws.length (qF a ws) * sumL ws + sumTo ws.length (rF a ws) = a * sumL ws := by
  have h1 : sumTo ws.length (fun i => qF a ws i * sumL ws + rF a ws i)
      = sumTo ws.length (fun i => a * ws.getD i 0) :=
    sumTo_congr _ _ _ (fun i _ => qr_identity a ws i)
  rw [sumTo_add, sumTo_mul_right, sumTo_mul_left, ← sumL_eq_sumTo] at h1
  exact h1

theorem leftover_mul (a : Int) (ws : List Int) :
    leftover a ws * sumL ws = sumTo ws.length (rF a ws) := by
  have := split_identity a ws
  unfold leftover; rw [Int.sub_mul]; omega

theorem rF_bounds (a : Int) (ws : List Int) (hW : 0 < sumL ws) (i : Nat) :
    0 ≤ rF a ws i ∧ rF a ws i < sumL ws := by
  unfold rF
  exact ⟨Int.emod_nonneg _ (by omega), Int.emod_lt_of_pos _ hW⟩

theorem leftover_bounds (a : Int) (ws : List Int) (hW : 0 < sumL ws) :
    0 ≤ leftover a ws ∧ leftover a ws ≤ ws.length ∧ (0 < ws.length → leftover a ws < ws.length) := by
  have h0 : 0 ≤ sumTo ws.length (rF a ws) := sumTo_nonneg _ _ (fun i _ => (rF_bounds a ws hW i).1)
  have h1 : sumTo ws.length (rF a ws) ≤ sumTo ws.length (fun _ => sumL ws - 1) :=
    sumTo_le _ _ _ (fun i _ => by have := (rF_bounds a ws hW i).2; omega)
  rw [sumTo_const, Int.mul_sub, Int.mul_one] at h1
  -- `leftover` is the exact quotient `Σ rᵢ / W`, and `Σ rᵢ ≤ n·(W − 1)`
  rw [← Int.ediv_eq_of_eq_mul_left (Int.ne_of_gt hW) (leftover_mul a ws).symm]
  exact ⟨Int.ediv_nonneg h0 (Int.le_of_lt hW), Int.ediv_le_of_le_mul hW (by omega),
    fun hpos => Int.ediv_lt_of_lt_mul hW (by omega)⟩

theorem lr_part_eq (a : Int) (ws parts : List Int) (i : Nat) :
    parts.getD i 0 * sumL ws - a * ws.getD i 0
      = (parts.getD i 0 - qF a ws i) * sumL ws - rF a ws i := by
  have := qr_identity a ws i
  rw [Int.sub_mul]; omega

section pred
variable {a : Int} {ws parts : List Int}

theorem lr_extras_sum (h : IsLRSplit a ws parts) :
    sumTo ws.length (fun i => parts.getD i 0 - qF a ws i) = leftover a ws := by
  obtain ⟨_, _, hs, _⟩ := (isLRSplit_iff a ws parts).mp h
  rw [sumTo_sub, hs]; rfl

theorem lr_sum (h : IsLRSplit a ws parts) : sumL parts = a := by
  obtain ⟨hl, _, hs, _⟩ := (isLRSplit_iff a ws parts).mp h
  rw [sumL_eq_sumTo, hl]; exact hs

theorem lr_extra_pos_rem (hW : 0 < sumL ws) (h : IsLRSplit a ws parts) (i : Nat) (hi : i < ws.length)
    (he : parts.getD i 0 - qF a ws i = 1) : 0 < rF a ws i := by
  obtain ⟨_, h01, _, hlr⟩ := (isLRSplit_iff a ws parts).mp h
  apply Decidable.byContradiction; intro hnp
  -- otherwise every bucket without the extra unit has remainder 0, so `Σ r ≤ (W − 1)·Σ e`,
  -- while `Σ r = W·Σ e` and `Σ e ≥ eᵢ = 1`
  have hle : sumTo ws.length (rF a ws)
      ≤ sumTo ws.length (fun j => (parts.getD j 0 - qF a ws j) * (sumL ws - 1)) :=
    sumTo_le _ _ _ fun j hj => by
      have := rF_bounds a ws hW j
      have := (rF_bounds a ws hW i).1
      rcases h01 j hj with h0 | h1
      · have := hlr i hi j hj he h0; rw [h0]; omega
      · rw [h1]; omega
  have hge := sumTo_ge_term _ (fun j => parts.getD j 0 - qF a ws j)
    (fun j hj => by rcases h01 j hj with h0 | h1 <;> omega) i hi
  rw [sumTo_mul_right, lr_extras_sum h, Int.mul_sub, Int.mul_one, leftover_mul] at hle
  rw [lr_extras_sum h] at hge
  omega

theorem lr_within_one (hW : 0 < sumL ws) (h : IsLRSplit a ws parts) (i : Nat) (hi : i < ws.length) :
    -(sumL ws) < parts.getD i 0 * sumL ws - a * ws.getD i 0 ∧
    parts.getD i 0 * sumL ws - a * ws.getD i 0 < sumL ws := by
  obtain ⟨_, h01, _, _⟩ := (isLRSplit_iff a ws parts).mp h
  rw [lr_part_eq]
  have hb := rF_bounds a ws hW i
  rcases h01 i hi with h0 | h1
  · rw [h0]; omega
  · have := lr_extra_pos_rem hW h i hi h1
    rw [h1]; omega

theorem lr_zero_weight (hW : 0 < sumL ws) (h : IsLRSplit a ws parts) (i : Nat) (hi : i < ws.length)
    (hw : ws.getD i 0 = 0) : parts.getD i 0 = 0 := by
  obtain ⟨_, h01, _, _⟩ := (isLRSplit_iff a ws parts).mp h
  have hq : qF a ws i = 0 := by unfold qF; rw [hw]; simp
  have hr : rF a ws i = 0 := by unfold rF; rw [hw]; simp
  rcases h01 i hi with h0 | h1
  · omega
  · have := lr_extra_pos_rem hW h i hi h1
    omega

theorem lr_part_nonneg (ha : 0 ≤ a) (hws : ∀ i, i < ws.length → 0 ≤ ws.getD i 0) (hW : 0 < sumL ws)
    (h : IsLRSplit a ws parts) (i : Nat) (hi : i < ws.length) : 0 ≤ parts.getD i 0 := by
  obtain ⟨_, h01, _, _⟩ := (isLRSplit_iff a ws parts).mp h
  have hq : 0 ≤ qF a ws i := by
    unfold qF
    exact Int.ediv_nonneg (Int.mul_nonneg ha (hws i hi)) (by omega)
  rcases h01 i hi with h0 | h1 <;> omega

end pred

theorem insDesc_perm (rf : Nat → Int) (x : Nat) (l : List Nat) : (insDesc rf x l).Perm (x :: l) := by
  fun_induction insDesc rf x l
  · exact List.Perm.refl _
  · next y ys _ ih => exact (List.Perm.cons y ih).trans (List.Perm.swap x y ys)
  · exact List.Perm.refl _

theorem sortIdx_perm (rf : Nat → Int) (l : List Nat) : (sortIdx rf l).Perm l := by
  induction l with
  | nil => exact List.Perm.refl _
  | cons x xs ih => exact (insDesc_perm rf x _).trans (List.Perm.cons x ih)

theorem insDesc_pairwise (rf : Nat → Int) (x : Nat) (l : List Nat)
    (h : l.Pairwise (fun i j => rf j ≤ rf i)) : (insDesc rf x l).Pairwise (fun i j => rf j ≤ rf i) := by
  fun_induction insDesc rf x l
  · simp
  · next y ys _ ih =>
    have hp := List.pairwise_cons.mp h
    refine List.pairwise_cons.mpr ⟨fun z hz => ?_, ih hp.2⟩
    rcases List.mem_cons.mp ((insDesc_perm rf x ys).mem_iff.mp hz) with rfl | hz'
    · omega
    · exact hp.1 z hz'
  · next y ys _ =>
    have hp := List.pairwise_cons.mp h
    refine List.pairwise_cons.mpr ⟨fun z hz => ?_, h⟩
    rcases List.mem_cons.mp hz with rfl | hz'
    · omega
    · have := hp.1 z hz'; omega

theorem sortIdx_pairwise (rf : Nat → Int) (l : List Nat) :
    (sortIdx rf l).Pairwise (fun i j => rf j ≤ rf i) := by
  induction l with
  | nil => simp [sortIdx]
  | cons x xs ih => exact insDesc_pairwise rf x _ ih

theorem allocIdx_eq_take (L : Int) (σ : List Nat) (h0 : 0 ≤ L) : allocIdx L σ = σ.take L.toNat := by
  fun_induction allocIdx L σ
  · simp
  · next L x xs hL ih =>
    rw [ih (by omega), show L.toNat = (L - 1).toNat + 1 by omega, List.take_succ_cons]
  · next L x xs hL ih =>
    obtain rfl : L = 0 := by omega
    exact ih h0

theorem partsOf_length (n : Nat) (q : Nat → Int) (E : List Nat) : (partsOf n q E).length = n := by
  simp [partsOf]

theorem partsOf_getD (n : Nat) (q : Nat → Int) (E : List Nat) (i : Nat) (hi : i < n) :
    (partsOf n q E).getD i 0 = q i + (if i ∈ E then 1 else 0) := by
  simp [partsOf, List.getD_eq_getElem?_getD, hi]

/-- an order the apportioning loop may see: all buckets once, non-increasing remainder -/
def Admissible (a : Int) (ws : List Int) (σ : List Nat) : Prop :=
  σ.Perm (List.range' 0 ws.length) ∧ σ.Pairwise (fun i j => rF a ws j ≤ rF a ws i)

theorem splitWith_eq (σ : List Nat) (a : Int) (ws : List Int) :
    splitWith σ a ws = partsOf ws.length (qF a ws) (allocIdx (leftover a ws) σ) := rfl

theorem splitWith_isLRSplit (σ : List Nat) (a : Int) (ws : List Int) (hW : 0 < sumL ws)
    (hσ : Admissible a ws σ) : IsLRSplit a ws (splitWith σ a ws) := by
  obtain ⟨hperm, hpw⟩ := hσ
  have hmem : ∀ i, i ∈ σ ↔ i < ws.length := by
    intro i; rw [hperm.mem_iff, List.mem_range'_1]; omega
  have hlen : σ.length = ws.length := by rw [hperm.length_eq]; simp
  obtain ⟨hL0, hL1, _⟩ := leftover_bounds a ws hW
  rw [isLRSplit_iff, splitWith_eq, allocIdx_eq_take _ _ hL0]
  generalize hE : σ.take (leftover a ws).toNat = E
  have hElt : ∀ i, i ∈ E → i < ws.length := fun i hi => (hmem i).mp (List.mem_of_mem_take (hE ▸ hi))
  have hget : ∀ i, i < ws.length →
      (partsOf ws.length (qF a ws) E).getD i 0 - qF a ws i = if i ∈ E then 1 else 0 := by
    intro i hi; rw [partsOf_getD _ _ _ i hi]; omega
  refine ⟨partsOf_length _ _ _, fun i hi => ?_, ?_, fun i hi j hj hei hej => ?_⟩
  · rw [hget i hi]; split <;> simp
  · rw [sumTo_congr _ _ (fun i => qF a ws i + (if i ∈ E then 1 else 0))
        (fun i hi => partsOf_getD _ _ _ i hi), sumTo_add,
      sumTo_indicator _ E (hE ▸ (List.take_sublist _ _).nodup (hperm.nodup_iff.mpr List.nodup_range')) hElt,
      ← hE, List.length_take]
    unfold leftover at hL0 hL1 ⊢; omega
  · rw [hget i hi] at hei; rw [hget j hj] at hej
    have hiE : i ∈ σ.take (leftover a ws).toNat := hE ▸ Decidable.byContradiction fun h => by simp [h] at hei
    have hjE : j ∉ σ.take (leftover a ws).toNat := hE ▸ fun h => by simp [h] at hej
    -- `σ = take ++ drop` is sorted: everything taken comes before everything dropped
    have hj' := (hmem j).mpr hj
    rw [← List.take_append_drop (leftover a ws).toNat σ] at hpw hj'
    exact (List.pairwise_append.mp hpw).2.2 i hiE j ((List.mem_append.mp hj').resolve_left hjE)

theorem sortIdx_admissible (a : Int) (ws : List Int) :
    Admissible a ws (sortIdx (rF a ws) (List.range' 0 ws.length)) :=
  ⟨sortIdx_perm _ _, sortIdx_pairwise _ _⟩

theorem any_neg_false (ws : List Int) (h : ws.any (· < 0) = false) :
    ∀ i, i < ws.length → 0 ≤ ws.getD i 0 := by
  intro i hi
  rw [List.getD_eq_getElem?_getD, List.getElem?_eq_getElem hi]
  simpa using List.any_eq_false.mp h _ (List.getElem_mem hi)

theorem lrSplit_some {a : Int} {ws parts : List Int} (h : lrSplit a ws = some parts) :
    SplitInput a ws ∧ IsLRSplit a ws parts := by
  revert h
  fun_cases lrSplit a ws <;> intro h <;> cases h
  rename_i ha _ hneg _ hW _ _
  have hW' : 0 < sumL ws := Decidable.not_not.mp hW
  exact ⟨⟨by omega, any_neg_false ws (by simpa using hneg), hW'⟩,
    splitWith_isLRSplit _ a ws hW' (sortIdx_admissible a ws)⟩

end KV.Auc
