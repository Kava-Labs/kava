/-
  Lemmas for C11 (earn): sums over account lists, the state invariant, one inversion lemma per keeper
  call (`Withdraw` through `withdrawWith`, which leaves the dust valuation open so that the patched
  `withdrawFixed` of Proofs/EarnFix.lean is covered by the same lemmas; `Withdrawal` holds the numbers
  of a successful call), preservation of the invariant along operation lists, the redeemable-value
  bounds and the frame lemmas.
  Property statements live in KavaVerif/Props/C11.lean.
-/
import KavaVerif.Proofs.EarnNum
set_option linter.unusedSimpArgs false
set_option linter.unusedVariables false
namespace KV.Earn
open KV

def sumOver : List Addr → (Addr → Int) → Int
  | [], _ => 0
  | x :: xs, f => f x + sumOver xs f

theorem upd_same (f : Addr → Int) (a : Addr) (v : Int) : upd f a v a = v := if_pos rfl

theorem upd_ne (f : Addr → Int) {a b : Addr} (v : Int) (h : b ≠ a) : upd f a v b = f b := if_neg h

theorem sumOver_upd_notin (l : List Addr) (f : Addr → Int) (a : Addr) (v : Int) (h : a ∉ l) :
    sumOver l (upd f a v) = sumOver l f := by
  induction l with
  | nil => rfl
  | cons x xs ih =>
    simp only [List.mem_cons, not_or] at h
    simp only [sumOver, ih h.2, upd_ne f v (Ne.symm h.1)]

theorem sumOver_upd {l : List Addr} {f : Addr → Int} {a : Addr} {v : Int}
    (hn : l.Nodup) (h : a ∈ l) : sumOver l (upd f a v) = sumOver l f - f a + v := by
  induction l with
  | nil => cases h
  | cons x xs ih =>
    have hnd := List.nodup_cons.mp hn
    by_cases hx : x = a
    · subst hx
      simp only [sumOver, sumOver_upd_notin xs f x v hnd.1, upd_same]
      omega
    · have hm : a ∈ xs := (List.mem_cons.mp h).resolve_left (Ne.symm hx)
      simp only [sumOver, ih hnd.2 hm, upd_ne f v hx]
      omega

theorem ite_nonneg {c : Prop} [Decidable c] {x y : Int} (hx : 0 ≤ x) (hy : 0 ≤ y) : 0 ≤ ite c x y := by
  split <;> assumption

theorem sumOver_nonneg (l : List Addr) {f : Addr → Int} (h : ∀ a, 0 ≤ f a) : 0 ≤ sumOver l f := by
  induction l with
  | nil => exact Int.le_refl 0
  | cons x xs ih => have := h x; simp only [sumOver]; omega

theorem le_sumOver {l : List Addr} {f : Addr → Int} (h : ∀ a, 0 ≤ f a) {a : Addr} (ha : a ∈ l) :
    f a ≤ sumOver l f := by
  induction l with
  | nil => cases ha
  | cons x xs ih =>
    have hx := h x
    have hs := sumOver_nonneg xs h
    simp only [sumOver]
    cases ha with
    | head => omega
    | tail _ h' => have := ih h'; omega

theorem sumOver_zero_of_nonneg (l : List Addr) (f : Addr → Int) (h : ∀ a, 0 ≤ f a)
    (hz : sumOver l f = 0) (a : Addr) (ha : a ∈ l) : f a = 0 := by
  have := le_sumOver h ha
  have := h a
  omega

theorem sumOver_const_zero (l : List Addr) : sumOver l (fun _ => 0) = 0 := by
  induction l with
  | nil => rfl
  | cons x xs ih => simp only [sumOver, ih]; rfl

theorem sum_floor_mul_le (l : List Addr) (f : Addr → Int) (V T : Int) (hT : 0 < T) :
    sumOver l (fun a => V * f a / T) * T ≤ V * sumOver l f := by
  induction l with
  | nil => simp [sumOver]
  | cons x xs ih =>
    have h1 : V * f x / T * T ≤ V * f x := Int.ediv_mul_le _ (by omega)
    simp only [sumOver, Int.add_mul, Int.mul_add]
    omega

theorem sum_floor_le {l : List Addr} {f : Addr → Int} (V : Int) {T : Int} (hT : 0 < T)
    (hs : sumOver l f = T) : sumOver l (fun a => V * f a / T) ≤ V := by
  have h := sum_floor_mul_le l f V T hT
  rw [hs] at h
  exact Int.le_of_mul_le_mul_right h hT

theorem foldl_inv {σ ω : Type} (f : σ → ω → σ) (I : σ → Prop) (adm : ω → Prop)
    (hstep : ∀ s o, adm o → I s → I (f s o)) (ops : List ω) :
    ∀ s, (∀ o ∈ ops, adm o) → I s → I (ops.foldl f s) := by
  induction ops with
  | nil => intro s _ h; exact h
  | cons o os ih =>
    intro s ha h
    exact ih (f s o) (fun o' ho' => ha o' (List.mem_cons_of_mem _ ho'))
      (hstep s o (ha o List.mem_cons_self) h)

/-- The state invariant: non-negative shares, total shares = Σ account shares over `accts`
    (a duplicate-free list of every address that may hold shares), non-negative strategy value,
    and the vault record exists exactly when the total is non-zero. -/
def Inv (accts : List Addr) (s : St) : Prop :=
  (∀ a, 0 ≤ s.sh a) ∧ s.tot = sumOver accts s.sh ∧ 0 ≤ s.val ∧ (s.found = true ↔ s.tot ≠ 0)

theorem Inv.tot_nonneg {accts : List Addr} {s : St} (h : Inv accts s) : 0 ≤ s.tot := by
  rw [h.2.1]; exact sumOver_nonneg _ h.1

theorem Inv.tot_pos {accts : List Addr} {s : St} (h : Inv accts s) (hf : s.found = true) : 0 < s.tot := by
  have := h.tot_nonneg
  have := h.2.2.2.mp hf
  omega

theorem Inv.val_nonneg {accts : List Addr} {s : St} (h : Inv accts s) : 0 ≤ s.val := h.2.2.1

theorem Inv.tot_zero {accts : List Addr} {s : St} (h : Inv accts s) (hf : s.found = false) : s.tot = 0 :=
  Decidable.by_contra fun hz => by have := h.2.2.2.mpr hz; rw [hf] at this; cases this

theorem Inv.sh_le_tot {accts : List Addr} {s : St} (h : Inv accts s) {a : Addr} (ha : a ∈ accts) :
    s.sh a ≤ s.tot := by
  rw [h.2.1]; exact le_sumOver h.1 ha

/-- The invariant survives setting account `a`'s shares to `x ≥ 0` when the total moves by the same
    amount: the common part of `Deposit` and `Withdraw`. -/
theorem Inv.set {accts : List Addr} (hn : accts.Nodup) {s : St} {a : Addr} (ha : a ∈ accts)
    (hinv : Inv accts s) {f : Bool} {T x V : Int} (hx : 0 ≤ x) (hT : T - s.tot = x - s.sh a) (hV : 0 ≤ V)
    (hf : f = true ↔ T ≠ 0) {loose : Int} {bal : Addr → Int} :
    Inv accts { found := f, tot := T, sh := upd s.sh a x, val := V, loose := loose, bal := bal } := by
  refine ⟨fun b => ?_, ?_, hV, hf⟩
  · show 0 ≤ upd s.sh a x b
    unfold upd; split
    · exact hx
    · exact hinv.1 b
  · show T = sumOver accts (upd s.sh a x)
    rw [sumOver_upd hn ha, ← hinv.2.1]; omega

theorem empty_inv (accts : List Addr) : Inv accts empty :=
  ⟨fun _ => Int.le_refl 0, (sumOver_const_zero accts).symm, Int.le_refl 0, by simp [empty]⟩

theorem redeemable_eq {s : St} {a : Addr} (hf : s.found = true) (hT : 0 < s.tot) (hV : 0 ≤ s.val)
    (hsh : 0 ≤ s.sh a) : redeemable s a = s.val * s.sh a / s.tot := by
  unfold redeemable
  rw [convertToAssets_found hf hT hV hsh]

theorem redeemable_found {accts : List Addr} {s : St} (hinv : Inv accts s) (hf : s.found = true) (a : Addr) :
    redeemable s a = s.val * s.sh a / s.tot :=
  redeemable_eq hf (hinv.tot_pos hf) hinv.val_nonneg (hinv.1 a)

theorem redeemable_notfound {s : St} (hf : s.found = false) (a : Addr) : redeemable s a = 0 := by
  unfold redeemable
  rw [convertToAssets_notfound _ hf]

theorem redeemable_nonneg {accts : List Addr} {s : St} (hinv : Inv accts s) (a : Addr) :
    0 ≤ redeemable s a := by
  cases hf : s.found with
  | false => rw [redeemable_notfound hf]; exact Int.le_refl 0
  | true =>
    rw [redeemable_found hinv hf]
    exact Int.ediv_nonneg (Int.mul_nonneg hinv.val_nonneg (hinv.1 a)) hinv.tot_nonneg

theorem redeemable_sum_le {accts : List Addr} {s : St} (hinv : Inv accts s) :
    sumOver accts (redeemable s) ≤ s.val := by
  cases hf : s.found with
  | true =>
    rw [funext (redeemable_found hinv hf)]
    exact sum_floor_le s.val (hinv.tot_pos hf) hinv.2.1.symm
  | false =>
    rw [funext (redeemable_notfound hf), sumOver_const_zero]
    exact hinv.val_nonneg

theorem Res.ite_err_ok {c : Prop} [Decidable c] {r : Res} {s' : St} :
    (if c then Res.err else r) = .ok s' ↔ ¬ c ∧ r = .ok s' := by
  split <;> simp [*]

theorem Res.ite_panic_ok {c : Prop} [Decidable c] {r : Res} {s' : St} :
    (if c then Res.panic else r) = .ok s' ↔ ¬ c ∧ r = .ok s' := by
  split <;> simp [*]

theorem deposit_ok {s s' : St} {a : Addr} {x : Int} {vo so ao : Bool}
    (h : deposit s a x vo so ao = .ok s') :
    0 < x ∧ x ≤ s.bal a ∧ ∃ shares, convertToShares s x = .ok shares ∧
      s' = { found := true, tot := s.tot + shares, sh := upd s.sh a (s.sh a + shares),
             val := s.val + x, loose := s.loose, bal := upd s.bal a (s.bal a - x) } := by
  revert h
  fun_cases deposit s a x vo so ao <;> intro h <;> cases h
  rename_i _ hx0 _ _ hx hb shares hs
  exact ⟨by omega, Int.not_lt.mp hb, shares, hs, by rw [Int.add_sub_cancel]⟩

theorem convertToShares_inv {accts : List Addr} {s : St} {x shares : Int} (hinv : Inv accts s)
    (hx : 0 < x) (hs : convertToShares s x = .ok shares) :
    0 < shares ∧ (s.found = true → 0 < s.val ∧ shares = x * s.tot / s.val) ∧
      (s.found = false → shares = x * P) := by
  cases hf : s.found with
  | true =>
    obtain ⟨hV, -, e, hp⟩ := convertToShares_ok hf hinv.tot_nonneg hinv.val_nonneg hs
    exact ⟨hp, fun _ => ⟨hV, e⟩, nofun⟩
  | false =>
    rw [convertToShares_fresh hf (by omega : 0 ≤ x)] at hs
    cases hs
    exact ⟨Int.mul_pos hx P_pos, nofun, fun _ => rfl⟩

theorem deposit_inv {accts : List Addr} (hn : accts.Nodup) {s s' : St} {a : Addr} {x : Int}
    {vo so ao : Bool} (ha : a ∈ accts) (hinv : Inv accts s)
    (h : deposit s a x vo so ao = .ok s') : Inv accts s' := by
  obtain ⟨hx, -, shares, hs, rfl⟩ := deposit_ok h
  obtain ⟨hp, -, -⟩ := convertToShares_inv hinv hx hs
  exact hinv.set hn ha (Int.add_nonneg (hinv.1 a) (Int.le_of_lt hp)) (by omega)
    (Int.add_nonneg hinv.val_nonneg (Int.le_of_lt hx))
    ⟨fun _ => Int.ne_of_gt (Int.add_pos_of_nonneg_of_pos hinv.tot_nonneg hp), fun _ => rfl⟩

/-- `Keeper.Withdraw` with the dust valuation `dust w paid` of the shares left after redeeming `w`
    shares for `paid` coins left open: `withdraw` values them against the stored total shares
    (`dustStored`), the patched `withdrawFixed` of Proofs/EarnFix.lean against the remaining ones. -/
def withdrawWith (dust : Int → Int → R Int) (s : St) (a : Addr) (want : Int)
    (vaultOk stratOk : Bool) : Res :=
  if ¬ vaultOk then .err
  else if want = 0 then .err
  else if ¬ stratOk then .err
  else if ¬ s.found then .err
  else
    match convertToShares s want with
    | .err => .err
    | .panic => .panic
    | .ok w =>
      if s.sh a < w then .err
      else
        match convertToAssets s w with
        | .err => .err
        | .panic => .panic
        | .ok amt =>
          match convertToAssets s (s.sh a) with
          | .err => .err
          | .panic => .panic
          | .ok accVal =>
            if amt > accVal then .err
            else if s.val = 0 then .err
            else if s.loose + stratPaid amt s.val < amt then .err
            else
              match dust w (stratPaid amt s.val) with
              | .err => .err
              | .panic => .panic
              | .ok dustVal => withdrawRecords s a (sweep s a w dustVal) amt (stratPaid amt s.val)

def dustStored (s : St) (a : Addr) (w paid : Int) : R Int :=
  convertToAssets { s with val := s.val - paid } (s.sh a - w)

theorem withdraw_eq (s : St) (a : Addr) (want : Int) (vo so : Bool) :
    withdraw s a want vo so = withdrawWith (dustStored s a) s a want vo so := rfl

theorem withdrawRecords_ok_iff {s s' : St} {a : Addr} {w' amt paid : Int} :
    withdrawRecords s a w' amt paid = .ok s' ↔ w' ≤ s.sh a ∧ w' ≤ s.tot ∧
      s' = { found := decide (s.tot - w' ≠ 0), tot := s.tot - w', sh := upd s.sh a (s.sh a - w'),
             val := s.val - paid, loose := s.loose + paid - amt, bal := upd s.bal a (s.bal a + amt) } := by
  simp only [withdrawRecords, Res.ite_panic_ok, Int.not_lt, Int.sub_nonneg, Res.ok.injEq]
  exact and_congr_right fun _ => and_congr_right fun _ => eq_comm

theorem ediv_le_self_of_le {V w T : Int} (hV : 0 ≤ V) (hT : 0 < T) (hw : w ≤ T) : V * w / T ≤ V := by
  have h2 := Int.ediv_le_ediv hT (Int.mul_le_mul_of_nonneg_left hw hV)
  rwa [Int.mul_ediv_cancel V (by omega : T ≠ 0)] at h2

theorem payout_bounds {V T sh w : Int} (hV : 0 ≤ V) (hT : 0 < T) (hw : 0 ≤ w) (hws : w ≤ sh)
    (hsT : sh ≤ T) : 0 ≤ V * w / T ∧ V * w / T ≤ V * sh / T ∧ V * w / T ≤ V :=
  ⟨Int.ediv_nonneg (Int.mul_nonneg hV hw) (by omega),
   Int.ediv_le_ediv hT (Int.mul_le_mul_of_nonneg_left hws hV),
   ediv_le_self_of_le hV hT (by omega)⟩

/-- round trip assets → shares → assets never rounds up -/
theorem roundtrip_le (want : Int) {T V : Int} (hT : 0 < T) (hV : 0 < V) :
    V * (want * T / V) / T ≤ want := by
  have h1 : want * T / V * V ≤ want * T := Int.ediv_mul_le _ (by omega)
  rw [Int.mul_comm V]
  have h2 := Int.ediv_le_ediv hT h1
  rwa [Int.mul_ediv_cancel want (by omega : T ≠ 0)] at h2

theorem sweep_bounds {s : St} {a : Addr} {w : Int} (d : Int) (h : w ≤ s.sh a) :
    w ≤ sweep s a w d ∧ sweep s a w d ≤ s.sh a := by
  unfold sweep; split <;> omega

/-- the numbers of a successful `Withdraw` from a state satisfying the invariant: `w` shares are
    requested, `amt` coins are paid out of the strategy, the shares left are valued at `dustVal`, and
    `w'` shares (the sweep included) go -/
structure Withdrawal (dust : Int → Int → R Int) (s : St) (a : Addr) (want w amt dustVal w' : Int) :
    Prop where
  found : s.found = true
  val_pos : 0 < s.val
  want_pos : 0 < want
  w_eq : w = want * s.tot / s.val
  w_pos : 0 < w
  w_le : w ≤ s.sh a
  amt_eq : amt = s.val * w / s.tot
  amt_nonneg : 0 ≤ amt
  amt_le_redeemable : amt ≤ s.val * s.sh a / s.tot
  amt_le_val : amt ≤ s.val
  amt_le_want : amt ≤ want
  dust_eq : dust w amt = .ok dustVal
  swept : w' = sweep s a w dustVal
  swept_le : w' ≤ s.sh a

theorem withdrawWith_arith {dust : Int → Int → R Int} {accts : List Addr} {s s' : St} {a : Addr}
    {want : Int} {vo so : Bool} (ha : a ∈ accts) (hinv : Inv accts s)
    (h : withdrawWith dust s a want vo so = .ok s') :
    ∃ w amt dustVal w', Withdrawal dust s a want w amt dustVal w' ∧
      s' = { found := decide (s.tot - w' ≠ 0), tot := s.tot - w', sh := upd s.sh a (s.sh a - w'),
             val := s.val - amt, loose := s.loose, bal := upd s.bal a (s.bal a + amt) } := by
  revert h
  fun_cases withdrawWith dust s a want vo so <;> intro hrec <;> try cases hrec
  rename_i _ _ _ hf w hw hle amt hamt _ _ _ _ _ dustVal hdust
  have hf := Decidable.not_not.mp hf
  have hle := Int.not_lt.mp hle
  have hT := hinv.tot_pos hf
  obtain ⟨hV, hwant, hweq, hwpos⟩ := convertToShares_ok hf (Int.le_of_lt hT) hinv.val_nonneg hw
  rw [convertToAssets_found hf hT (Int.le_of_lt hV) (Int.le_of_lt hwpos)] at hamt
  cases hamt
  have hb := payout_bounds hinv.val_nonneg hT (Int.le_of_lt hwpos) hle (hinv.sh_le_tot ha)
  have hpaid : stratPaid (s.val * w / s.tot) s.val = s.val * w / s.tot := if_neg (Int.not_lt.mpr hb.2.2)
  rw [hpaid] at hdust hrec
  obtain ⟨-, -, rfl⟩ := withdrawRecords_ok_iff.mp hrec
  exact ⟨w, _, dustVal, _,
    { found := hf, val_pos := hV, want_pos := hwant, w_eq := hweq, w_pos := hwpos, w_le := hle,
      amt_eq := rfl, amt_nonneg := hb.1, amt_le_redeemable := hb.2.1, amt_le_val := hb.2.2,
      amt_le_want := hweq ▸ roundtrip_le want hT hV, dust_eq := hdust, swept := rfl,
      swept_le := (sweep_bounds dustVal hle).2 },
    by rw [Int.add_sub_cancel]⟩

/-- The vault record is deleted only when the account held all shares and all of them went: because
    all were asked for, and then the whole value was paid, or because the rest was valued at zero. -/
theorem Withdrawal.record_gone {dust : Int → Int → R Int} {accts : List Addr} {s : St} {a : Addr}
    {want w amt dustVal w' : Int} (hw : Withdrawal dust s a want w amt dustVal w') (ha : a ∈ accts)
    (hinv : Inv accts s) (hg : decide (s.tot - w' ≠ 0) = false) :
    s.sh a = s.tot ∧ w' = s.tot ∧ (s.val - amt = 0 ∨ w < s.tot ∧ dustVal = 0) := by
  have hTw : s.tot = w' := Int.sub_eq_zero.mp (Decidable.not_not.mp (of_decide_eq_false hg))
  have hsh : s.sh a = s.tot := Int.le_antisymm (hinv.sh_le_tot ha) (hTw ▸ hw.swept_le)
  refine ⟨hsh, hTw.symm, ?_⟩
  by_cases hwT : w = s.tot
  · exact .inl (by
      rw [hw.amt_eq, hwT, Int.mul_ediv_cancel _ (Int.ne_of_gt (hinv.tot_pos hw.found))]
      exact Int.sub_self _)
  · refine .inr ⟨Int.lt_iff_le_and_ne.mpr ⟨hsh ▸ hw.w_le, hwT⟩, ?_⟩
    have hsw := hw.swept
    unfold sweep at hsw
    split at hsw
    · assumption
    · exact absurd (hsw.symm.trans hTw.symm) hwT

theorem withdrawWith_inv {dust : Int → Int → R Int} {accts : List Addr} (hn : accts.Nodup) {s s' : St}
    {a : Addr} {want : Int} {vo so : Bool} (ha : a ∈ accts) (hinv : Inv accts s)
    (h : withdrawWith dust s a want vo so = .ok s') : Inv accts s' := by
  obtain ⟨w, amt, d, w', hw, rfl⟩ := withdrawWith_arith ha hinv h
  exact hinv.set hn ha (Int.sub_nonneg.mpr hw.swept_le) (by omega) (Int.sub_nonneg.mpr hw.amt_le_val)
    decide_eq_true_iff

theorem withdrawWith_pays {dust : Int → Int → R Int} {accts : List Addr} {s s' : St} {a : Addr}
    {want : Int} {vo so : Bool} (ha : a ∈ accts) (hinv : Inv accts s)
    (h : withdrawWith dust s a want vo so = .ok s') :
    0 ≤ s'.bal a - s.bal a ∧ s'.bal a - s.bal a ≤ redeemable s a ∧ s'.bal a - s.bal a ≤ want ∧
    s'.val = s.val - (s'.bal a - s.bal a) ∧ s'.loose = s.loose := by
  obtain ⟨w, amt, d, w', hw, rfl⟩ := withdrawWith_arith ha hinv h
  rw [redeemable_found hinv hw.found]
  show 0 ≤ upd s.bal a _ a - _ ∧ upd s.bal a _ a - _ ≤ _ ∧ upd s.bal a _ a - _ ≤ _ ∧
    s.val - _ = s.val - (upd s.bal a _ a - _) ∧ s.loose = s.loose
  rw [upd_same, Int.add_comm (s.bal a), Int.add_sub_cancel]
  exact ⟨hw.amt_nonneg, hw.amt_le_redeemable, hw.amt_le_want, rfl, rfl⟩

theorem withdrawWith_frame {dust : Int → Int → R Int} {s s' : St} {a : Addr} {want : Int} {vo so : Bool}
    (h : withdrawWith dust s a want vo so = .ok s') {b : Addr} (hb : b ≠ a) :
    s'.sh b = s.sh b ∧ s'.bal b = s.bal b := by
  revert h
  fun_cases withdrawWith dust s a want vo so <;> intro h <;> try cases h
  obtain ⟨-, -, rfl⟩ := withdrawRecords_ok_iff.mp h
  exact ⟨upd_ne _ _ hb, upd_ne _ _ hb⟩

theorem deposit_frame {s s' : St} {a : Addr} {x : Int} {vo so ao : Bool}
    (h : deposit s a x vo so ao = .ok s') {b : Addr} (hb : b ≠ a) :
    s'.sh b = s.sh b ∧ s'.bal b = s.bal b := by
  obtain ⟨-, -, shares, -, rfl⟩ := deposit_ok h
  exact ⟨upd_ne _ _ hb, upd_ne _ _ hb⟩

theorem accrue_ok {s s' : St} {dv : Int} (h : step s (.accrue dv) = .ok s') :
    0 ≤ dv ∧ (s.val = 0 → dv = 0) ∧ s' = { s with val := s.val + dv } := by
  simp only [step, Res.ite_err_ok, not_or, not_and, Int.not_lt, Decidable.not_not, Res.ok.injEq] at h
  exact ⟨h.1.1, h.1.2, h.2.symm⟩

theorem step_inv {accts : List Addr} (hn : accts.Nodup) {s s' : St} {o : Op}
    (ha : ∀ a, o.actor = some a → a ∈ accts) (hinv : Inv accts s) (h : step s o = .ok s') :
    Inv accts s' := by
  cases o with
  | deposit a x v st ac => exact deposit_inv hn (ha a rfl) hinv h
  | withdraw a w v st => exact withdrawWith_inv (dust := dustStored s a) hn (ha a rfl) hinv h
  | accrue dv =>
    obtain ⟨hdv, -, rfl⟩ := accrue_ok h
    exact ⟨hinv.1, hinv.2.1, Int.add_nonneg hinv.val_nonneg hdv, hinv.2.2.2⟩

theorem next_cases (s : St) (o : Op) : (∃ s', step s o = .ok s' ∧ next s o = s') ∨ next s o = s := by
  fun_cases next s o
  · exact .inl ⟨_, ‹_›, rfl⟩
  · exact .inr rfl

theorem next_inv {accts : List Addr} (hn : accts.Nodup) (s : St) (o : Op)
    (ha : ∀ a, o.actor = some a → a ∈ accts) (hinv : Inv accts s) : Inv accts (next s o) := by
  rcases next_cases s o with ⟨s', h, e⟩ | e <;> rw [e]
  · exact step_inv hn ha hinv h
  · exact hinv

theorem run_inv (accts : List Addr) (hn : accts.Nodup) (ops : List Op) :
    ∀ s, (∀ o ∈ ops, ∀ a, o.actor = some a → a ∈ accts) → Inv accts s → Inv accts (run s ops) :=
  foldl_inv next (Inv accts) _ (fun s o => next_inv hn s o) ops

theorem step_frame {s s' : St} {o : Op} (h : step s o = .ok s') {b : Addr} (hb : o.actor ≠ some b) :
    s'.sh b = s.sh b ∧ s'.bal b = s.bal b := by
  cases o with
  | deposit a x v st ac => exact deposit_frame h fun e => hb (e ▸ rfl)
  | withdraw a w v st => exact withdrawWith_frame (dust := dustStored s a) h fun e => hb (e ▸ rfl)
  | accrue dv => obtain ⟨-, -, rfl⟩ := accrue_ok h; exact ⟨rfl, rfl⟩

theorem next_frame (s : St) {o : Op} {b : Addr} (hb : o.actor ≠ some b) :
    (next s o).sh b = s.sh b ∧ (next s o).bal b = s.bal b := by
  rcases next_cases s o with ⟨s', h, e⟩ | e <;> rw [e]
  · exact step_frame h hb
  · exact ⟨rfl, rfl⟩

/-- the share-price never falls on a deposit, so the depositor's redeemable value rises by at most
    the deposited amount: `(V+x)(s+i)/(T+i) ≤ V·s/T + x` for `i = ⌊x·T/V⌋`, all divisions floors. -/
theorem deposit_value_le (V T sh x : Int) (hV : 0 < V) (hT : 0 < T) (hs0 : 0 ≤ sh) (hsT : sh ≤ T)
    (hx : 0 ≤ x) : (V + x) * (sh + x * T / V) / (T + x * T / V) ≤ V * sh / T + x := by
  have hi : 0 ≤ x * T / V := Int.ediv_nonneg (Int.mul_nonneg hx (Int.le_of_lt hT)) (Int.le_of_lt hV)
  have hA : V * sh < (V * sh / T + 1) * T := Int.lt_ediv_add_one_mul_self _ hT
  have hB : x * T / V * V ≤ x * T := Int.ediv_mul_le _ (Int.ne_of_gt hV)
  generalize V * sh / T = q at *
  generalize x * T / V = i at *
  -- A = (q+1)T − V·sh ≥ 1, B = xT − V·i ≥ 0, and T·E = A·i + (T − sh)·B for the slack E below
  have hAi : 0 ≤ ((q + 1) * T - V * sh) * i := Int.mul_nonneg (Int.le_of_lt (Int.sub_pos.mpr hA)) hi
  have hTB : 0 ≤ (T - sh) * (x * T - i * V) :=
    Int.mul_nonneg (Int.sub_nonneg.mpr hsT) (Int.sub_nonneg.mpr hB)
  have e1 : T * ((q + 1) * i + (x * T - i * V) - x * sh)
      = ((q + 1) * T - V * sh) * i + (T - sh) * (x * T - i * V) := by grind
  have hE : 0 ≤ (q + 1) * i + (x * T - i * V) - x * sh :=
    Int.nonneg_of_mul_nonneg_right (e1 ▸ Int.add_nonneg hAi hTB) hT
  have e2 : (q + x + 1) * (T + i) - (V + x) * (sh + i)
      = ((q + 1) * T - V * sh) + ((q + 1) * i + (x * T - i * V) - x * sh) := by grind
  have hlt : (V + x) * (sh + i) < (q + x + 1) * (T + i) :=
    Int.sub_pos.mp (e2 ▸ Int.add_pos_of_pos_of_nonneg (Int.sub_pos.mpr hA) hE)
  exact Int.lt_add_one_iff.mp (Int.ediv_lt_of_lt_mul (Int.add_pos_of_pos_of_nonneg hT hi) hlt)

/-- no value is stranded in the strategy without a vault record -/
def NoStranded (s : St) : Prop := s.found = false → s.val = 0

theorem deposit_redeemable_le {accts : List Addr} {s s' : St} {a : Addr} {x : Int} {vo so ao : Bool}
    (ha : a ∈ accts) (hinv : Inv accts s) (hns : NoStranded s)
    (h : deposit s a x vo so ao = .ok s') : redeemable s' a ≤ redeemable s a + x := by
  obtain ⟨hx, -, shares, hs, rfl⟩ := deposit_ok h
  obtain ⟨hp, hfd, hfr⟩ := convertToShares_inv hinv hx hs
  have hsa0 := hinv.1 a
  have hT0 := hinv.tot_nonneg
  rw [redeemable_eq (a := a) rfl (show 0 < s.tot + shares from Int.add_pos_of_nonneg_of_pos hT0 hp)
    (show 0 ≤ s.val + x from Int.add_nonneg hinv.val_nonneg (Int.le_of_lt hx))
    (show 0 ≤ upd s.sh a (s.sh a + shares) a by
      rw [upd_same]; exact Int.add_nonneg hsa0 (Int.le_of_lt hp))]
  show (s.val + x) * upd s.sh a (s.sh a + shares) a / (s.tot + shares) ≤ _
  rw [upd_same]
  cases hf : s.found with
  | true =>
    obtain ⟨hV, rfl⟩ := hfd hf
    rw [redeemable_found hinv hf]
    exact deposit_value_le s.val s.tot (s.sh a) x hV (hinv.tot_pos hf) hsa0 (hinv.sh_le_tot ha)
      (Int.le_of_lt hx)
  | false =>
    have ht0 := hinv.tot_zero hf
    have hsa' : s.sh a = 0 := Int.le_antisymm (ht0 ▸ hinv.sh_le_tot ha) hsa0
    rw [redeemable_notfound hf, hns hf, ht0, hsa', Int.zero_add, Int.zero_add,
      Int.mul_ediv_cancel x (Int.ne_of_gt hp)]
    exact Int.le_refl x

theorem next_deposit_le {accts : List Addr} {s : St} {a : Addr} (x : Int)
    (vo so ao : Bool) (ha : a ∈ accts) (hinv : Inv accts s) (hns : NoStranded s) :
    (next s (.deposit a x vo so ao)).bal a + redeemable (next s (.deposit a x vo so ao)) a
      ≤ s.bal a + redeemable s a := by
  rcases next_cases s (.deposit a x vo so ao) with ⟨s', h, e⟩ | e <;> rw [e]
  · have hle := deposit_redeemable_le ha hinv hns h
    obtain ⟨-, -, shares, -, rfl⟩ := deposit_ok h
    show upd s.bal a (s.bal a - x) a + _ ≤ _
    rw [upd_same]; omega
  · exact Int.le_refl _

/-- `Deposit x` and then a withdrawal under any dust valuation, each rolled back if it fails
    (`s2` is the result of the withdrawal or the state it started from), leave the account at most
    its balance plus what it could already redeem (no value stranded) -/
theorem deposit_withdraw_le {dust : Int → Int → R Int} {accts : List Addr} (hn : accts.Nodup) {s : St}
    {a : Addr} (x want : Int) {vo so ao vo' so' : Bool} (ha : a ∈ accts) (hinv : Inv accts s)
    (hns : NoStranded s) {s2 : St}
    (h2 : withdrawWith dust (next s (.deposit a x vo so ao)) a want vo' so' = .ok s2 ∨
      s2 = next s (.deposit a x vo so ao)) : s2.bal a ≤ s.bal a + redeemable s a := by
  have hd := next_deposit_le x vo so ao ha hinv hns
  have h1 := next_inv hn s (.deposit a x vo so ao) (fun b hb => by cases hb; exact ha) hinv
  generalize next s (.deposit a x vo so ao) = s1 at hd h1 h2
  have hr := redeemable_nonneg h1 a
  rcases h2 with h2 | rfl
  · have := withdrawWith_pays ha h1 h2
    omega
  · omega

end KV.Earn
