/-
  Helper lemmas for C08 (x/hard): what a successful interest sync, `Deposit`, `Withdraw`, `Borrow`, `Repay` and
  `AttemptKeeperLiquidation` did: the calls and guards passed on the way and the state stored, written out.
-/
import KavaVerif.Proofs.HardInterest
namespace KV.Hard
open KV

/-- the shape both interest syncs have: nothing to do for a user without coins, a panic if some coin meets the
    panic condition `pn`, otherwise the updated state `t` -/
theorem sync_cases {ds : List Denom} {a : Coins} {pn : Denom → Bool} {s t r : St}
    (h : (if (supp ds a).isEmpty then Res.ok s else if (supp ds a).any pn then .panic else .ok t) = .ok r) :
    (r = s ∧ ∀ d ∈ ds, ¬ 0 < a d) ∨ (r = t ∧ ∀ d ∈ ds, 0 < a d → pn d = false) := by
  by_cases hemp : (supp ds a).isEmpty
  · rw [if_pos hemp] at h
    cases h
    refine .inl ⟨rfl, fun d hd hpos => ?_⟩
    have hm := mem_supp.mpr ⟨hd, hpos⟩
    rw [List.isEmpty_iff.mp hemp] at hm; cases hm
  by_cases hnp : (supp ds a).any pn
  · rw [if_neg hemp, if_pos hnp] at h
    cases h
  · rw [if_neg hemp, if_neg hnp] at h
    cases h
    refine .inr ⟨rfl, fun d hd hpos => ?_⟩
    have := List.any_eq_false.mp (Bool.eq_false_iff.mpr hnp) d (mem_supp.mpr ⟨hd, hpos⟩)
    simpa using this

/-- The per-denom facts are for listed denoms only: `supp` does not see a coin of an unlisted denom, and the exit
    for a user without coins leaves such a coin as it is. -/
theorem syncBorrow_ok {cfg : Cfg} {s s1 : St} {u : User} (h : syncBorrow cfg s u = .ok s1) :
    ∃ b bi, s1 = { s with bor := upd s.bor u b, borIdx := upd s.borIdx u bi } ∧
      ∀ d ∈ cfg.ds,
        (0 < s.bor u d → syncBorPanics (s.bor u d) (s.borIdx u d) ((s.brwIdx d).getD 0) = false) ∧
        s.bor u d ≤ b d ∧
        b d = (if 0 < s.bor u d then syncBorAmt (s.bor u d) (s.borIdx u d) ((s.brwIdx d).getD 0) else s.bor u d) ∧
        bi d = (if 0 < s.bor u d then some ((s.brwIdx d).getD 0) else s.borIdx u d) := by
  unfold syncBorrow at h
  rcases sync_cases h with ⟨rfl, hn⟩ | ⟨rfl, hp⟩
  · exact ⟨s1.bor u, s1.borIdx u, by rw [upd_self, upd_self], fun d hd =>
      ⟨fun hpos => absurd hpos (hn d hd), Int.le_refl _, (if_neg (hn d hd)).symm, (if_neg (hn d hd)).symm⟩⟩
  · refine ⟨_, _, rfl, fun d hd => ⟨hp d hd, ?_, rfl, rfl⟩⟩
    split
    · exact syncBorAmt_ge _ _ _ (hp d hd ‹_›)
    · exact Int.le_refl _

theorem syncSupply_ok {cfg : Cfg} {s s1 : St} {u : User} (h : syncSupply cfg s u = .ok s1) :
    ∃ c ci, s1 = { s with dep := upd s.dep u c, depIdx := upd s.depIdx u ci } ∧ (∀ d, s.dep u d ≤ c d) ∧
      ∀ d ∈ cfg.ds,
        (0 < s.dep u d → syncSupPanics (s.depIdx u d) = false) ∧
        c d = (if 0 < s.dep u d then syncSupAmt (s.dep u d) (s.depIdx u d) ((s.supIdx d).getD 0) else s.dep u d) ∧
        ci d = (if 0 < s.dep u d then some ((s.supIdx d).getD 0) else s.depIdx u d) := by
  unfold syncSupply at h
  rcases sync_cases h with ⟨rfl, hn⟩ | ⟨rfl, hp⟩
  · exact ⟨s1.dep u, s1.depIdx u, by rw [upd_self, upd_self], fun _ => Int.le_refl _, fun d hd =>
      ⟨fun hpos => absurd hpos (hn d hd), (if_neg (hn d hd)).symm, (if_neg (hn d hd)).symm⟩⟩
  · refine ⟨_, _, rfl, fun d => ?_, fun d hd => ⟨hp d hd, rfl, rfl⟩⟩
    split
    · exact syncSupAmt_ge _ _ _
    · exact Int.le_refl _

theorem syncBorrow_ge {cfg : Cfg} {s s1 : St} {u : User} (h : syncBorrow cfg s u = .ok s1) :
    ∀ d ∈ cfg.ds, s.bor u d ≤ s1.bor u d := by
  obtain ⟨b, bi, rfl, hb⟩ := syncBorrow_ok h
  intro d hd
  simp only [upd_same]
  exact (hb d hd).2.1

theorem synced_dep_ge {cfg : Cfg} {s s1 s2 : St} {u : User} (h1 : syncBorrow cfg s u = .ok s1)
    (h2 : syncSupply cfg s1 u = .ok s2) (d : Denom) : s.dep u d ≤ s2.dep u d := by
  obtain ⟨c, ci, rfl, hge, -⟩ := syncSupply_ok h2
  obtain ⟨b, bi, rfl, -⟩ := syncBorrow_ok h1
  simp only [upd_same]
  exact hge d

/-- an entry that is positive after a sync carries the factor it was synced at -/
theorem synced_idx {a a' x g : Int} {i i' : Option Int} (e : a' = if 0 < a then x else a)
    (ei : i' = if 0 < a then some g else i) (hpos : 0 < a') : i' = some g := by
  by_cases hp : 0 < a
  · rw [ei, if_pos hp]
  · rw [e, if_neg hp] at hpos; exact absurd hpos hp

theorem syncBorrow_idx {cfg : Cfg} {s s1 : St} {u : User} (h : syncBorrow cfg s u = .ok s1) :
    ∀ d ∈ cfg.ds, 0 < s1.bor u d → s1.borIdx u d = some ((s.brwIdx d).getD 0) := by
  obtain ⟨b, bi, rfl, hb⟩ := syncBorrow_ok h
  intro d hd hpos
  obtain ⟨-, -, e, ei⟩ := hb d hd
  simp only [upd_same] at hpos ⊢
  exact synced_idx e ei hpos

theorem syncSupply_idx {cfg : Cfg} {s s1 : St} {u : User} (h : syncSupply cfg s u = .ok s1) :
    ∀ d ∈ cfg.ds, 0 < s1.dep u d → s1.depIdx u d = some ((s.supIdx d).getD 0) := by
  obtain ⟨c, ci, rfl, -, hc⟩ := syncSupply_ok h
  intro d hd hpos
  obtain ⟨-, e, ei⟩ := hc d hd
  simp only [upd_same] at hpos ⊢
  exact synced_idx e ei hpos

/-- The case principle of the routine has one case per exit; `cases h` refutes every failing one, and the case that is
    left has the result of each passed-on call and each guard passed as a hypothesis, in the order of the routine. -/
theorem deposit_ok {cfg : Cfg} {s s' : St} {u : User} {coins : Coins} (h : deposit cfg s u coins = .ok s') :
    ∃ s2, syncSupply cfg
        { s with supIdx := fun d => if 0 < coins d ∧ (s.supIdx d).isNone then some P else s.supIdx d } u = .ok s2 ∧
      s' = { s2 with
        depIdx := upd s2.depIdx u (fun d =>
          if 0 < coins d then (match s2.supIdx d with | some g => some g | none => s2.depIdx u d) else s2.depIdx u d)
        dep := upd s2.dep u (addC (s2.dep u) coins)
        supplied := addC s2.supplied coins
        cash := addC s2.cash coins
        bal := upd s2.bal u (subC (s2.bal u) coins) } := by
  revert h
  fun_cases deposit cfg s u coins <;> intro h <;> cases h
  rename_i s2 h2 _
  exact ⟨s2, h2, rfl⟩

theorem withdraw_ok {cfg : Cfg} {s s' : St} {u : User} {coins : Coins} (h : withdraw cfg s u coins = .ok s') :
    ∃ s1 s2, syncBorrow cfg s u = .ok s1 ∧ syncSupply cfg s1 u = .ok s2 ∧
      isWithinLtv cfg (subC (s2.dep u) (capAmount (s2.dep u) coins)) (s2.bor u) = .ok true ∧
      s' = { s2 with
        depIdx := upd s2.depIdx u (fun d =>
          if 0 < s2.dep u d ∧ subC (s2.dep u) (capAmount (s2.dep u) coins) d ≤ 0 then none else s2.depIdx u d)
        dep := upd s2.dep u (subC (s2.dep u) (capAmount (s2.dep u) coins))
        supplied := decCoins s2.supplied (capAmount (s2.dep u) coins)
        cash := subC s2.cash (capAmount (s2.dep u) coins)
        bal := upd s2.bal u (addC (s2.bal u) (capAmount (s2.dep u) coins)) } := by
  revert h
  fun_cases withdraw cfg s u coins <;> intro h <;> cases h
  rename_i s1 h1 s2 h2 _ _ _ hw _ _ _
  exact ⟨s1, s2, h1, h2, hw, rfl⟩

theorem borrow_ok {cfg : Cfg} {s s' : St} {u : User} {coins : Coins} (h : borrow cfg s u coins = .ok s') :
    ∃ s1 s2, syncSupply cfg
        { s with brwIdx := fun d => if 0 < coins d ∧ (s.brwIdx d).isNone then some P else s.brwIdx d } u = .ok s1 ∧
      syncBorrow cfg s1 u = .ok s2 ∧
      validateBorrow cfg s2.cash s2.reserves s2.borrowed (s2.dep u) (s2.bor u) coins = .ok () ∧
      s' = { s2 with
        borIdx := upd s2.borIdx u (fun d =>
          if 0 < coins d then (match s2.brwIdx d with | some g => some g | none => s2.borIdx u d) else s2.borIdx u d)
        bor := upd s2.bor u (addC (s2.bor u) coins)
        borrowed := addC s2.borrowed coins
        cash := subC s2.cash coins
        bal := upd s2.bal u (addC (s2.bal u) coins) } := by
  revert h
  fun_cases borrow cfg s u coins <;> intro h <;> cases h
  rename_i s1 h1 s2 h2 hv _
  exact ⟨s1, s2, h1, h2, hv, rfl⟩

theorem repay_ok {cfg : Cfg} {s s' : St} {sender owner : User} {coins : Coins}
    (h : repay cfg s sender owner coins = .ok s') :
    ∃ s1, syncBorrow cfg s owner = .ok s1 ∧
      s' = { s1 with
        borIdx := upd s1.borIdx owner (fun d =>
          if 0 < capAmount (s1.bor owner) coins d ∧ capAmount (s1.bor owner) coins d = s1.bor owner d then none
          else s1.borIdx owner d)
        bor := upd s1.bor owner (subC (s1.bor owner) (capAmount (s1.bor owner) coins))
        borrowed := decCoins s1.borrowed (capAmount (s1.bor owner) coins)
        cash := addC s1.cash (capAmount (s1.bor owner) coins)
        bal := upd s1.bal sender (subC (s1.bal sender) (capAmount (s1.bor owner) coins)) } := by
  revert h
  fun_cases repay cfg s sender owner coins <;> intro h <;> cases h
  rename_i s1 h1 _ _ _ _ _ _
  exact ⟨s1, h1, rfl⟩

theorem liquidate_ok {cfg : Cfg} {s s' : St} {keeper borrower : User} (h : liquidate cfg s keeper borrower = .ok s') :
    ∃ s1 s2 z, syncBorrow cfg s borrower = .ok s1 ∧ syncSupply cfg s1 borrower = .ok s2 ∧
      isWithinLtv cfg (s2.dep borrower) (s2.bor borrower) = .ok false ∧
      seizeDeposits cfg s2 (s2.dep borrower) (s2.bor borrower) = .ok z ∧
      s' = { s2 with
        dep := upd s2.dep borrower zeroC
        depIdx := upd s2.depIdx borrower (fun _ => none)
        bor := upd s2.bor borrower zeroC
        borIdx := upd s2.borIdx borrower (fun _ => none)
        cash := z.cash
        supplied := z.supplied
        borrowed := z.borrowed
        aucs := z.aucs
        bal := upd (upd s2.bal keeper (addC (s2.bal keeper) z.reward)) borrower
          (addC (upd s2.bal keeper (addC (s2.bal keeper) z.reward) borrower) z.returned) } := by
  revert h
  fun_cases liquidate cfg s keeper borrower <;> intro h <;> cases h
  rename_i s1 h1 s2 h2 hw z hz _ _
  exact ⟨s1, s2, z, h1, h2, hw, hz, rfl⟩

theorem capAmount_le (avail req : Coins) (d : Denom) (ha : 0 ≤ avail d) (hr : 0 ≤ req d) :
    capAmount avail req d ≤ avail d ∧ capAmount avail req d ≤ req d := by
  unfold capAmount; split <;> (try split) <;> omega

/-- the deposit and borrow records of `v` are the same in both states: what the user operations of anyone else
    leave of `v` -/
def SameRecords (s s' : St) (v : User) : Prop :=
  s'.dep v = s.dep v ∧ s'.depIdx v = s.depIdx v ∧ s'.bor v = s.bor v ∧ s'.borIdx v = s.borIdx v

end KV.Hard
