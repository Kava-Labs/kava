/-
  Helper lemmas for C08 (x/hard), liquidation part: the invariant of the `StartAuctions` loops (lots started plus
  what is left never exceed what is to be auctioned; cash goes down by exactly the lots), the refund loop, the
  keeper-reward bounds and the module-level effect of `SeizeDeposits`.
-/
import KavaVerif.Proofs.HardOps
namespace KV.Hard
open KV

/-- total lot of denom `d` over a list of started auctions -/
def lotsOf : List Auction → Denom → Int
  | [], _ => 0
  | a :: t, d => (if a.lotDenom = d then a.lot else 0) + lotsOf t d

theorem lotsOf_append (l1 l2 : List Auction) (d : Denom) : lotsOf (l1 ++ l2) d = lotsOf l1 d + lotsOf l2 d := by
  induction l1 with
  | nil => simp [lotsOf]
  | cons a t ih => simp only [List.cons_append, lotsOf, ih]; omega

theorem lotsOf_single (a : Auction) (d : Denom) : lotsOf [a] d = if a.lotDenom = d then a.lot else 0 := by
  simp [lotsOf]

/-- invariant of the `StartAuctions` loops relative to the locals `st0` they started with: what is still
    unassigned of each deposit denom is non-negative, lots started so far plus the unassigned rest never exceed the
    amount to auction, and the module's cash went down by exactly the lots -/
def AInv (st0 st : AS) : Prop :=
  ∀ d, 0 ≤ st.deposits d ∧
    (lotsOf st.aucs d - lotsOf st0.aucs d) + st.deposits d ≤ st0.deposits d ∧
    st.cash d = st0.cash d - (lotsOf st.aucs d - lotsOf st0.aucs d)

theorem AInv_refl (st0 : AS) (h : ∀ d, 0 ≤ st0.deposits d) : AInv st0 st0 := by
  intro d; exact ⟨h d, by omega, by omega⟩

theorem commitCore_inv {cfg : Cfg} {b d : Denom} {st0 st st' : AS} {lot bid bv dv : Int} {ins : Bool}
    (h : AInv st0 st) (hc : commitCore cfg b d st lot bid bv dv ins = .ok st') : AInv st0 st' := by
  revert hc
  fun_cases commitCore cfg b d st lot bid bv dv ins <;> intro hc <;> cases hc
  -- the guards passed stay in the context: `omega` below needs `¬ st.deposits d < lot`
  intro x
  obtain ⟨h1, h2, h3⟩ := h x
  dsimp only
  rw [lotsOf_append, lotsOf_single]
  dsimp only
  by_cases hx : x = d
  · subst hx
    rw [upd_same, upd_same]
    simp only [ite_true]
    split <;> omega
  · have hx' : ¬ d = x := fun e => hx e.symm
    rw [upd_other hx, upd_other hx]
    simp only [hx', ite_false]
    omega

theorem startFull_inv {cfg : Cfg} {mc : Coins} {b d : Denom} {st0 st st' : AS} {ml ml' : Int}
    (hi : AInv st0 st) (h : startFull cfg mc b d st ml = .ok (st', ml')) : AInv st0 st' := by
  revert h
  fun_cases startFull cfg mc b d st ml <;> intro h <;> cases h
  · exact hi
  · next hc => exact commitCore_inv hi hc

theorem startPartial_inv {cfg : Cfg} {ltv : Dec} {mc : Coins} {b d : Denom} {st0 st st' : AS} {ml ml' : Int}
    (hi : AInv st0 st) (h : startPartial cfg ltv mc b d st ml = .ok (st', ml')) : AInv st0 st' := by
  revert h
  fun_cases startPartial cfg ltv mc b d st ml <;> intro h <;> cases h
  · exact hi
  · next hc => exact commitCore_inv hi hc

theorem startOne_inv {cfg : Cfg} {ltv : Dec} {mc : Coins} {b d : Denom} {st0 st st' : AS} {ml ml' : Int}
    (hi : AInv st0 st) (h : startOne cfg ltv mc b d st ml = .ok (st', ml')) : AInv st0 st' := by
  revert h
  fun_cases startOne cfg ltv mc b d st ml <;> intro h
  · cases h; exact hi
  · exact startFull_inv hi h
  · exact startPartial_inv hi h

theorem startInner_inv {cfg : Cfg} {ltv : Dec} {mc : Coins} {b : Denom} {l : List Denom} {st0 st st' : AS} {ml : Int}
    (hi : AInv st0 st) (h : startInner cfg ltv mc b l st ml = .ok st') : AInv st0 st' := by
  fun_induction startInner cfg ltv mc b l st ml with
  | case1 => cases h; exact hi
  | case2 => cases h
  | case3 => cases h
  | case4 d t st ml st1 ml1 h1 ih => exact ih (startOne_inv hi h1) h

theorem startOuter_inv {cfg : Cfg} {ltv : Dec} {mc : Coins} {dKeys l : List Denom} {st0 st st' : AS}
    (hi : AInv st0 st) (h : startOuter cfg ltv mc dKeys l st = .ok st') : AInv st0 st' := by
  fun_induction startOuter cfg ltv mc dKeys l st with
  | case1 => cases h; exact hi
  | case2 => cases h
  | case3 => cases h
  | case4 => cases h
  | case5 b t st _ st1 h1 ih => exact ih (startInner_inv hi h1) h

/-- the refund loop: what it pays leaves the cash, and each listed denom is paid at most once, at most what is left
    of it (the list has no duplicates) -/
theorem returnLoop_bounds {l : List Denom} (hn : l.Nodup) {deposits cash ret0 cash2 ret : Coins}
    (hdep : ∀ d, 0 ≤ deposits d) (h : returnLoop l deposits cash ret0 = .ok (cash2, ret)) (x : Denom) :
    cash2 x + ret x = cash x + ret0 x ∧ ret0 x ≤ ret x ∧ ret x - ret0 x ≤ if x ∈ l then deposits x else 0 := by
  replace hdep := hdep x
  fun_induction returnLoop l deposits cash ret0 with
  | case1 => cases h; exact ⟨rfl, Int.le_refl _, by simp⟩
  | case2 => cases h
  | case3 d t deposits cash ret0 _ _ ih =>
    obtain ⟨hd, ht⟩ := List.nodup_cons.mp hn
    obtain ⟨a1, a2, a3⟩ := ih ht h hdep
    by_cases hx : x = d
    · subst hx
      simp only [upd_same] at a1 a2 a3
      rw [if_neg hd] at a3
      rw [if_pos List.mem_cons_self]
      omega
    · simp only [upd_other hx] at a1 a2 a3
      simp only [List.mem_cons, hx, false_or]
      exact ⟨a1, a2, a3⟩
  | case4 d t deposits cash ret0 _ ih =>
    obtain ⟨hd, ht⟩ := List.nodup_cons.mp hn
    obtain ⟨a1, a2, a3⟩ := ih ht h hdep
    refine ⟨a1, a2, ?_⟩
    by_cases hx : x = d
    · subst hx
      rw [if_neg hd] at a3
      rw [if_pos List.mem_cons_self]
      omega
    · simp only [List.mem_cons, hx, false_or]
      exact a3

theorem keeperReward_bounds (cfg : Cfg) (dep : Coins) (d : Denom)
    (h0 : 0 ≤ (cfg.mkt d).keeperReward.m) (h1 : (cfg.mkt d).keeperReward.m ≤ P) (hd : 0 ≤ dep d) :
    0 ≤ keeperReward cfg dep d ∧ keeperReward cfg dep d ≤ dep d ∧
    keeperReward cfg dep d * P ≤ (cfg.mkt d).keeperReward.m * dep d := by
  unfold keeperReward
  split
  · unfold Dec.mulInt Dec.truncateInt chopTrunc
    simp only
    have hnn : 0 ≤ (cfg.mkt d).keeperReward.m * dep d := Int.mul_nonneg h0 hd
    have hle : (cfg.mkt d).keeperReward.m * dep d ≤ dep d * P := by
      rw [Int.mul_comm (dep d) P]; exact Int.mul_le_mul_of_nonneg_right h1 hd
    refine ⟨tquo_P_nonneg _ hnn, tquo_P_le hle, ?_⟩
    rw [tquo_nonneg_eq _ _ hnn (by decide)]
    exact Int.ediv_mul_le _ (by decide)
  · refine ⟨by omega, by omega, ?_⟩
    have := Int.mul_nonneg h0 hd; omega

theorem nodup_supp (ds : List Denom) (c : Coins) (h : ds.Nodup) : (supp ds c).Nodup := by
  unfold supp; exact List.Nodup.sublist List.filter_sublist h

theorem seizeDeposits_spec {cfg : Cfg} (hn : cfg.ds.Nodup) {s : St} {dep bor : Coins} {z : Seized}
    (hdep : ∀ d, 0 ≤ dep d)
    (hkr : ∀ d, 0 ≤ (cfg.mkt d).keeperReward.m ∧ (cfg.mkt d).keeperReward.m ≤ P)
    (h : seizeDeposits cfg s dep bor = .ok z) :
    ∀ d, z.reward d = keeperReward cfg dep d ∧ 0 ≤ z.returned d ∧
      z.reward d + (lotsOf z.aucs d - lotsOf s.aucs d) + z.returned d ≤ dep d ∧
      z.cash d = s.cash d - z.reward d - (lotsOf z.aucs d - lotsOf s.aucs d) - z.returned d := by
  have kb := fun d => keeperReward_bounds cfg dep d (hkr d).1 (hkr d).2 (hdep d)
  have hr : ∀ d, (if 0 < keeperReward cfg dep d then keeperReward cfg dep d else 0) = keeperReward cfg dep d := by
    intro d; have := (kb d).1; split <;> omega
  intro d
  have := kb d
  revert h
  fun_cases seizeDeposits cfg s dep bor <;> intro h <;> cases h
  -- the routine's `let`s are local definitions of the two cases left; `+zetaDelta` puts their values in
  · dsimp +zetaDelta only [zeroC, subC]
    rw [hr d]
    omega
  · rename_i st hst cash2 ret hret
    have hinv := startOuter_inv (AInv_refl _ (fun x => by
      have := kb x; dsimp +zetaDelta only [subC]; rw [hr x]; omega)) hst
    obtain ⟨i1, i2, i3⟩ := hinv d
    obtain ⟨r1, r2, r3⟩ :=
      returnLoop_bounds (nodup_supp _ _ hn) (fun x => (hinv x).1) hret d
    have r3 : ret d - zeroC d ≤ st.deposits d := by
      refine Int.le_trans r3 ?_
      split
      · exact Int.le_refl _
      · exact i1
    dsimp +zetaDelta only [subC, zeroC] at i2 i3 r1 r2 r3 ⊢
    rw [hr d] at i2 i3 ⊢
    omega

end KV.Hard
