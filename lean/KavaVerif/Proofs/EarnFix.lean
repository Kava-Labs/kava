/-
  The patch proposed in findings/C11-dust-sweep-strands-value.diff, modelled and verified.

  `withdrawFixed` is `Earn.withdraw` with the dust test changed as in the patch: the remaining
  shares are valued against the *post-withdraw* total shares (stored total − withdrawn shares) and
  the post-withdraw strategy value; no remaining shares → nothing to test.
  Proved here, for all operation lists: the invariant of C11 is preserved, no value is ever
  stranded (vault record absent ⇒ strategy value 0), and therefore "deposit then immediately
  withdraw yields no profit" holds in every reachable state of the patched code.
  This file is supporting evidence for the finding; it is not part of the property statements.
-/
import KavaVerif.Proofs.Earn
set_option linter.unusedSimpArgs false
set_option linter.unusedVariables false
namespace KV.Earn
open KV

/-- patched dust valuation of the remaining shares `sh a − w` after paying `paid` -/
def dustFixed (s : St) (a : Addr) (w paid : Int) : R Int :=
  if s.sh a - w = 0 then .ok 0
  else convertToAssets { s with val := s.val - paid, tot := s.tot - w } (s.sh a - w)

/-- `Keeper.Withdraw` with the patched dust test -/
def withdrawFixed (s : St) (a : Addr) (want : Int) (vaultOk stratOk : Bool) : Res :=
  if ¬ vaultOk then .err
  else if want = 0 then .err
  else if ¬ stratOk then .err
  else if ¬ s.found then .err
  else
    match convertToShares s want with
    | .err => .err
    | .panic => .panic
    | .ok w =>
      if s.sh a < w then .err
      else
        match convertToAssets s w with
        | .err => .err
        | .panic => .panic
        | .ok amt =>
          match convertToAssets s (s.sh a) with
          | .err => .err
          | .panic => .panic
          | .ok accVal =>
            if amt > accVal then .err
            else if s.val = 0 then .err
            else if s.loose + stratPaid amt s.val < amt then .err
            else
              match dustFixed s a w (stratPaid amt s.val) with
              | .err => .err
              | .panic => .panic
              | .ok dustVal => withdrawRecords s a (sweep s a w dustVal) amt (stratPaid amt s.val)

def stepF (s : St) : Op → Res
  | .deposit a x v st ac => deposit s a x v st ac
  | .withdraw a w v st => withdrawFixed s a w v st
  | .accrue dv => if dv < 0 ∨ (s.val = 0 ∧ dv ≠ 0) then .err else .ok { s with val := s.val + dv }

def nextF (s : St) (o : Op) : St :=
  match stepF s o with
  | .ok s' => s'
  | _ => s

def runF (s : St) (ops : List Op) : St := ops.foldl nextF s

theorem withdrawFixed_eq (s : St) (a : Addr) (want : Int) (vo so : Bool) :
    withdrawFixed s a want vo so = withdrawWith (dustFixed s a) s a want vo so := rfl

theorem withdrawFixed_noStranded {accts : List Addr} {s s' : St} {a : Addr} {want : Int}
    {vo so : Bool} (ha : a ∈ accts) (hinv : Inv accts s)
    (h : withdrawFixed s a want vo so = .ok s') : NoStranded s' := by
  rw [withdrawFixed_eq] at h
  obtain ⟨w, amt, d, w', hw, rfl⟩ := withdrawWith_arith ha hinv h
  intro hg
  show s.val - amt = 0
  obtain ⟨hsh, -, hall | ⟨hlt, rfl⟩⟩ := hw.record_gone ha hinv hg
  · exact hall
  · -- a remainder exists and was swept: its value, which is the whole remaining value, is zero
    have hd := hw.dust_eq
    rw [dustFixed, if_neg (by omega),
      convertToAssets_found (s := { s with val := s.val - amt, tot := s.tot - w }) hw.found
        (Int.sub_pos.mpr hlt) (Int.sub_nonneg.mpr hw.amt_le_val) (Int.sub_nonneg.mpr hw.w_le)] at hd
    have hz := R.ok.inj hd
    rwa [hsh, Int.mul_ediv_cancel _ (Int.ne_of_gt (Int.sub_pos.mpr hlt))] at hz

theorem stepF_inv {accts : List Addr} (hn : accts.Nodup) {s s' : St} {o : Op}
    (ha : ∀ a, o.actor = some a → a ∈ accts) (hinv : Inv accts s) (hns : NoStranded s)
    (h : stepF s o = .ok s') : Inv accts s' ∧ NoStranded s' := by
  cases o with
  | deposit a x v st ac =>
    refine ⟨step_inv (o := .deposit a x v st ac) hn ha hinv h, ?_⟩
    obtain ⟨-, -, shares, -, rfl⟩ := deposit_ok h
    exact nofun
  | withdraw a w v st =>
    exact ⟨withdrawWith_inv (dust := dustFixed s a) hn (ha a rfl) hinv h,
      withdrawFixed_noStranded (ha a rfl) hinv h⟩
  | accrue dv =>
    refine ⟨step_inv (o := .accrue dv) hn ha hinv h, ?_⟩
    obtain ⟨-, hz, rfl⟩ := accrue_ok h
    intro hf
    show s.val + dv = 0
    rw [hns hf, hz (hns hf)]; rfl

theorem nextF_cases (s : St) (o : Op) : (∃ s', stepF s o = .ok s' ∧ nextF s o = s') ∨ nextF s o = s := by
  fun_cases nextF s o
  · exact .inl ⟨_, ‹_›, rfl⟩
  · exact .inr rfl

theorem runF_inv {accts : List Addr} (hn : accts.Nodup) (ops : List Op) :
    ∀ s, (∀ o ∈ ops, ∀ a, o.actor = some a → a ∈ accts) → Inv accts s → NoStranded s →
      Inv accts (runF s ops) ∧ NoStranded (runF s ops) := fun s hops hinv hns =>
  foldl_inv nextF (fun s => Inv accts s ∧ NoStranded s) _ (fun s o ha h => by
    rcases nextF_cases s o with ⟨s', hs, e⟩ | e <;> rw [e]
    · exact stepF_inv hn ha h.1 h.2 hs
    · exact h) ops s hops ⟨hinv, hns⟩

/-- With the patch, in every state reachable from genesis by any list of deposits, withdrawals and
    accruals, depositing `x` and immediately withdrawing leaves the account with at most its
    previous balance plus what it could already redeem: the full C11 statement. -/
theorem fixed_deposit_withdraw_no_profit (accts : List Addr) (hn : accts.Nodup) (ops : List Op)
    (hops : ∀ o ∈ ops, ∀ a, o.actor = some a → a ∈ accts) (s0 : St) (h0 : Inv accts s0)
    (hns0 : NoStranded s0) (a : Addr) (ha : a ∈ accts) (x want : Int) :
    let s := runF s0 ops
    (runF s [.deposit a x true true true, .withdraw a want true true]).bal a ≤ s.bal a + redeemable s a := by
  intro s
  obtain ⟨h, hns⟩ := runF_inv hn ops s0 hops h0 hns0
  exact deposit_withdraw_le (dust := dustFixed _ a) hn x want ha h hns
    ((nextF_cases _ (.withdraw a want true true)).imp_left fun ⟨_, h2, e⟩ => e ▸ h2)

/-- the witness of the finding no longer works on the patched model: account 0 keeps shares worth 999 -/
example : (runF { empty with bal := fun _ => 2000000 }
    [.deposit 0 1000000 true true true, .withdraw 0 999001 true true]).found = true := by decide
example : redeemable (runF { empty with bal := fun _ => 2000000 }
    [.deposit 0 1000000 true true true, .withdraw 0 999001 true true]) 0 = 999 := by decide

end KV.Earn
