/-
  C05: 18-decimal rounding facts about the two formulations of the liquidation boundary (value ratio vs. inverted
  price-normalised index ratio).  The integer cores are proved side by side — index, price, value side — and
  then combined.  Core Lean only.
-/
import KavaVerif.Model.Cdp

namespace KV.Cdp
open KV

theorem P_pos : 0 < P := by decide
theorem P_val : P = 1000000000000000000 := by decide
theorem H_val : H = 500000000000000000 := by decide

theorem floor_spec (a b : Int) (ha : 0 ≤ a) (hb : 0 < b) :
    tquo a b = a / b ∧ 0 ≤ a / b ∧ a / b * b ≤ a ∧ a < (a / b + 1) * b := by
  refine ⟨tquo_nonneg_eq a b ha (by omega), Int.ediv_nonneg ha (by omega), Int.ediv_mul_le a (by omega), ?_⟩
  exact Int.lt_ediv_add_one_mul_self a hb

theorem chopRound_nonneg_bound (d : Int) (hd : 0 ≤ d) :
    2 * (chopRound d * P - d) ≤ P ∧ 2 * (d - chopRound d * P) ≤ P := by
  have : chopRound d = chopRoundNonneg d := by
    unfold chopRound; simp only [show ¬ d < 0 by omega, ite_false]
  rw [this]; exact chopRoundNonneg_bound d hd

/-- `Dec.quo` on a non-negative numerator and positive denominator: floor to 36 places, then round -/
theorem quo_spec (a b : Dec) (ha : 0 ≤ a.m) (hb : 0 < b.m) :
    ∃ T, 0 ≤ T ∧ T * b.m ≤ a.m * P * P ∧ a.m * P * P < (T + 1) * b.m ∧
      2 * ((Dec.quo a b).m * P) ≤ 2 * T + P ∧ 2 * T ≤ 2 * ((Dec.quo a b).m * P) + P ∧
      0 ≤ (Dec.quo a b).m := by
  have hnum : 0 ≤ a.m * P * P := Int.mul_nonneg (Int.mul_nonneg ha (by decide)) (by decide)
  obtain ⟨e, h0, h1, h2⟩ := floor_spec (a.m * P * P) b.m hnum hb
  refine ⟨a.m * P * P / b.m, h0, h1, h2, ?_⟩
  have hb := chopRound_nonneg_bound (a.m * P * P / b.m) h0
  have hnn := chopRound_nonneg (a.m * P * P / b.m) h0
  simp only [Dec.quo, e]
  exact ⟨by omega, by omega, hnn⟩

theorem mul_spec (a b : Dec) (hab : 0 ≤ a.m * b.m) :
    2 * ((Dec.mul a b).m * P) ≤ 2 * (a.m * b.m) + P ∧ 2 * (a.m * b.m) ≤ 2 * ((Dec.mul a b).m * P) + P ∧
    0 ≤ (Dec.mul a b).m := by
  have hb : 2 * ((Dec.mul a b).m * P - a.m * b.m) ≤ P ∧ 2 * (a.m * b.m - (Dec.mul a b).m * P) ≤ P :=
    chopRound_nonneg_bound (a.m * b.m) hab
  exact ⟨by omega, by omega, chopRound_nonneg _ hab⟩

/-- `baseUnits` is exact: amount · 10^(18 − cf) -/
theorem baseUnits_m (amt : Int) (cf : Nat) : (baseUnits amt cf).m = amt * 10 ^ (18 - cf) := by
  simp only [baseUnits, Dec.mul, Dec.ofInt]
  rw [Int.mul_right_comm]
  exact chopRound_mul_P _

theorem baseUnits_add (a b : Int) (cf : Nat) :
    (baseUnits a cf).m + (baseUnits b cf).m = (baseUnits (a + b) cf).m := by
  simp only [baseUnits_m, Int.add_mul]

theorem add_baseUnits (a b : Int) (cf : Nat) : Dec.add (baseUnits a cf) (baseUnits b cf) = baseUnits (a + b) cf := by
  show (⟨(baseUnits a cf).m + (baseUnits b cf).m⟩ : Dec) = _
  rw [baseUnits_add]

theorem pow10_pos (n : Nat) : (0 : Int) < 10 ^ n := Int.pow_pos (by decide)

theorem baseUnits_nonneg (amt : Int) (cf : Nat) (h : 0 ≤ amt) : 0 ≤ (baseUnits amt cf).m := by
  rw [baseUnits_m]; exact Int.mul_nonneg h (Int.le_of_lt (pow10_pos _))

theorem baseUnits_pos (amt : Int) (cf : Nat) (h : 0 < amt) : 0 < (baseUnits amt cf).m := by
  rw [baseUnits_m]; exact Int.mul_pos h (pow10_pos _)

/-- the two separately written index-ratio routines agree (helper path vs bulk path) -/
theorem c2dBulk_eq (c : Int) (cf : Nat) (debt : Int) (dcf : Nat) : c2dBulk c cf debt dcf = c2d c cf debt dcf := by
  rfl

theorem maxSortable_m : maxSortable.m = 1000000000000000000000000000000000000 := by decide

theorem sortKey_lt_imp (a b : Dec) (h : sortKey a < sortKey b) : a.m < b.m := by
  unfold sortKey at h
  split at h <;> split at h <;> omega

/-- for a debt in the sortable range the index ratio is the plain quotient of the base units -/
theorem c2d_eq_quo (c d : Int) (cf dcf : Nat) (hd : (baseUnits d dcf).m ≠ 0)
    (hd2 : (baseUnits d dcf).m < maxSortable.m) : c2d c cf d dcf = Dec.quo (baseUnits c cf) (baseUnits d dcf) := by
  unfold c2d
  exact if_neg fun h => h.elim hd (fun h => by omega)

theorem collRatio_eq_quo (c d : Int) (cf dcf : Nat) (price : Dec) (hc : c ≠ 0) (hd : (baseUnits d dcf).m ≠ 0) :
    collRatio c cf d 0 dcf price = some (Dec.quo (Dec.mul (baseUnits c cf) price) (baseUnits d dcf)) := by
  unfold collRatio
  rw [if_neg hc]
  dsimp only
  rw [add_baseUnits, Int.add_zero, if_neg hd]

/-- index side: `C·P² < (T+1)·D`, `T` rounds to `R < N`, `N` is the rounded `T2 ≤ P³/q` -/
theorem core_idx (Pp C D T R q T2 N : Int) (hP : 0 < Pp) (hD : 0 < D) (hq : 0 < q)
    (f1 : C * Pp * Pp < (T + 1) * D) (r1 : 2 * T ≤ 2 * (R * Pp) + Pp) (hRN : R + 1 ≤ N)
    (r3 : 2 * (N * Pp) ≤ 2 * T2 + Pp) (f3 : T2 * q ≤ Pp * Pp * Pp) :
    C * Pp * Pp * q < (Pp * Pp * Pp + q) * D := by
  have a1 : 2 * (T + 1) ≤ 2 * (N * Pp) - Pp + 2 := by
    have : (R + 1) * Pp ≤ N * Pp := Int.mul_le_mul_of_nonneg_right hRN (by omega)
    rw [Int.add_mul, Int.one_mul] at this
    omega
  have a2 : 2 * (T + 1) * D ≤ (2 * (N * Pp) - Pp + 2) * D := Int.mul_le_mul_of_nonneg_right a1 (by omega)
  have a3 : 2 * (C * Pp * Pp) < (2 * (N * Pp) - Pp + 2) * D := by
    rw [Int.mul_assoc 2 (T + 1) D] at a2; omega
  have b1 : (2 * (N * Pp) - Pp) * q ≤ 2 * T2 * q := Int.mul_le_mul_of_nonneg_right (by omega) (by omega)
  have b2 : (2 * (N * Pp) - Pp) * q ≤ 2 * (Pp * Pp * Pp) := by
    rw [Int.mul_assoc 2 T2 q] at b1; omega
  have a4 : 2 * (C * Pp * Pp) * q < (2 * (N * Pp) - Pp + 2) * D * q := Int.mul_lt_mul_of_pos_right a3 hq
  have b3 : (2 * (N * Pp) - Pp) * q * D ≤ 2 * (Pp * Pp * Pp) * D := Int.mul_le_mul_of_nonneg_right b2 (by omega)
  grind

/-- price side: `q` is the rounded `T1 > p·P²/L − 1` -/
theorem core_price (Pp p L T1 q : Int) (hL : 0 < L) (r2 : 2 * T1 ≤ 2 * (q * Pp) + Pp)
    (f2 : p * Pp * Pp < (T1 + 1) * L) : 2 * p * Pp * Pp - L * Pp - 2 * L < 2 * (q * Pp) * L := by
  have c1 : (2 * T1 - Pp) * L ≤ 2 * (q * Pp) * L := Int.mul_le_mul_of_nonneg_right (by omega) (by omega)
  grind

/-- value side: `CR` is the rounded `T3 ≤ V·P²/D`, `V` the rounded `C·p/P` -/
theorem core_value (Pp C D p V T3 CR : Int) (hP : 0 < Pp) (hD : Pp ≤ D) (r5 : 2 * (CR * Pp) ≤ 2 * T3 + Pp)
    (f4 : T3 * D ≤ V * Pp * Pp) (r4 : 2 * (V * Pp) ≤ 2 * (C * p) + Pp) : (CR - 1) * D ≤ C * p := by
  have d1 : 2 * (CR * Pp) * D ≤ (2 * T3 + Pp) * D := Int.mul_le_mul_of_nonneg_right r5 (by omega)
  have d2 : 2 * (V * Pp) * Pp ≤ (2 * (C * p) + Pp) * Pp := Int.mul_le_mul_of_nonneg_right r4 (by omega)
  have d3 : (2 * (CR * D)) * Pp ≤ (2 * (C * p) + Pp + D) * Pp := by grind
  have d4 : 2 * (CR * D) ≤ 2 * (C * p) + Pp + D := Int.le_of_mul_le_mul_right d3 hP
  grind

/-- index and value side together: `(CR − 2)·q < p·P` -/
theorem core_iv (Pp C D p q CR : Int) (hP : 0 < Pp) (hD : Pp ≤ D) (hp : 0 < p) (hpU : p ≤ Pp * Pp) (hq : 0 < q)
    (a5 : C * Pp * Pp * q < (Pp * Pp * Pp + q) * D) (d5 : (CR - 1) * D ≤ C * p) : (CR - 2) * q < p * Pp := by
  have hPPq : 0 ≤ Pp * Pp * q := Int.mul_nonneg (Int.mul_nonneg (by omega) (by omega)) (by omega)
  have e1 : (CR - 1) * D * (Pp * Pp * q) ≤ C * p * (Pp * Pp * q) := Int.mul_le_mul_of_nonneg_right d5 hPPq
  have e2 : C * Pp * Pp * q * p < (Pp * Pp * Pp + q) * D * p := Int.mul_lt_mul_of_pos_right a5 hp
  have e3 : p * q ≤ Pp * Pp * q := Int.mul_le_mul_of_nonneg_right hpU (by omega)
  have e4 : ((CR - 2) * (Pp * Pp) * q) * D < (p * (Pp * Pp * Pp)) * D := by
    have : (Pp * Pp * q) * D ≥ p * q * D := Int.mul_le_mul_of_nonneg_right e3 (by omega)
    grind
  have e5 : (CR - 2) * (Pp * Pp) * q < p * (Pp * Pp * Pp) := Int.lt_of_mul_lt_mul_right e4 (by omega)
  have e6 : ((CR - 2) * q) * (Pp * Pp) < (p * Pp) * (Pp * Pp) := by
    rw [Int.mul_right_comm, Int.mul_assoc p Pp, ← Int.mul_assoc Pp Pp Pp]; exact e5
  exact Int.lt_of_mul_lt_mul_right e6 (Int.le_of_lt (Int.mul_pos hP hP))

/-- … and the price side -/
theorem core_combine (Pp p L q CR : Int) (hP : 0 < Pp) (hL : 0 < L)
    (e7 : (CR - 2) * q < p * Pp) (c2 : 2 * p * Pp * Pp - L * Pp - 2 * L < 2 * (q * Pp) * L)
    (hM : 0 < 2 * p * Pp * Pp - L * Pp - 2 * L) :
    (CR - 2 - L) * (2 * p * Pp * Pp - L * Pp - 2 * L) < L * L * (Pp + 2) := by
  by_cases hX : CR - 2 ≤ 0
  · have : (CR - 2 - L) * (2 * p * Pp * Pp - L * Pp - 2 * L) ≤ 0 :=
      Int.mul_nonpos_of_nonpos_of_nonneg (by omega) (by omega)
    have : 0 < L * L * (Pp + 2) := Int.mul_pos (Int.mul_pos hL hL) (by omega)
    omega
  · have hXpos : 0 < CR - 2 := by omega
    have g1 : (2 * p * Pp * Pp - L * Pp - 2 * L) * (CR - 2) < 2 * (q * Pp) * L * (CR - 2) :=
      Int.mul_lt_mul_of_pos_right c2 hXpos
    have hPL : 0 < 2 * Pp * L := Int.mul_pos (by omega) hL
    have g2 : (CR - 2) * q * (2 * Pp * L) < p * Pp * (2 * Pp * L) := Int.mul_lt_mul_of_pos_right e7 hPL
    grind

/-- `normRatio p L = 1 / q` with `q = price / L`, or one ulp when that quotient rounds to zero -/
theorem normRatio_spec (p L : Dec) : ∃ q : Dec, normRatio p L = Dec.quo Dec.one q ∧
    (q.m = (Dec.quo p L).m ∧ q.m ≠ 0 ∨ (Dec.quo p L).m = 0 ∧ q.m = 1) := by
  refine ⟨if (Dec.quo p L).m = 0 then Dec.smallest else Dec.quo p L, rfl, ?_⟩
  split
  · exact .inr ⟨‹_›, rfl⟩
  · exact .inl ⟨rfl, ‹_›⟩

/-- The bound on mantissas: if the index ratio `quo(C, D)` is below `normRatio(price, L)` then the
    value ratio `quo(mul(C, price), D)` exceeds `L` by at most `2 + L²(P+2)/(2·price·P² − L·P − 2L)` ulp. -/
theorem block_bound_m (C D p L : Dec) (hC : 0 ≤ C.m) (hD : P ≤ D.m) (hp : 0 < p.m) (hpU : p.m ≤ P * P)
    (hL : 0 < L.m) (hM : 0 < 2 * p.m * P * P - L.m * P - 2 * L.m)
    (hsel : (Dec.quo C D).m < (normRatio p L).m) :
    ((Dec.quo (Dec.mul C p) D).m - 2 - L.m) * (2 * p.m * P * P - L.m * P - 2 * L.m) < L.m * L.m * (P + 2) := by
  have hDpos : 0 < D.m := by have := P_pos; omega
  obtain ⟨T, -, -, f1, -, r1, -⟩ := quo_spec C D hC hDpos
  obtain ⟨T1, -, -, f2, -, r2, hq0⟩ := quo_spec p L (by omega) hL
  obtain ⟨qd, hqd, hq⟩ := normRatio_spec p L
  rw [hqd] at hsel
  have hqpos : 0 < qd.m := by omega
  obtain ⟨T2, -, f3, -, r3, -, -⟩ := quo_spec Dec.one qd (by decide) hqpos
  rw [show Dec.one.m = P from rfl] at f3
  obtain ⟨r4, -, hV0⟩ := mul_spec C p (Int.mul_nonneg hC (by omega))
  obtain ⟨T3, -, f4, -, r5, -, -⟩ := quo_spec (Dec.mul C p) D hV0 hDpos
  have hqP : (Dec.quo p L).m * P ≤ qd.m * P := Int.mul_le_mul_of_nonneg_right (by omega) (by decide)
  -- every hypothesis of the three sides is a floor or a rounding fact about one `Dec` operation
  exact core_combine P p.m L.m qd.m _ P_pos hL
    (core_iv P C.m D.m p.m qd.m _ P_pos hD hp hpU hqpos
      (core_idx P C.m D.m T (Dec.quo C D).m qd.m T2 (Dec.quo Dec.one qd).m P_pos hDpos hqpos f1 r1
        (Int.add_one_le_of_lt hsel) r3 f3)
      (core_value P C.m D.m p.m (Dec.mul C p).m T3 _ P_pos hD r5 f4 r4))
    (core_price P p.m L.m T1 qd.m hL (by omega) f2) hM

/-! ### the reverse direction: what the range scan cannot miss -/

theorem rev_idx (Pp C D T R q T2 N : Int) (hP : 0 < Pp) (hD : 0 < D) (hq : 0 < q)
    (f1 : T * D ≤ C * Pp * Pp) (r1 : 2 * (R * Pp) ≤ 2 * T + Pp) (hNR : N ≤ R)
    (r3 : 2 * T2 ≤ 2 * (N * Pp) + Pp) (f3 : Pp * Pp * Pp < (T2 + 1) * q) :
    Pp * Pp * Pp * D < (C * Pp * Pp + (Pp + 1) * D) * q := by
  have a0 : N * Pp ≤ R * Pp := Int.mul_le_mul_of_nonneg_right hNR (by omega)
  have a1 : 2 * (T2 + 1) ≤ 2 * T + 2 * Pp + 2 := by omega
  have a2 : 2 * (T2 + 1) * q ≤ (2 * T + 2 * Pp + 2) * q := Int.mul_le_mul_of_nonneg_right a1 (by omega)
  have a3 : Pp * Pp * Pp < (T + Pp + 1) * q := by grind
  have a4 : Pp * Pp * Pp * D < (T + Pp + 1) * q * D := Int.mul_lt_mul_of_pos_right a3 hD
  have a5 : T * D * q ≤ C * Pp * Pp * q := Int.mul_le_mul_of_nonneg_right f1 (by omega)
  grind

theorem rev_price (Pp p L T1 q : Int) (hP : 0 < Pp) (hL : 0 < L) (r2 : 2 * (q * Pp) ≤ 2 * T1 + 2 * Pp)
    (f2 : T1 * L ≤ p * Pp * Pp) : q * L ≤ p * Pp + L := by
  have b1 : (2 * (q * Pp)) * L ≤ (2 * T1 + 2 * Pp) * L := Int.mul_le_mul_of_nonneg_right r2 (by omega)
  have b2 : (q * L) * Pp ≤ (p * Pp + L) * Pp := by grind
  exact Int.le_of_mul_le_mul_right b2 hP

theorem rev_value (Pp C D p V T3 CR : Int) (hP : 0 < Pp) (hD : Pp ≤ D) (r5 : 2 * T3 ≤ 2 * (CR * Pp) + Pp)
    (f4 : V * Pp * Pp < (T3 + 1) * D) (r4 : 2 * (C * p) ≤ 2 * (V * Pp) + Pp) : C * p ≤ (CR + 2) * D := by
  have d1 : 2 * (T3 + 1) * D ≤ (2 * (CR * Pp) + Pp + 2) * D := Int.mul_le_mul_of_nonneg_right (by omega) (by omega)
  have d2 : 2 * (C * p) * Pp ≤ (2 * (V * Pp) + Pp) * Pp := Int.mul_le_mul_of_nonneg_right r4 (by omega)
  have d3 : Pp * Pp ≤ Pp * D := Int.mul_le_mul_of_nonneg_left hD (by omega)
  have d4 : D ≤ Pp * D := by
    have : 1 * D ≤ Pp * D := Int.mul_le_mul_of_nonneg_right (by omega) (by omega)
    omega
  have d5 : (C * p) * Pp ≤ ((CR + 2) * D) * Pp := by grind
  exact Int.le_of_mul_le_mul_right d5 hP

/-- the three sides combined: if the index ratio is NOT below the normalised ratio then the value ratio is at least
    `L − 2 − L²/(price·P + L) − price·(P+1)/P²` (mantissa units) -/
theorem rev_combine (Pp C D p L q CR : Int) (hP : 0 < Pp) (hD : Pp ≤ D) (hp : 0 < p) (hL : 0 < L) (hC : 0 ≤ C)
    (a6 : Pp * Pp * Pp * D < (C * Pp * Pp + (Pp + 1) * D) * q) (b3 : q * L ≤ p * Pp + L)
    (d6 : C * p ≤ (CR + 2) * D) :
    p * (Pp * Pp * Pp * L - (Pp + 1) * (p * Pp + L)) < (CR + 2) * (Pp * Pp) * (p * Pp + L) := by
  have hK : 0 ≤ C * Pp * Pp + (Pp + 1) * D :=
    Int.add_nonneg (Int.mul_nonneg (Int.mul_nonneg hC (by omega)) (by omega)) (Int.mul_nonneg (by omega) (by omega))
  have c1 : Pp * Pp * Pp * D * L < (C * Pp * Pp + (Pp + 1) * D) * q * L := Int.mul_lt_mul_of_pos_right a6 hL
  have c2 : (C * Pp * Pp + (Pp + 1) * D) * (q * L) ≤ (C * Pp * Pp + (Pp + 1) * D) * (p * Pp + L) :=
    Int.mul_le_mul_of_nonneg_left b3 hK
  rw [Int.mul_assoc (C * Pp * Pp + (Pp + 1) * D) q L] at c1
  have c3 := Int.lt_of_lt_of_le c1 c2
  have hW : 0 ≤ Pp * Pp * (p * Pp + L) :=
    Int.mul_nonneg (Int.mul_nonneg (by omega) (by omega)) (Int.add_nonneg (Int.mul_nonneg (by omega) (by omega)) (by omega))
  have e1 : C * p * (Pp * Pp * (p * Pp + L)) ≤ (CR + 2) * D * (Pp * Pp * (p * Pp + L)) :=
    Int.mul_le_mul_of_nonneg_right d6 hW
  have e2 : Pp * Pp * Pp * D * L * p < (C * Pp * Pp + (Pp + 1) * D) * (p * Pp + L) * p := Int.mul_lt_mul_of_pos_right c3 hp
  clear a6 b3 d6 c1 c2 c3 hK hW
  have e3 : (p * (Pp * Pp * Pp * L - (Pp + 1) * (p * Pp + L))) * D < ((CR + 2) * (Pp * Pp) * (p * Pp + L)) * D := by grind
  exact Int.lt_of_mul_lt_mul_right e3 (by omega)

/-- on mantissas: a CDP that the block liquidator's scan does not reach has
    `(CR + 2)·P²·(price·P + L) > price·(P³·L − (P+1)(price·P + L))`, i.e.
    `CR > L − ε'` with `ε' = 2 + L²/(price·P + L) + price·(P+1)/P²` ulp -/
theorem block_bound_rev_m (C D p L : Dec) (hC : 0 ≤ C.m) (hD : P ≤ D.m) (hp : 0 < p.m) (hL : 0 < L.m)
    (hnsel : ¬ (Dec.quo C D).m < (normRatio p L).m) :
    p.m * (P * P * P * L.m - (P + 1) * (p.m * P + L.m)) <
      ((Dec.quo (Dec.mul C p) D).m + 2) * (P * P) * (p.m * P + L.m) := by
  have hDpos : 0 < D.m := by have := P_pos; omega
  obtain ⟨T, -, f1a, -, r1a, -, -⟩ := quo_spec C D hC hDpos
  obtain ⟨T1, hT10, f2a, -, r2a, -, hq0⟩ := quo_spec p L (by omega) hL
  obtain ⟨qd, hqd, hq⟩ := normRatio_spec p L
  rw [hqd] at hnsel
  have hqpos : 0 < qd.m := by omega
  have hqle : 2 * (qd.m * P) ≤ 2 * T1 + 2 * P := by
    have := P_pos
    rcases hq with ⟨e, -⟩ | ⟨e0, e1⟩
    · rw [e]; omega
    · rw [e1]; omega
  obtain ⟨T2, -, -, f3b, -, r3b, -⟩ := quo_spec Dec.one qd (by decide) hqpos
  rw [show Dec.one.m = P from rfl] at f3b
  obtain ⟨-, r4b, hV0⟩ := mul_spec C p (Int.mul_nonneg hC (by omega))
  obtain ⟨T3, -, -, f4b, -, r5b, -⟩ := quo_spec (Dec.mul C p) D hV0 hDpos
  exact rev_combine P C.m D.m p.m L.m qd.m _ P_pos hD hp hL hC
    (rev_idx P C.m D.m T (Dec.quo C D).m qd.m T2 (Dec.quo Dec.one qd).m P_pos hDpos hqpos f1a r1a
      (Int.not_lt.1 hnsel) r3b f3b)
    (rev_price P p.m L.m T1 qd.m P_pos hL hqle f2a)
    (rev_value P C.m D.m p.m (Dec.mul C p).m T3 _ P_pos hD r5b f4b r4b)

end KV.Cdp
