/-
  Helper lemmas for C06, part 2: effect lemmas of the bank steps, the store and the by-time index.
  Core Lean only.
-/
import KavaVerif.Proofs.AuctionSplit

namespace KV.Auc

/-- `n` if `c` holds, else 0: the vocabulary of the flow equations. Kept opaque to `omega` (an atom) while
    flows are composed; at one account it is evaluated by `ind_pos`/`ind_neg` or `simp [ind, …]`. -/
def ind (c : Prop) [Decidable c] (n : Int) : Int := if c then n else 0

theorem ind_pos {c : Prop} [Decidable c] (n : Int) (h : c) : ind c n = n := if_pos h
theorem ind_neg {c : Prop} [Decidable c] (n : Int) (h : ¬ c) : ind c n = 0 := if_neg h
theorem ind_zero {c : Prop} [Decidable c] : ind c 0 = 0 := by unfold ind; split <;> rfl
theorem ind_add (c : Prop) [Decidable c] (x y : Int) : ind c (x + y) = ind c x + ind c y := by
  unfold ind; split <;> omega
theorem ind_sub (c : Prop) [Decidable c] (x y : Int) : ind c (x - y) = ind c x - ind c y := by
  unfold ind; split <;> omega
theorem ind_nonneg (c : Prop) [Decidable c] (n : Int) (h : 0 ≤ n) : 0 ≤ ind c n := by
  unfold ind; split <;> omega
theorem ind_left_false {p q : Prop} [Decidable p] [Decidable q] (h : ¬ p) (n : Int) : ind (p ∧ q) n = 0 :=
  ind_neg _ (fun hh => h hh.1)
theorem ind_tt (n : Int) : ind (True ∧ True) n = n := if_pos ⟨trivial, trivial⟩

theorem ind_self_and (M : Addr) (e d : Denom) (n : Int) : ind (M = M ∧ e = d) n = ind (d = e) n := by
  simp only [ind, true_and, eq_comm]

theorem ind_true_and (e d : Denom) (n : Int) : ind (True ∧ e = d) n = ind (d = e) n := by
  simp only [ind, true_and, eq_comm]

theorem ind_flip (e d : Denom) (n : Int) : ind (e = d) n = ind (d = e) n := by
  simp only [ind, eq_comm]

theorem upd2_add (f : Bal) (a : Addr) (d : Denom) (n : Int) (x : Addr) (y : Denom) :
    upd2 f a d (f a d + n) x y = f x y + ind (x = a ∧ y = d) n := by
  unfold upd2 ind; split
  · next h => rw [h.1, h.2]
  · omega

theorem upd2_sub (f : Bal) (a : Addr) (d : Denom) (n : Int) (x : Addr) (y : Denom) :
    upd2 f a d (f a d - n) x y = f x y - ind (x = a ∧ y = d) n := by
  unfold upd2 ind; split
  · next h => rw [h.1, h.2]
  · omega

theorem send_eff {b b' : Bal} {x y : Addr} {d : Denom} {n : Int} (h : send b x y d n = some b')
    (z : Addr) (e : Denom) :
    b' z e = b z e - ind (z = x ∧ e = d) n + ind (z = y ∧ e = d) n := by
  -- one case per branch of `send`, its conditions as hypotheses; a failing branch closes by `cases h`
  revert h
  fun_cases send b x y d n <;> intro h <;> cases h
  · next h0 => rw [h0, ind_zero, ind_zero]; omega
  · rw [upd2_add]; exact congrArg (· + ind (z = y ∧ e = d) n) (upd2_sub b x d n z e)

theorem send_funds (b b' : Bal) (x y : Addr) (d : Denom) (n : Int) (h : send b x y d n = some b') :
    n = 0 ∨ (0 < n ∧ n ≤ b x d) := by
  revert h
  fun_cases send b x y d n <;> intro h
  · left; assumption
  · cases h
  · right; omega

theorem send_ok (b : Bal) (x y : Addr) (d : Denom) (n : Int) (h0 : 0 ≤ n) (h1 : n ≤ b x d) :
    ∃ b', send b x y d n = some b' := by
  fun_cases send b x y d n
  · exact ⟨_, rfl⟩
  · omega
  · exact ⟨_, rfl⟩

theorem sendM2A_eff {env : Env} {b b' : Bal} {x y : Addr} {d : Denom} {n : Int}
    (h : sendM2A env b x y d n = some b') :
    env.blocked y = false ∧ ∀ z e, b' z e = b z e - ind (z = x ∧ e = d) n + ind (z = y ∧ e = d) n := by
  revert h
  fun_cases sendM2A env b x y d n <;> intro h
  · cases h
  · next hb => exact ⟨by simpa using hb, send_eff h⟩

theorem sendM2A_ok (env : Env) (b : Bal) (x y : Addr) (d : Denom) (n : Int) (hb : env.blocked y = false)
    (h0 : 0 ≤ n) (h1 : n ≤ b x d) : ∃ b', sendM2A env b x y d n = some b' := by
  unfold sendM2A; simp only [hb, Bool.false_eq_true, ite_false]; exact send_ok b x y d n h0 h1

theorem burn_eff {b b' : Bal} {m : Addr} {d : Denom} {n : Int} (h : burnFrom b m d n = some b')
    (z : Addr) (e : Denom) : b' z e = b z e - ind (z = m ∧ e = d) n := by
  revert h
  fun_cases burnFrom b m d n <;> intro h <;> cases h
  · next h0 => rw [h0, ind_zero]; omega
  · rw [upd2_sub]

theorem mint_eff (b : Bal) (m : Addr) (d : Denom) (n : Int) (z : Addr) (e : Denom) :
    mintTo b m d n z e = b z e + ind (z = m ∧ e = d) n := by
  fun_cases mintTo b m d n
  · next h0 => rw [h0, ind_zero]; omega
  · rw [upd2_add]

/-- a guard `if c then e else r` whose result is not `e`: the guard did not fire and the result is that of
    `r`. For guards that sit behind a `match` on an argument, where the case principle of the function
    does not reach them (`step` on a given operation, `payout` on a given kind). -/
theorem of_guard {α : Type} {c : Prop} [Decidable c] {e r y : α} (h : (if c then e else r) = y) (he : e ≠ y) :
    ¬ c ∧ r = y := by
  split at h
  · exact absurd h he
  · exact ⟨‹_›, h⟩

/-- the companion of `of_guard` for a bank step that may fail -/
theorem of_bank {α : Type} {o : Option Bal} {e y : α} {f : Bal → α}
    (h : (match o with | none => e | some b => f b) = y) (he : e ≠ y) : ∃ b, o = some b ∧ f b = y := by
  cases o with
  | none => exact absurd h he
  | some b => exact ⟨b, rfl, h⟩

/-- bidder → module → standing bidder: the module's balance is untouched, the standing bidder is
    not a blocked address -/
theorem refund_eff {env : Env} {b b' : Bal} {bidder old : Addr} {d : Denom} {n : Int}
    (h : refund env b bidder old d n = some b') :
    env.blocked old = false ∧
    ∀ z e, b' z e = b z e - ind (z = bidder ∧ e = d) n + ind (z = old ∧ e = d) n := by
  revert h
  fun_cases refund env b bidder old d n <;> intro h
  · cases h
  · next b1 h1 =>
    obtain ⟨hb, e2⟩ := sendM2A_eff h
    exact ⟨hb, fun z e => by rw [e2, send_eff h1, Int.add_sub_cancel]⟩

/-- what leaves the module account in `payAll` -/
def paid : List Addr → List Int → Int
  | _ :: xs, n :: ns => (if 0 < n then n else 0) + paid xs ns
  | _, _ => 0

/-- what address `z` receives in `payAll` -/
def credit (z : Addr) : List Addr → List Int → Int
  | x :: xs, n :: ns => (if 0 < n ∧ x = z then n else 0) + credit z xs ns
  | _, _ => 0

theorem payAll_eff {env : Env} {d : Denom} {b b' : Bal} {xs : List Addr} {ns : List Int}
    (h : payAll env d b xs ns = some b') (z : Addr) (e : Denom) :
    b' z e = b z e - ind (z = env.M ∧ e = d) (paid xs ns) + ind (e = d) (credit z xs ns) := by
  revert h
  fun_induction payAll env d b xs ns <;> intro h
  · cases h
  · next b x xs n ns hpos b1 h1 ih =>
    have i1 := ih h
    have i2 := (sendM2A_eff h1).2 z e
    have key : ind (e = d) (if x = z then n else 0) = ind (z = x ∧ e = d) n := by
      unfold ind; by_cases hx : x = z
      · simp [hx]
      · simp [hx, Ne.symm hx]
    simp only [paid, credit, hpos, true_and, ite_true, ind_add, key]; omega
  · next hpos ih => simp only [paid, credit, hpos, false_and, ite_false, Int.zero_add]; exact ih h
  · next hne => cases h; rw [paid.eq_2 _ _ hne, credit.eq_2 _ _ _ hne, ind_zero, ind_zero]; omega

theorem payAll_credit_blocked {env : Env} {d : Denom} {b b' : Bal} {xs : List Addr} {ns : List Int}
    (h : payAll env d b xs ns = some b') {z : Addr} (hz : env.blocked z = true) : credit z xs ns = 0 := by
  revert h
  fun_induction payAll env d b xs ns <;> intro h
  · cases h
  · next b x xs n ns _ b1 h1 ih =>
    have hxz : ¬ (x = z) := fun hx => by
      have := (sendM2A_eff h1).1; rw [hx, hz] at this; cases this
    simp only [credit, hxz, and_false, ite_false, ih h]; rfl
  · next hpos ih => simp only [credit, hpos, false_and, ite_false, ih h]; rfl
  · next hne => exact credit.eq_2 _ _ _ hne

theorem paid_eq_sum (xs : List Addr) (ns : List Int) (hl : xs.length = ns.length)
    (hnn : ∀ n, n ∈ ns → 0 ≤ n) : paid xs ns = sumL ns := by
  fun_induction paid xs ns
  · next x xs n ns ih =>
    rw [ih (by simpa using hl) fun m hm => hnn m (by simp [hm]), sumL]
    have := hnn n (by simp)
    omega
  · next xs ns hne =>
    cases ns with
    | nil => rfl
    | cons n ns =>
      cases xs with
      | nil => simp at hl
      | cons x xs => exact (hne x xs n ns rfl rfl).elim

theorem sumTo_update (n : Nat) (f : Nat → Int) (i : Nat) (v : Int) (hi : i < n) :
    sumTo n (fun j => if j = i then v else f j) = sumTo n f - f i + v := by
  induction n with
  | zero => omega
  | succ k ih =>
    simp only [sumTo]
    by_cases hik : k = i
    · rw [sumTo_congr k _ f (fun j hj => if_neg (by omega)), if_pos hik, hik]; omega
    · rw [ih (by omega), if_neg hik]; omega

theorem totalCoins_updA (auc : Nat → Option Auction) (i : Nat) (v : Option Auction) (d : Denom) (n : Nat)
    (hi : i < n) :
    sumTo n (fun j => modCoinsO (updA auc i v j) d)
      = sumTo n (fun j => modCoinsO (auc j) d) - modCoinsO (auc i) d + modCoinsO v d := by
  rw [← sumTo_update n _ i _ hi]
  exact sumTo_congr _ _ _ fun j _ => by unfold updA; split <;> rfl

theorem keyLt_irrefl (x : Int × Nat) : keyLt x x = false := by
  unfold keyLt; simp

theorem keyLt_trans (x y z : Int × Nat) (h1 : keyLt x y = true) (h2 : keyLt y z = true) : keyLt x z = true := by
  unfold keyLt at *
  simp only [Bool.or_eq_true, Bool.and_eq_true, decide_eq_true_eq] at *
  omega

theorem keyLt_total (x y : Int × Nat) (h1 : x ≠ y) (h2 : keyLt x y = false) : keyLt y x = true := by
  obtain ⟨a, c⟩ := x; obtain ⟨a', c'⟩ := y
  simp only [keyLt, ne_eq, Prod.mk.injEq, Bool.or_eq_false_iff, Bool.and_eq_false_imp, Bool.or_eq_true,
    Bool.and_eq_true, decide_eq_true_eq, decide_eq_false_iff_not] at *
  omega

def Sorted (l : List (Int × Nat)) : Prop := l.Pairwise (fun x y => keyLt x y = true)

theorem idxInsert_mem (k x : Int × Nat) (l : List (Int × Nat)) : x ∈ idxInsert k l ↔ x = k ∨ x ∈ l := by
  fun_induction idxInsert k l
  · simp
  · simp
  · simp
  · next ih => simp only [List.mem_cons, ih]; exact or_left_comm

theorem idxInsert_sorted (k : Int × Nat) (l : List (Int × Nat)) (h : Sorted l) : Sorted (idxInsert k l) := by
  fun_induction idxInsert k l
  · simp [Sorted]
  · exact h
  · next y ys _ hlt =>
    have hp := List.pairwise_cons.mp h
    refine List.pairwise_cons.mpr ⟨fun z hz => ?_, h⟩
    rcases List.mem_cons.mp hz with rfl | hz'
    · exact hlt
    · exact keyLt_trans _ _ _ hlt (hp.1 z hz')
  · next y ys hne hnlt ih =>
    have hp := List.pairwise_cons.mp h
    refine List.pairwise_cons.mpr ⟨fun z hz => ?_, ih hp.2⟩
    rcases (idxInsert_mem k z ys).mp hz with rfl | hz'
    · exact keyLt_total _ _ hne (by simpa using hnlt)
    · exact hp.1 z hz'

theorem idxRemove_mem (k x : Int × Nat) (l : List (Int × Nat)) : x ∈ idxRemove k l ↔ x ∈ l ∧ x ≠ k := by
  unfold idxRemove; simp [List.mem_filter]

theorem idxRemove_sorted (k : Int × Nat) (l : List (Int × Nat)) (h : Sorted l) : Sorted (idxRemove k l) := by
  unfold idxRemove Sorted; exact List.Pairwise.filter _ h

theorem sorted_nodup (l : List (Int × Nat)) (h : Sorted l) : l.Nodup := by
  unfold Sorted at h
  refine List.Pairwise.imp ?_ h
  intro x y hxy hEq
  subst hEq
  rw [keyLt_irrefl] at hxy; cases hxy

end KV.Auc
