/-
  Source tie ("tie 1b") for x/cdp/keeper/draw.go and interest.go: the Lean definitions REGENERATED from the Go source on
  every run (Generated/FnCdp.lean, tools/extract/fn*.go) equal the hand-written model functions the C04 theorems are
  about.  An edit of a Go function changes the generated definition and its equality proof stops checking.
  Encoding: `sdk.Coin` = its amount (`Int`); the three coins have the same denomination in every call
  (CONTRACT of the Go function), which the translation assumes.
-/
import KavaVerif.Generated.FnCdp
import KavaVerif.Model.Cdp
import KavaVerif.Proofs.TieFnBase

namespace KV.TieFn
open KV KV.Go

/-- `c.Sub(d)` of a coin `d` not larger than `c` does not panic -/
theorem coinSub_of_le {a b : Int} (h : b ≤ a) : Go.coinSub a b = R.ok (a - b) :=
  if_neg (Int.not_lt.mpr (Int.sub_nonneg_of_le h))

/-- `payment.Sub(payment.Sub(owed))` cuts an overpayment down to `owed`; `f` is the rest of the function -/
theorem coinSub_overpayment {β : Type} {owed pay : Int} (h : 0 ≤ owed) (f : Int → R β) :
    (if owed < pay then Go.coinSub pay owed >>= fun over => Go.coinSub pay over >>= f else f pay)
      = f (if owed < pay then owed else pay) := by
  split
  next h1 =>
    rw [coinSub_of_le (Int.le_of_lt h1), R.ok_bind, coinSub_of_le (Int.sub_le_self pay h), R.ok_bind, Int.sub_sub_self]
  next => rfl

/-- `calculatePayment` = `Cdp.calcPayment`, on the domain `0 ≤ owed`.

    Outside it the two differ: for `payment > owed` the Go code computes `payment.Sub(payment.Sub(owed))`, and
    `sdk.Coin.Sub` panics on the negative result `owed`, while the hand model is total and returns `owed`.  `owed`
    is `principal + accumulated fees` of a stored CDP (non-negative by the C04 invariant), so the difference is
    not reachable; the model function is left total and the domain is stated here. -/
theorem cdp_calculatePayment (owed fees pay : Int) (h : 0 ≤ owed) :
    GoFn.Cdp.calculatePayment_translated = true ∧
    GoFn.Cdp.calculatePayment owed fees pay = R.ok (KV.Cdp.calcPayment owed fees pay) := by
  refine ⟨rfl, ?_⟩
  simp only [GoFn.Cdp.calculatePayment, KV.Cdp.calcPayment, show Go.newCoin 0 = R.ok 0 from rfl]
  tie_norm
  by_cases h0 : 0 < pay
  · rw [if_pos h0, if_neg (Int.not_le.mpr h0), coinSub_overpayment h, apply_ite R.ok]
    generalize (if owed < pay then owed else pay) = p
    refine ite_congr rfl (fun _ => rfl) fun _ => ?_
    -- the last comparison is split as generated and the leaves are left to arithmetic: an equivalent
    -- comparison in the source (`GTE` for `GT`) does not need a new proof
    split
    · rw [coinSub_of_le (by omega)]; tie_split
    · tie_split
  · rw [if_neg h0, if_pos (Int.not_lt.mp h0)]

/-- `sdk.NewDecFromIntWithPrec(i, c)` for a conversion factor in 0 … 18 -/
theorem decFromIntWithPrec_eq {i c : Int} (h : 0 ≤ c ∧ c ≤ 18) :
    Go.decFromIntWithPrec i c = R.ok ⟨i * 10 ^ (18 - c.toNat)⟩ := by
  obtain ⟨n, rfl⟩ := Int.eq_ofNat_of_zero_le h.1
  have e : (18 - (n : Int)).toNat = 18 - (n : Int).toNat := Int.toNat_sub 18 n
  unfold Go.decFromIntWithPrec
  rw [if_neg (not_or.mpr ⟨Int.not_lt.mpr h.1, Int.not_lt.mpr h.2⟩), e]

/-- `calculateCollateralRatio` (the bulk path of `SynchronizeInterestForRiskyCDPs`) = `Cdp.c2dBulk` on the CDP's
    collateral amount and total principal (`Principal + AccumulatedFees`), for conversion factors in 0 … 18 (outside,
    `sdk.NewDecFromIntWithPrec` panics; the model's `Nat` exponent `18 - cf` has no such case).  In particular the
    function never panics there: the division is guarded by the `IsZero` test. -/
theorem cdp_calculateCollateralRatio (dp : GoFn.Cdp.DebtParam) (cp : GoFn.Cdp.CollateralParam) (cdp : GoFn.Cdp.CDP)
    (hd : 0 ≤ dp.ConversionFactor ∧ dp.ConversionFactor ≤ 18)
    (hc : 0 ≤ cp.ConversionFactor ∧ cp.ConversionFactor ≤ 18) :
    GoFn.Cdp.calculateCollateralRatio_translated = true ∧
    GoFn.Cdp.calculateCollateralRatio dp cp cdp
      = R.ok (KV.Cdp.c2dBulk cdp.Collateral cp.ConversionFactor.toNat (cdp.Principal + cdp.AccumulatedFees)
          dp.ConversionFactor.toNat) := by
  refine ⟨rfl, ?_⟩
  simp only [GoFn.Cdp.calculateCollateralRatio, GoFn.Cdp.GetTotalPrincipal, KV.Cdp.c2dBulk,
    decFromIntWithPrec_eq hd, decFromIntWithPrec_eq hc, Int.one_mul,
    show Go.decQuo Dec.one Dec.smallest = R.ok Cdp.maxSortable from rfl]
  tie_norm
  generalize Dec.mul (Dec.ofInt (cdp.Principal + cdp.AccumulatedFees)) _ = D
  by_cases h0 : D.m = 0
  · simp only [Dec.isZero, h0, decide_true, if_true, R.ok_bind, true_or]
  · simp only [Dec.isZero, Dec.le, Go.decQuo, h0, decide_false, Bool.false_eq_true, if_false, R.ok_bind,
      decide_eq_true_eq, false_or]
    exact (apply_ite R.ok _ _ _).symm

end KV.TieFn
