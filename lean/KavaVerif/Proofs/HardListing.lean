/-
  Helper lemmas for C08 (x/hard): the begin blocker under governance — money markets listed, replaced and delisted
  through the params (`applyRateUpdates`, the model of interest.go `ApplyInterestRateUpdates`).
  Listing / delisting itself touches no component of the state; every live denom accrues once; a denom without a
  money market is skipped.  Hence: both global factors of every denom are non-decreasing, the factors of a denom
  that has no money market are exactly preserved, and nobody's records change.
-/
import KavaVerif.Proofs.HardHistory
namespace KV.Hard
open KV

/-- what one begin blocker guarantees about the two global factors and the users' records -/
structure RateUpdatesSpec (live : Denom → Bool) (s s' : St) : Prop where
  brwP : ∀ e, (s.brwIdx e).getD P ≤ (s'.brwIdx e).getD P
  brw0 : ∀ e, (s.brwIdx e).getD 0 ≤ (s'.brwIdx e).getD 0
  supP : ∀ e, (s.supIdx e).getD P ≤ (s'.supIdx e).getD P
  sup0 : ∀ e, (s.supIdx e).getD 0 ≤ (s'.supIdx e).getD 0
  brwNN : ∀ e v, s'.brwIdx e = some v → 0 ≤ v
  supNN : ∀ e v, s'.supIdx e = some v → 0 ≤ v
  dead : ∀ e, live e = false → s'.brwIdx e = s.brwIdx e ∧ s'.supIdx e = s.supIdx e
  dep : s'.dep = s.dep
  depIdx : s'.depIdx = s.depIdx
  bor : s'.bor = s.bor
  borIdx : s'.borIdx = s.borIdx
  bal : s'.bal = s.bal

theorem applyRateUpdates_spec (cfg : Cfg) (now : Int) (live : Denom → Bool) (phi : Denom → Dec) (apy : Denom → Bool)
    (hphi : ∀ d, live d = true → P ≤ (phi d).m) :
    ∀ (ds : List Denom) (s s' : St), (∀ e v, s.brwIdx e = some v → 0 ≤ v) → (∀ e v, s.supIdx e = some v → 0 ≤ v) →
      applyRateUpdates cfg now live phi apy ds s = .ok s' → RateUpdatesSpec live s s' := by
  intro ds s s' hb hs h
  fun_induction applyRateUpdates cfg now live phi apy ds s with
  | case1 s =>
    cases h
    exact ⟨fun _ => Int.le_refl _, fun _ => Int.le_refl _, fun _ => Int.le_refl _, fun _ => Int.le_refl _, hb, hs,
      fun _ _ => ⟨rfl, rfl⟩, rfl, rfl, rfl, rfl, rfl⟩
  | case2 d t s hl s1 ha ih =>
    have hB := accrue_brwIdx (hphi d hl) (hb d) ha
    have hS := accrue_supIdx (hs d) ha
    have f := accrue_frame ha
    have r := ih (nonneg_of_getD_le (fun e => (hB e).1) hb) (nonneg_of_getD_le (fun e => (hS e).1) hs) h
    refine ⟨fun e => Int.le_trans (hB e).1 (r.brwP e), fun e => Int.le_trans (hB e).2 (r.brw0 e),
      fun e => Int.le_trans (hS e).1 (r.supP e), fun e => Int.le_trans (hS e).2 (r.sup0 e), r.brwNN, r.supNN, ?_,
      by rw [r.dep, f.dep], by rw [r.depIdx, f.depIdx], by rw [r.bor, f.bor], by rw [r.borIdx, f.borIdx],
      by rw [r.bal, f.bal]⟩
    intro e hle
    have hne : e ≠ d := by intro heq; subst heq; rw [hl] at hle; cases hle
    obtain ⟨r1, r2⟩ := r.dead e hle
    exact ⟨by rw [r1, f.brwIdx e hne], by rw [r2, f.supIdx e hne]⟩
  | case3 => cases h
  | case4 d t s hl ih => exact ih hb hs h

/-- an accrual with factor ≥ 1 adds non-negative interest: the borrowed totals stay non-negative -/
theorem accrue_borrowed_nonneg {cfg : Cfg} {s s' : St} {d : Denom} {now : Int} {phi : Dec} {apyPos : Bool}
    (hphi : P ≤ phi.m) (h : accrue cfg s d now phi apyPos = .ok s') (e : Denom) (he : 0 ≤ s.borrowed e) :
    0 ≤ s'.borrowed e := by
  rcases accrue_cases rfl rfl h with rfl | rfl | rfl | ⟨-, rfl⟩
  · exact he
  · exact he
  · exact he
  · dsimp only [upd]
    split
    · rename_i hed
      subst hed
      have := interest_nonneg phi _ hphi he
      omega
    · exact he

theorem applyRateUpdates_ne_panic (cfg : Cfg) (now : Int) (live : Denom → Bool) (phi : Denom → Dec) (apy : Denom → Bool)
    (hphi : ∀ d, live d = true → P ≤ (phi d).m)
    (hrf : ∀ d, 0 ≤ (cfg.mkt d).reserveFactor.m ∧ (cfg.mkt d).reserveFactor.m ≤ P) :
    ∀ (ds : List Denom) (s : St), (∀ d ∈ ds, 0 ≤ s.borrowed d) →
      applyRateUpdates cfg now live phi apy ds s ≠ .panic := by
  intro ds s hb h
  fun_induction applyRateUpdates cfg now live phi apy ds s with
  | case1 => cases h
  | case2 d t s hl s1 ha ih =>
    exact ih (fun e he => accrue_borrowed_nonneg (hphi d hl) ha e (hb e (List.mem_cons_of_mem _ he))) h
  | case3 d t s hl hne =>
    cases ha : accrue cfg s d now (phi d) (apy d) with
    | panic => exact accrue_no_panic cfg s d now (phi d) (apy d) (hphi d hl) (hb d List.mem_cons_self) (hrf d).1 (hrf d).2 ha
    | err e => exact accrue_ne_err cfg s d now (phi d) (apy d) e ha
    | ok s1 => exact hne s1 ha
  | case4 d t s hl ih => exact ih (fun e he => hb e (List.mem_cons_of_mem _ he)) h

theorem applyRateUpdates_no_panic (cfg : Cfg) (now : Int) (live : Denom → Bool) (phi : Denom → Dec) (apy : Denom → Bool)
    (hphi : ∀ d, live d = true → P ≤ (phi d).m)
    (hrf : ∀ d, 0 ≤ (cfg.mkt d).reserveFactor.m ∧ (cfg.mkt d).reserveFactor.m ≤ P) :
    ∀ (ds : List Denom) (s : St), ds.Nodup → (∀ d ∈ ds, 0 ≤ s.borrowed d) →
      applyRateUpdates cfg now live phi apy ds s ≠ .panic :=
  fun ds s _ hb => applyRateUpdates_ne_panic cfg now live phi apy hphi hrf ds s hb

end KV.Hard
