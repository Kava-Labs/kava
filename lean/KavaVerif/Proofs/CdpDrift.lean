/-
  C04: how each operation moves the per-type total principal and the sum of the CDP debts of that type
  (the two sides of "total principal = Σ CDP debt up to interest rounding").  The debt side of every user
  operation is `sumDebt_sync`: the CDP is synchronised, then its table entry rewritten.  Core Lean only.
-/
import KavaVerif.Proofs.CdpBlock

namespace KV.Cdp
open KV

variable {E : Env} {g now c p pay : Int} {s s' s1 : St} {owner depositor keeper : Acct} {ty id : Nat}
  {cd pd : Denom} {cp : CollParam} {c0 c1 : Cdp}

/-- debt (principal + accumulated fees) of a table entry if it is a CDP of type `ty` -/
def debtIn (ty : Nat) : Option Cdp → Int
  | some c => if c.ty = ty then c.prin + c.fees else 0
  | none => 0

/-- Σ over all CDPs of type `ty` of their recorded debt -/
def sumDebt (s : St) (ty : Nat) : Int := sumAcc (List.range s.nextId) (fun id => debtIn ty (s.cdp id))

theorem sumDebt_upd {v : Option Cdp} (ty : Nat) (hlt : id < s.nextId)
    (hn : s'.nextId = s.nextId) (hc : s'.cdp = upd s.cdp id v) :
    sumDebt s' ty = sumDebt s ty - debtIn ty (s.cdp id) + debtIn ty v := by
  unfold sumDebt
  rw [hn, hc]
  have : (fun j => debtIn ty (upd s.cdp id v j)) = upd (fun j => debtIn ty (s.cdp j)) id (debtIn ty v) := by
    funext j
    by_cases hj : j = id
    · subst hj; simp [upd]
    · simp [upd, hj]
  rw [this, sumAcc_upd List.nodup_range (List.mem_range.2 hlt)]

theorem sumDebt_new {c : Cdp} (ty : Nat) (hn : s'.nextId = s.nextId + 1) (hc : s'.cdp = upd s.cdp s.nextId (some c)) :
    sumDebt s' ty = sumDebt s ty + debtIn ty (some c) := by
  unfold sumDebt
  rw [hn, hc, sumAcc_range_succ]
  have e1 : sumAcc (List.range s.nextId) (fun id => debtIn ty (upd s.cdp s.nextId (some c) id))
      = sumAcc (List.range s.nextId) (fun id => debtIn ty (s.cdp id)) := by
    apply sumAcc_congr
    intro x hx
    have : x ≠ s.nextId := by have := List.mem_range.1 hx; omega
    simp only [upd_other this]
  rw [e1, upd_same]

theorem sumDebt_same {s s' : St} (ty : Nat) (hn : s'.nextId = s.nextId) (hc : s'.cdp = s.cdp) :
    sumDebt s' ty = sumDebt s ty := by
  unfold sumDebt; rw [hn, hc]

theorem sumDebt_remove (hlt : id < s.nextId) (ho : s.cdp id = some c0)
    (hn : s'.nextId = s.nextId) (hc : s'.cdp = upd s.cdp id none) (ty : Nat) :
    sumDebt s' ty = sumDebt s ty - (if c0.ty = ty then c0.prin + c0.fees else 0) := by
  rw [sumDebt_upd ty hlt hn hc, ho]
  simp only [debtIn]
  omega

/-- the debt side of a user operation: CDP `id` is synchronised (`c0 ↦ c1`, state `s1`), then its table entry
    becomes `v` -/
theorem sumDebt_sync {v : Option Cdp} (hI : Inv E g s)
    (Y : Synced E now s owner ty id c0 s1 c1) (hn : s'.nextId = s1.nextId)
    (hc : s'.cdp = upd s1.cdp id v) (t : Nat) :
    sumDebt s' t = sumDebt s t - debtIn t (some c0) + debtIn t v := by
  rw [sumDebt_upd t (lt_nextId hI.coll Y.stored) (hn.trans Y.spec.nextId) (by rw [hc, Y.spec.cdp, upd_upd]), Y.stored]

/-- a debt `a` of type `ty` is replaced by a debt `b` of the same type -/
theorem debt_move {x a b d : Int} {ty t : Nat} (h : b - a = d) :
    x - (if ty = t then a else 0) + (if ty = t then b else 0) = x + (if t = ty then d else 0) := by
  by_cases ht : t = ty
  · subst ht; simp; omega
  · simp [ht, Ne.symm ht]

theorem tprin_move (f : Nat → Int) (ty : Nat) (v : Int) (t : Nat) : upd f ty v t = if t = ty then v else f t := rfl

/-- deposit: the total principal is untouched; the debt side grows by the interest `SynchronizeInterest`
    booked on the CDP (`c1.fees − c0.fees`) -/
theorem deposit_drift (hI : Inv E g s) (h : deposit E now s owner depositor ty c cd = .ok s') :
    ∃ id c0 s1 c1, findCdp s owner ty = some (id, c0) ∧ syncInterest E now s id c0 = .ok (s1, c1) ∧
      s'.tprin = s.tprin ∧ ∀ t, sumDebt s' t = sumDebt s t + (if t = ty then c1.fees - c0.fees else 0) := by
  obtain ⟨cp, id, c0, s1, c1, s2, R, rfl⟩ := deposit_ok h
  refine ⟨id, c0, s1, c1, R.find, R.sync, R.spec.tprin,
    fun t => (sumDebt_sync hI R.toSynced (by rfl) (by rfl) t).trans ?_⟩
  simp only [debtIn, R.spec.ty, R.ty0]
  exact debt_move (by rw [R.spec.prin]; omega)

/-- withdraw: as deposit -/
theorem withdraw_drift (hI : Inv E g s) (h : withdraw E now s owner depositor ty c cd = .ok s') :
    ∃ id c0 s1 c1, findCdp s owner ty = some (id, c0) ∧ syncInterest E now s id c0 = .ok (s1, c1) ∧
      s'.tprin = s.tprin ∧ ∀ t, sumDebt s' t = sumDebt s t + (if t = ty then c1.fees - c0.fees else 0) := by
  obtain ⟨cp, id, c0, s1, c1, r, s2, R, rfl⟩ := withdraw_ok h
  refine ⟨id, c0, s1, c1, R.find, R.sync, R.spec.tprin,
    fun t => (sumDebt_sync hI R.toSynced (by rfl) (by rfl) t).trans ?_⟩
  simp only [debtIn, R.spec.ty, R.ty0]
  exact debt_move (by rw [R.spec.prin]; omega)

/-- draw: total principal and debt side both grow by the drawn amount; the debt side also by the synced interest -/
theorem draw_drift (hI : Inv E g s) (h : draw E now s owner ty p pd = .ok s') :
    ∃ id c0 s1 c1, findCdp s owner ty = some (id, c0) ∧ syncInterest E now s id c0 = .ok (s1, c1) ∧
      (∀ t, s'.tprin t = s.tprin t + (if t = ty then p else 0)) ∧
      ∀ t, sumDebt s' t = sumDebt s t + (if t = ty then c1.fees - c0.fees + p else 0) := by
  obtain ⟨id, c0, cp, s1, c1, r, s3, R, rfl⟩ := draw_ok h
  refine ⟨id, c0, s1, c1, R.find, R.sync, fun t => ?_,
    fun t => (sumDebt_sync hI R.toSynced (by rfl) (by rfl) t).trans ?_⟩
  · dsimp only
    rw [tprin_move, R.spec.tprin]; split <;> simp [*]
  · simp only [debtIn, R.spec.ty, R.ty0]
    exact debt_move (by rw [R.spec.prin]; omega)

/-- create: both sides grow by the principal -/
theorem create_drift (h : create E now s owner ty c cd p pd = .ok s') :
    (∀ t, s'.tprin t = s.tprin t + (if t = ty then p else 0)) ∧
    ∀ t, sumDebt s' t = sumDebt s t + (if t = ty then p else 0) := by
  obtain ⟨cp, r, s1, s3, -, rfl⟩ := create_ok h
  refine ⟨fun t => ?_, fun t => ?_⟩
  · dsimp only
    rw [tprin_move]; split <;> simp [*]
  · rw [sumDebt_new (c := ⟨owner, ty, c, p, 0, now, ifacOrOne s ty⟩) t rfl rfl]
    simp only [debtIn]
    by_cases ht : t = ty
    · subst ht; simp
    · simp [ht, Ne.symm ht]

/-- repay: with `amt` = fee payment + principal payment, the total principal falls by `amt` (clamped at 0)
    and the debt side moves by the synced interest minus `amt` (whether the CDP is updated or closed) -/
theorem repay_drift (hI : Inv E g s) (h : repay E now s owner ty pay pd = .ok s') :
    ∃ id c0 s1 c1, findCdp s owner ty = some (id, c0) ∧ syncInterest E now s id c0 = .ok (s1, c1) ∧
      (∀ t, s'.tprin t = if t = ty then
          (if s.tprin ty - ((calcPayment (c1.prin + c1.fees) c1.fees pay).1 + (calcPayment (c1.prin + c1.fees) c1.fees pay).2) < 0 then 0
           else s.tprin ty - ((calcPayment (c1.prin + c1.fees) c1.fees pay).1 + (calcPayment (c1.prin + c1.fees) c1.fees pay).2))
        else s.tprin t) ∧
      ∀ t, sumDebt s' t = sumDebt s t + (if t = ty then c1.fees - c0.fees -
          ((calcPayment (c1.prin + c1.fees) c1.fees pay).1 + (calcPayment (c1.prin + c1.fees) c1.fees pay).2) else 0) := by
  obtain ⟨id, c0, s1, c1, fp, pp, s2, s3, s4, s5, R, rfl, hend⟩ := repay_ok h
  refine ⟨id, c0, s1, c1, R.find, R.sync, ?_⟩
  rw [R.fee, R.prin]
  have htp : ∀ t, upd s1.tprin c1.ty (if s1.tprin c1.ty - (fp + pp) < 0 then 0 else s1.tprin c1.ty - (fp + pp)) t =
      if t = ty then (if s.tprin ty - (fp + pp) < 0 then 0 else s.tprin ty - (fp + pp)) else s.tprin t := fun t => by
    rw [tprin_move, R.ty1, R.spec.tprin]
  rcases hend with ⟨hz1, hz2, s6, hret, rfl⟩ | ⟨-, rfl⟩
  · rw [(sendDeps_spec hret).eq]
    refine ⟨htp, fun t => (sumDebt_sync (v := none) hI R.toSynced (by rfl) (by rfl) t).trans ?_⟩
    simp only [debtIn, R.ty0]
    have := R.spec.prin
    by_cases ht : t = ty
    · subst ht; simp; omega
    · simp [ht, Ne.symm ht]
  · refine ⟨htp, fun t => (sumDebt_sync hI R.toSynced (by rfl) (by rfl) t).trans ?_⟩
    simp only [debtIn, R.spec.ty, R.ty0]
    exact debt_move (by rw [R.spec.prin]; omega)

/-- seizure: the total principal of the CDP's type falls by the CDP's debt (clamped at 0), the debt side by
    exactly that debt -/
theorem seize_drift {c : Cdp} {deps : List (Acct × Int)}
    (hlt : id < s.nextId) (ho : s.cdp id = some c) (h : seize E s id c deps = .ok s') :
    (∀ t, s'.tprin t = if t = c.ty then (if s.tprin c.ty - (c.prin + c.fees) < 0 then 0 else s.tprin c.ty - (c.prin + c.fees))
        else s.tprin t) ∧
    ∀ t, sumDebt s' t = sumDebt s t - (if c.ty = t then c.prin + c.fees else 0) := by
  obtain ⟨debt, s1, s2, s3, -, -, -, -, rfl⟩ := seize_ok h
  exact ⟨fun t => tprin_move .., sumDebt_remove hlt ho rfl rfl⟩

/-- one step of the bulk interest synchronisation: total principal untouched, the debt side grows by the
    interest booked on that CDP -/
theorem syncOne_drift {gf : Dec} {prev : Int}
    (hI : Inv E g s) (h : syncOne E s ty cp gf prev id = .ok s') :
    ∃ c, s.cdp id = some c ∧ c.ty = ty ∧ s'.tprin = s.tprin ∧
      ((s' = s) ∨ ∀ t, sumDebt s' t = sumDebt s t + (if t = ty then bulkInterest gf c else 0)) := by
  obtain ⟨c, ho, hty, rfl | ⟨c0, c1, rfl, rfl, rfl⟩⟩ := syncOne_ok h
  · exact ⟨c, ho, hty, rfl, .inl rfl⟩
  refine ⟨c, ho, hty, rfl, .inr fun t => ?_⟩
  refine (sumDebt_upd t (lt_nextId hI.coll ho) (by rfl) (by rfl)).trans ?_
  simp only [ho, debtIn, hty]
  exact debt_move (by omega)

theorem sumDebt_pointwise (ty : Nat) (hlt : id < s.nextId) (hn : s'.nextId = s.nextId)
    (hoth : ∀ j, j ≠ id → s'.cdp j = s.cdp j) :
    sumDebt s' ty = sumDebt s ty - debtIn ty (s.cdp id) + debtIn ty (s'.cdp id) := by
  refine sumDebt_upd ty hlt hn ?_
  funext j
  by_cases hj : j = id
  · subst hj; rw [upd_same]
  · rw [upd_other hj]; exact hoth j hj

/-- keeper liquidation: the total principal falls by the synchronised debt (clamped at 0); the CDP's recorded
    debt leaves the debt side -/
theorem liquidate_drift (hW : WF E) (hI : Inv E g s) (hk : (3 : Nat) ≤ keeper)
    (h : liquidate E now s keeper owner ty = .ok s') :
    ∃ id c0 s1 c1, findCdp s owner ty = some (id, c0) ∧ syncInterest E now s id c0 = .ok (s1, c1) ∧
      (∀ t, s'.tprin t = if t = ty then (if s.tprin ty - (c1.prin + c1.fees) < 0 then 0 else s.tprin ty - (c1.prin + c1.fees))
          else s.tprin t) ∧
      ∀ t, sumDebt s' t = sumDebt s t - (if t = ty then c0.prin + c0.fees else 0) := by
  obtain ⟨id, c0, s1, c1, cp, r, reward, s4, c2, deps, R, K⟩ := liquidate_seize hW hI hk h
  obtain ⟨debt, s1', s2, s3, -, -, -, -, rfl⟩ := seize_ok K.seize
  refine ⟨id, c0, s1, c1, R.find, R.sync, fun t => ?_, fun t => ?_⟩
  · dsimp only
    rw [tprin_move, K.ty, R.ty1, K.tprin, K.prin, K.fees]
  · refine (sumDebt_pointwise t (lt_nextId hI.coll R.stored) (by exact K.nextId)
      (fun j hj => by exact (upd_other hj).trans (K.other j hj))).trans ?_
    dsimp only
    rw [R.stored, upd_same]
    simp only [debtIn, R.ty0]
    by_cases ht : t = ty
    · subst ht; simp
    · simp [ht, Ne.symm ht]

end KV.Cdp
