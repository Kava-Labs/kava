/-
  Helper lemmas for C20 (schedule part): the SDK's periodic `GetVestedCoins` loop and the incentive
  module's `addCoinsToVestingSchedule`, by induction on the period list; the guard chain of
  `SendTimeLockedCoinsToAccount` in closed form.  Core Lean only.
-/
import KavaVerif.Model.Vesting
namespace KV.Vest

theorem allPos_totalLen_nonneg : ∀ ps : List Period, allPos ps → 0 ≤ totalLen ps
  | [], _ => Int.le_refl 0
  | p :: ps, h => by
    have := allPos_totalLen_nonneg ps h.2
    have := h.1
    simp only [totalLen]; omega

theorem totalLen_append (ps qs : List Period) : totalLen (ps ++ qs) = totalLen ps + totalLen qs := by
  induction ps with
  | nil => simp only [List.nil_append, totalLen, Int.zero_add]
  | cons p ps ih => simp only [List.cons_append, totalLen, ih, Int.add_assoc]

theorem totalAmt_append (ps qs : List Period) (d : Denom) :
    totalAmt (ps ++ qs) d = totalAmt ps d + totalAmt qs d := by
  induction ps with
  | nil => simp only [List.nil_append, totalAmt, Int.zero_add]
  | cons p ps ih => simp only [List.cons_append, totalAmt, ih, Int.add_assoc]

theorem allPos_append (ps qs : List Period) : allPos (ps ++ qs) ↔ allPos ps ∧ allPos qs := by
  induction ps with
  | nil => simp only [List.nil_append, allPos, true_and]
  | cons p ps ih => simp only [List.cons_append, allPos, ih, and_assoc]

theorem vestedFrom_before {cur : Int} {ps : List Period} {t : Int} (d : Denom)
    (hp : allPos ps) (ht : t ≤ cur) : vestedFrom cur ps t d = 0 := by
  cases ps with
  | nil => rfl
  | cons p ps =>
    have := hp.1
    simp only [vestedFrom]
    omega

/-- with positive lengths the early exit of the loop is immaterial: the later periods yield nothing anyway -/
theorem vestedFrom_cons (cur : Int) (p : Period) (ps : List Period) (t : Int) (d : Denom) (hp : allPos ps) :
    vestedFrom cur (p :: ps) t d =
      (if t - cur < p.length then 0 else p.amount d) + vestedFrom (cur + p.length) ps t d := by
  simp only [vestedFrom]
  split
  · rw [vestedFrom_before _ hp (by omega)]
    rfl
  · rfl

theorem vestedFrom_full : ∀ (ps : List Period) (cur t : Int) (d : Denom),
    allPos ps → cur + totalLen ps ≤ t → vestedFrom cur ps t d = totalAmt ps d := by
  intro ps cur t d hp ht
  fun_induction vestedFrom cur ps t with
  | case1 => rfl
  | case2 cur p ps t ih =>
    have h0 := allPos_totalLen_nonneg ps hp.2
    simp only [totalLen] at ht
    simp only [totalAmt, ih hp.2 (by omega)]
    omega

theorem vestedFrom_append (l : Int) (x : Coins) (hl : 0 ≤ l) : ∀ (ps : List Period) (cur t : Int) (d : Denom),
    allPos ps →
    vestedFrom cur (ps ++ [⟨l, x⟩]) t d =
      vestedFrom cur ps t d + (if t - (cur + totalLen ps) < l then 0 else x d) := by
  intro ps cur t d hp
  fun_induction vestedFrom cur ps t with
  | case1 =>
    simp only [List.nil_append, vestedFrom, totalLen]
    omega
  | case2 cur p ps t ih =>
    rw [List.cons_append, totalLen, ← Int.add_assoc]
    simp only [vestedFrom]
    rw [ih hp.2]
    split
    · -- the appended period has not ended while an earlier one is still running
      have h0 := allPos_totalLen_nonneg ps hp.2
      rw [if_pos (by omega)]
      rfl
    · exact (Int.add_assoc _ _ _).symm

theorem ins_allPos (target : Int) (amt : Coins) :
    ∀ (ps : List Period) (cnt : Int), allPos ps → cnt < target → allPos (ins cnt target amt ps) := by
  intro ps cnt hp h
  fun_induction ins cnt target amt ps with
  | case1 => trivial
  | case2 cnt p ps hlt ih => exact ⟨hp.1, ih hp.2 hlt⟩
  | case3 => exact hp
  | case4 cnt p ps =>
    exact ⟨by show 0 < target - cnt; omega, by show 0 < p.length - (target - cnt); omega, hp.2⟩

/-- `ins` adds `amt` exactly from `start + target` on and moves no other unlock time.
    (`cnt` = length consumed so far; the loop is only run when `target ≤ total length`.) -/
theorem ins_vested (start target : Int) (amt : Coins) (d : Denom) :
    ∀ (ps : List Period) (cnt : Int), allPos ps → cnt < target → target ≤ cnt + totalLen ps →
    ∀ t, vestedFrom (start + cnt) (ins cnt target amt ps) t d =
         vestedFrom (start + cnt) ps t d + (if t - start < target then 0 else amt d) := by
  intro ps cnt hp h1 h2 t
  fun_induction ins cnt target amt ps with
  | case1 => simp only [totalLen] at h2; omega
  | case2 cnt p ps hlt ih =>
    simp only [totalLen] at h2
    have ih := ih hp.2 hlt (by omega)
    rw [← Int.add_assoc] at ih
    rw [vestedFrom_cons _ p ps t d hp.2, vestedFrom_cons _ p _ t d (ins_allPos target amt ps _ hp.2 hlt), ih]
    exact (Int.add_assoc _ _ _).symm
  | case3 cnt p ps _ he =>
    -- the coins are added to the period that ends at `target`
    have hc : t - start < target ↔ t - (start + cnt) < p.length := by omega
    rw [vestedFrom_cons _ p ps t d hp.2, vestedFrom_cons _ _ ps t d hp.2]
    simp only [Coins.add, hc]
    split <;> omega
  | case4 cnt p ps =>
    -- the period that contains `target` is split in two there
    have hl := hp.1
    simp only [totalLen] at h2
    have e : start + cnt + (target - cnt) + (p.length - (target - cnt)) = start + cnt + p.length := by omega
    have hq : allPos (⟨p.length - (target - cnt), p.amount⟩ :: ps) :=
      ⟨by show 0 < p.length - (target - cnt); omega, hp.2⟩
    have c1 : t - (start + cnt) < target - cnt ↔ t - start < target := by omega
    have c2 : t - (start + cnt + (target - cnt)) < p.length - (target - cnt) ↔ t - (start + cnt) < p.length := by
      omega
    rw [vestedFrom_cons _ p ps t d hp.2, vestedFrom_cons _ _ _ t d hq, vestedFrom_cons _ _ ps t d hp.2, e]
    simp only [c1, c2]
    exact Int.add_comm _ _

theorem ins_totalLen (target : Int) (amt : Coins) :
    ∀ (ps : List Period) (cnt : Int), totalLen (ins cnt target amt ps) = totalLen ps := by
  intro ps cnt
  fun_induction ins cnt target amt ps with
  | case1 => rfl
  | case2 cnt p ps _ ih => simp only [totalLen, ih]
  | case3 => rfl
  | case4 => simp only [totalLen]; omega

theorem ins_totalAmt (target : Int) (amt : Coins) (d : Denom) :
    ∀ (ps : List Period) (cnt : Int), cnt < target → target ≤ cnt + totalLen ps →
      totalAmt (ins cnt target amt ps) d = totalAmt ps d + amt d := by
  intro ps cnt h1 h2
  fun_induction ins cnt target amt ps with
  | case1 => simp only [totalLen] at h2; omega
  | case2 cnt p ps hlt ih =>
    simp only [totalLen] at h2
    simp only [totalAmt, ih hlt (by omega), Int.add_assoc]
  | case3 => exact Int.add_right_comm _ _ _
  | case4 => exact Int.add_comm _ _

theorem bumpFirst_totalLen (k : Int) (ps : List Period) (hne : ps ≠ []) :
    totalLen (bumpFirst k ps) = totalLen ps + k := by
  cases ps with
  | nil => exact absurd rfl hne
  | cons p ps => simp only [bumpFirst, totalLen]; omega

theorem bumpFirst_totalAmt (k : Int) (ps : List Period) (d : Denom) :
    totalAmt (bumpFirst k ps) d = totalAmt ps d := by
  cases ps <;> rfl

theorem bumpFirst_allPos (k : Int) (ps : List Period) (hk : 0 ≤ k) (hp : allPos ps) :
    allPos (bumpFirst k ps) := by
  cases ps with
  | nil => trivial
  | cons p ps =>
    have := hp.1
    exact ⟨by show 0 < k + p.length; omega, hp.2⟩

theorem bumpFirst_vested (now S : Int) (ps : List Period) (t : Int) (d : Denom) :
    vestedFrom now (bumpFirst (S - now) ps) t d = vestedFrom S ps t d := by
  cases ps with
  | nil => rfl
  | cons p ps =>
    have e : now + (S - now + p.length) = S + p.length := by omega
    have hc : t - now < S - now + p.length ↔ t - S < p.length := by omega
    simp only [bumpFirst, vestedFrom, e, hc]

theorem WF.ne_nil {a : PVA} (h : WF a) : a.periods ≠ [] := by
  intro e
  have := h.lenSum
  have := h.startLtEnd
  simp only [e, totalLen] at *
  omega

/-- the SDK's two guards (nothing at or before the start, everything from the end on) are implied by the loop:
    a well-formed account's vested coins are what the loop over its periods yields, at every time -/
theorem vested_eq {a : PVA} (h : WF a) (t : Int) (d : Denom) :
    vested a t d = vestedFrom a.start a.periods t d := by
  unfold vested
  split
  · exact (vestedFrom_before _ h.pos ‹_›).symm
  · split
    · rw [vestedFrom_full _ _ _ _ h.pos (by have := h.lenSum; omega), h.amtSum]
    · rfl

/-- "edge case two" as an account transformation -/
def normStart (now : Int) (a : PVA) : PVA :=
  if a.start > now then { a with start := now, periods := bumpFirst (a.start - now) a.periods } else a

theorem normStart_WF (now : Int) (a : PVA) (h : WF a) : WF (normStart now a) := by
  unfold normStart
  split
  · have := h.startLtEnd
    have := h.lenSum
    exact ⟨by show now < a.endT; omega, bumpFirst_allPos _ _ (by omega) h.pos,
      by show totalLen (bumpFirst _ _) = a.endT - now; rw [bumpFirst_totalLen _ _ h.ne_nil]; omega,
      fun d => (bumpFirst_totalAmt _ _ d).trans (h.amtSum d)⟩
  · exact h

theorem normStart_start_le (now : Int) (a : PVA) : (normStart now a).start ≤ now := by
  unfold normStart
  split
  · exact Int.le_refl now
  · omega

theorem normStart_vested (now : Int) (a : PVA) (t : Int) (d : Denom) :
    vestedFrom (normStart now a).start (normStart now a).periods t d = vestedFrom a.start a.periods t d := by
  unfold normStart
  split
  · exact bumpFirst_vested now a.start a.periods t d
  · rfl

/-- `addCoinsToVestingSchedule` on an account that has started: the claimed coins become a new last period when
    the lock-up outlasts the schedule, and are inserted at `now + length` otherwise -/
def merge (now : Int) (b : PVA) (amt : Coins) (length : Int) : PVA :=
  if b.endT - now < length then
    { b with ov := Coins.add b.ov amt, periods := b.periods ++ [⟨length - (b.endT - now), amt⟩],
             endT := now + length }
  else { b with ov := Coins.add b.ov amt, periods := ins 0 (now - b.start + length) amt b.periods }

/-- a finished schedule ("edge case one") is the append case of the merge -/
theorem addCoins_eq (now : Int) (a : PVA) (amt : Coins) (length : Int) (h : a.start < a.endT) (hl : 0 < length) :
    addCoins now a amt length = merge now (normStart now a) amt length := by
  unfold addCoins merge normStart
  by_cases hp : a.endT < now
  · have h1 : ¬ a.start > now := by omega
    have h2 : a.endT - now < length := by omega
    have e : now - a.endT + length = length - (a.endT - now) := by omega
    simp only [hp, h1, h2, e, ite_true, ite_false]
  · by_cases hs : a.start > now <;> simp only [hp, hs, ite_true, ite_false]

theorem merge_WF (now : Int) (b : PVA) (amt : Coins) (length : Int) (hb : WF b) (hs : b.start ≤ now)
    (hl : 0 < length) : WF (merge now b amt length) := by
  have h1 := hb.startLtEnd
  have h3 := hb.lenSum
  unfold merge
  split
  · exact ⟨by show b.start < now + length; omega,
      (allPos_append _ _).2 ⟨hb.pos, by show 0 < length - (b.endT - now); omega, trivial⟩,
      by show totalLen (b.periods ++ _) = now + length - b.start
         rw [totalLen_append, h3]; simp only [totalLen]; omega,
      fun d => by
        show totalAmt (b.periods ++ _) d = b.ov d + amt d
        rw [totalAmt_append, hb.amtSum d]; simp only [totalAmt]; omega⟩
  · exact ⟨h1, ins_allPos _ _ _ _ hb.pos (by omega), (ins_totalLen _ _ _ _).trans h3,
      fun d => by
        show totalAmt (ins 0 _ amt b.periods) d = b.ov d + amt d
        rw [ins_totalAmt _ _ _ _ _ (by omega) (by omega), hb.amtSum d]⟩

theorem merge_vested (now : Int) (b : PVA) (amt : Coins) (length : Int) (hb : WF b) (hs : b.start ≤ now)
    (hl : 0 < length) (t : Int) (d : Denom) :
    vestedFrom (merge now b amt length).start (merge now b amt length).periods t d =
      vestedFrom b.start b.periods t d + (if t < now + length then 0 else amt d) := by
  have h1 := hb.startLtEnd
  have h3 := hb.lenSum
  unfold merge
  split
  · have hc : t - (b.start + totalLen b.periods) < length - (b.endT - now) ↔ t < now + length := by omega
    show vestedFrom b.start (b.periods ++ _) t d = _
    rw [vestedFrom_append _ _ (by omega) _ _ _ _ hb.pos]
    simp only [hc]
  · have hc : t - b.start < now - b.start + length ↔ t < now + length := by omega
    have e := ins_vested b.start (now - b.start + length) amt d b.periods 0 hb.pos (by omega) (by omega) t
    rw [Int.add_zero] at e
    show vestedFrom b.start (ins 0 _ amt b.periods) t d = _
    rw [e]
    simp only [hc]

theorem addCoins_WF (now : Int) (a : PVA) (amt : Coins) (length : Int) (h : WF a) (hl : 0 < length) :
    WF (addCoins now a amt length) := by
  rw [addCoins_eq now a amt length h.startLtEnd hl]
  exact merge_WF now _ amt length (normStart_WF now a h) (normStart_start_le now a) hl

theorem addCoins_ov (now : Int) (a : PVA) (amt : Coins) (length : Int) :
    (addCoins now a amt length).ov = Coins.add a.ov amt := by
  unfold addCoins
  simp only [apply_ite PVA.ov, ite_self]

theorem addCoins_dv (now : Int) (a : PVA) (amt : Coins) (length : Int) :
    (addCoins now a amt length).dv = a.dv := by
  unfold addCoins
  simp only [apply_ite PVA.dv, ite_self]

theorem addCoins_vested (now : Int) (a : PVA) (amt : Coins) (length : Int) (h : WF a) (hl : 0 < length)
    (t : Int) (d : Denom) :
    vested (addCoins now a amt length) t d =
      vested a t d + (if t < now + length then 0 else amt d) := by
  rw [vested_eq (addCoins_WF now a amt length h hl), vested_eq h, addCoins_eq now a amt length h.startLtEnd hl,
    merge_vested now _ amt length (normStart_WF now a h) (normStart_start_le now a) hl, normStart_vested]

theorem addCoins_vesting (now : Int) (a : PVA) (amt : Coins) (length : Int) (h : WF a) (hl : 0 < length)
    (t : Int) (d : Denom) :
    vesting (addCoins now a amt length) t d =
      vesting a t d + (if t < now + length then amt d else 0) := by
  unfold vesting
  rw [addCoins_vested now a amt length h hl t d, addCoins_ov]
  simp only [Coins.add]
  omega

theorem applyClaims_WF : ∀ (cs : List Claim) (a : PVA), WF a → (∀ c ∈ cs, 0 < c.length) → WF (applyClaims a cs)
  | [], _, h, _ => h
  | c :: cs, a, h, hc =>
    applyClaims_WF cs _ (addCoins_WF c.now a c.amt c.length h (hc c List.mem_cons_self))
      (fun c' hm => hc c' (List.mem_cons_of_mem _ hm))

theorem applyClaims_vesting : ∀ (cs : List Claim) (a : PVA), WF a → (∀ c ∈ cs, 0 < c.length) →
    ∀ (t : Int) (d : Denom), vesting (applyClaims a cs) t d = vesting a t d + stillLocked t cs d
  | [], a, _, _, t, d => (Int.add_zero _).symm
  | c :: cs, a, h, hc, t, d => by
    have hl := hc c List.mem_cons_self
    simp only [applyClaims, stillLocked]
    rw [applyClaims_vesting cs _ (addCoins_WF c.now a c.amt c.length h hl)
          (fun c' hm => hc c' (List.mem_cons_of_mem _ hm)) t d,
        addCoins_vesting c.now a c.amt c.length h hl t d, Int.add_assoc]

theorem applyClaims_ov : ∀ (cs : List Claim) (a : PVA) (d : Denom),
    (applyClaims a cs).ov d = a.ov d + (cs.map (fun c => c.amt d)).sum
  | [], a, d => (Int.add_zero _).symm
  | c :: cs, a, d => by
    simp only [applyClaims, List.map_cons, List.sum_cons]
    rw [applyClaims_ov cs _ d, addCoins_ov, Coins.add, Int.add_assoc]

theorem locked_eq (a : PVA) (t : Int) (d : Denom) :
    locked a t d = if vesting a t d ≤ a.dv d then 0 else vesting a t d - a.dv d := by
  unfold locked Coins.min
  omega

/-- `LockedCoins` follows the vesting coins, except that the delegated-vesting allowance absorbs what it can of an
    increase: exactly as much is locked in addition only when that allowance was used up before -/
theorem locked_add {a b : PVA} {t : Int} {d : Denom} {x : Int} (hv : vesting b t d = vesting a t d + x)
    (hd : b.dv = a.dv) (hx : 0 ≤ x) :
    locked a t d ≤ locked b t d ∧ locked b t d ≤ locked a t d + x ∧
      (a.dv d ≤ vesting a t d → locked b t d = locked a t d + x) := by
  rw [locked_eq, locked_eq, hv, hd]
  omega

theorem spendable_noNeg (bal lockedC : Coins) (h : ∀ e, lockedC e ≤ bal e) (d : Denom) :
    spendable bal lockedC d = bal d - lockedC d := by
  unfold spendable
  have hf : (List.range ND).any (fun e => decide (bal e < lockedC e)) = false := by
    rw [List.any_eq_false]
    intro e _
    simp only [decide_eq_true_eq]
    exact Int.not_lt.2 (h e)
  simp only [hf, Bool.false_eq_true, ite_false]

theorem newPVA_WF (now : Int) (amt : Coins) (length : Int) (hl : 0 < length) : WF (newPVA now amt length) :=
  ⟨by show now < now + length; omega, ⟨hl, trivial⟩,
    by show length + 0 = now + length - now; omega, fun d => Int.add_zero _⟩

theorem newPVA_vesting (now : Int) (amt : Coins) (length : Int) (hl : 0 < length) (t : Int) (d : Denom) :
    vesting (newPVA now amt length) t d = if t < now + length then amt d else 0 := by
  unfold vesting
  rw [vested_eq (newPVA_WF now amt length hl)]
  simp only [newPVA, vestedFrom]
  omega

theorem newPVA_locked (now : Int) (amt : Coins) (length : Int) (hl : 0 < length) (t : Int) (d : Denom)
    (hamt : 0 ≤ amt d) :
    locked (newPVA now amt length) t d = if t < now + length then amt d else 0 := by
  rw [locked_eq, newPVA_vesting now amt length hl t d]
  show (if _ ≤ (0:Int) then _ else _ - (0:Int)) = _
  omega

theorem lockable_iff (k : Acct) : k.lockable = true ↔ k = .base ∨ ∃ a, k = .periodic a := by
  cases k <;> simp [Acct.lockable]

/-- the payout goes through: the module account covers `amt` in every denom, the recipient is not on the bank's
    blocked list, and it exists (no lock-up) resp. is a base or periodic vesting account (lock-up) -/
def accepts (w : World) (amt : Coins) (length : Int) : Bool :=
  isAllGTE w.modBal amt && !w.blocked && (if length = 0 then !w.acct.isNone else w.acct.lockable)

/-- the world after a payout that went through -/
def paid (now : Int) (w : World) (amt : Coins) (length : Int) : World :=
  { w with modBal := Coins.sub w.modBal amt, bal := Coins.add w.bal amt,
           acct := if length = 0 then w.acct else w.acct.after now amt length }

theorem sendTimeLocked_eq (now : Int) (w : World) (amt : Coins) (length : Int) :
    sendTimeLocked now w amt length = if accepts w amt length then .ok (paid now w amt length) else .err := by
  obtain ⟨mb, b, k, bl⟩ := w
  unfold sendTimeLocked bankSend accepts paid
  simp only []
  cases isAllGTE mb amt
  · rfl
  · by_cases h0 : length = 0
    · subst h0
      cases k.isNone <;> cases bl <;> rfl
    · simp only [h0, ite_false]
      cases bl <;> cases k <;> rfl

theorem sendTimeLocked_nolock_ok (now : Int) (w : World) (amt : Coins)
    (hs : isAllGTE w.modBal amt = true) (hb : w.blocked = false) (hn : w.acct.isNone = false) :
    sendTimeLocked now w amt 0 =
      .ok { w with modBal := Coins.sub w.modBal amt, bal := Coins.add w.bal amt } := by
  simp only [sendTimeLocked_eq, accepts, paid, hs, hb, hn, ite_true, Bool.not_false, Bool.and_self]

theorem isAllGTE_iff (a b : Coins) : isAllGTE a b = true ↔ ∀ d, d < ND → b d ≤ a d := by
  unfold isAllGTE
  simp only [List.all_eq_true, List.mem_range, decide_eq_true_eq]

theorem isAllGTE_false_of_lt (a b : Coins) (d : Denom) (hd : d < ND) (h : a d < b d) :
    isAllGTE a b = false :=
  Bool.eq_false_iff.2 fun hs => Int.not_lt.2 ((isAllGTE_iff a b).1 hs d hd) h

theorem subUnlockedFrom_ok (amt : Coins) : ∀ (n : Nat) (d : Nat) (bal : Coins),
    (∀ e, d ≤ e → e < d + n → amt e ≤ bal e) →
    subUnlockedFrom amt d n bal = (fun e => if d ≤ e ∧ e < d + n then bal e - amt e else bal e, true)
  | 0, d, bal, _ => by
    simp only [subUnlockedFrom, Nat.add_zero, Prod.mk.injEq, and_true]
    funext e
    rw [if_neg (by omega)]
  | n + 1, d, bal, h => by
    have hd := h d (Nat.le_refl d) (by omega)
    rw [subUnlockedFrom, if_neg (by omega), subUnlockedFrom_ok amt n (d + 1)]
    · simp only [Prod.mk.injEq, and_true]
      funext e
      simp only [Coins.set]
      by_cases h1 : e = d
      · subst h1
        rw [if_neg (by omega), if_pos rfl, if_pos (by omega)]
      · have hc : d + 1 ≤ e ∧ e < d + 1 + n ↔ d ≤ e ∧ e < d + (n + 1) := by omega
        simp only [h1, hc, ite_false]
    · intro e he1 he2
      simp only [Coins.set]
      rw [if_neg (Nat.ne_of_gt he1)]
      exact h e (by omega) (by omega)

/-- behind the guard over all denoms the bank can only refuse a blocked recipient, before touching anything -/
theorem bankSendK_guarded (w : World) (amt : Coins) (hs : isAllGTE w.modBal amt = true) :
    bankSendK w amt =
      if w.blocked then (w, false)
      else ({ w with modBal := fun e => if e < ND then w.modBal e - amt e else w.modBal e,
                     bal := Coins.add w.bal amt }, true) := by
  unfold bankSendK
  rw [subUnlockedFrom_ok amt ND 0 w.modBal (fun e _ he => (isAllGTE_iff w.modBal amt).1 hs e (by omega))]
  simp only [Nat.zero_le, true_and, Nat.zero_add, ite_true]

/-- the chain of guards as the keeper's own context sees it: a refusal has touched nothing -/
theorem sendTimeLockedK_eq (now : Int) (w : World) (amt : Coins) (length : Int) :
    sendTimeLockedK now w amt length =
      if accepts w amt length then
        ({ paid now w amt length with modBal := fun e => if e < ND then w.modBal e - amt e else w.modBal e }, true)
      else (w, false) := by
  cases hs : isAllGTE w.modBal amt
  · simp only [sendTimeLockedK, accepts, hs, Bool.not_false, ite_true, Bool.false_and, Bool.false_eq_true, ite_false]
  · have hb := bankSendK_guarded w amt hs
    obtain ⟨mb, b, k, bl⟩ := w
    unfold sendTimeLockedK accepts paid
    simp only [hs, hb]
    by_cases h0 : length = 0
    · subst h0
      cases k.isNone <;> cases bl <;> rfl
    · simp only [h0, ite_false]
      cases bl <;> cases k <;> rfl

end KV.Vest
