/-
  C04/C05: closing repay returns the deposits, the block liquidator takes the lowest index entries first
  and only seizes below the ratio, the capped debt shares never run short, interest accrual rounding.
  Core Lean only.
-/
import KavaVerif.Proofs.CdpBlock

namespace KV.Cdp
open KV

variable {E : Env} {g now pay : Int} {s s' : St} {owner : Acct} {ty id : Nat} {pd : Denom} {cp : CollParam} {c0 : Cdp}

theorem recv_id_filter (dep : Acct → Int) (x : Acct) : ∀ (l : List Acct), l.Nodup →
    recv (fun a => a) x ((l.filter (fun a => dep a ≠ 0)).map (fun a => (a, dep a))) = if x ∈ l then dep x else 0 := by
  intro l
  induction l with
  | nil => intro _; simp [recv]
  | cons a r ih =>
    intro hn
    rw [List.nodup_cons] at hn
    simp only [List.filter_cons]
    by_cases hz : dep a = 0
    · simp only [hz, ne_eq, not_true_eq_false, decide_false, Bool.false_eq_true, ite_false]
      rw [ih hn.2]
      by_cases hx : x = a
      · subst hx; simp [hn.1, hz]
      · simp [hx]
    · simp only [hz, ne_eq, not_false_eq_true, decide_true, ite_true, List.map_cons, recv]
      rw [ih hn.2]
      by_cases hx : x = a
      · subst hx; simp [hn.1]
      · have : ¬ a = x := fun e => hx e.symm
        simp [hx, this]

theorem recv_id_depositsOf (E : Env) (s : St) (id : Nat) (x : Acct) (hn : E.accts.Nodup) :
    recv (fun a => a) x (depositsOf E s id) = if x ∈ E.accts then s.dep id x else 0 := by
  unfold depositsOf
  exact recv_id_filter (s.dep id) x E.accts hn

/-- a repay that closes the CDP pays every depositor exactly its recorded deposit -/
theorem repay_close_balances
    (hW : WF E) (hcp : E.P.colls[ty]? = some cp) (hf : findCdp s owner ty = some (id, c0))
    (h : repay E now s owner ty pay pd = .ok s') (hgone : s'.cdp id = none) :
    ∀ a, a ∈ E.accts → s'.bal a cp.denom = s.bal a cp.denom + s.dep id a := by
  obtain ⟨id', c0', s1, c1, fp, pp, s2, s3, s4, s5, R, rfl, hend⟩ := repay_ok h
  cases hf.symm.trans R.find
  have S := R.spec
  obtain ⟨F, hbal, -⟩ := repay_bank_spec R.collect R.burn R.burnDebt
  rcases hend with ⟨-, -, s6, hret, rfl⟩ | ⟨-, rfl⟩
  · unfold returnCollateral at hret
    rw [R.ty1, denomOf_eq hcp] at hret
    obtain ⟨-, e15⟩ := (sendDeps_spec hret).bal (depositsOf_ne_mcdp hW s1 id)
    intro a ha
    have hne : a ≠ MCDP := fun e => absurd (hW.users a ha) (by rw [e]; decide)
    show s6.bal a cp.denom = _
    rw [e15 a hne, recv_id_depositsOf _ _ _ _ hW.nodup, if_pos ha]
    dsimp only
    rw [hbal a cp.denom (hW.denoms ty cp hcp), S.bal, S.dep]
  · dsimp only at hgone
    rw [upd_same] at hgone; cases hgone

theorem take_lowest (l : List Entry) (hs : Sorted l) (n : Nat) :
    ∀ a, a ∈ l.take n → ∀ b, b ∈ l → b ∉ l.take n → eLt a b = true := by
  intro a ha b hb hnb
  have hsplit : l = l.take n ++ l.drop n := (List.take_append_drop n l).symm
  unfold Sorted at hs
  rw [hsplit, List.pairwise_append] at hs
  have hbd : b ∈ l.drop n := by
    rw [hsplit] at hb
    rcases List.mem_append.1 hb with h | h
    · exact absurd h hnb
    · exact h
  exact hs.2.2 a ha b hbd

theorem sorted_below (idx : List Entry) (ty : Nat) (K : Int) (h : Sorted idx) : Sorted (below idx ty K) :=
  List.Pairwise.filter _ h

/-- the block liquidator walks exactly the first `count` index entries of the type below the normalised
    ratio: each of them is gone afterwards unless the value-ratio re-check skipped it (then it is untouched),
    and every entry below the bound that was not taken comes later in the index -/
theorem liquidateBlock_complete {price : Dec}
    (hW : WF E) (hI : Inv E g s) (h : liquidateBlock E s ty cp price = .ok s') :
    let K := sortKey (normRatio price cp.liqRatio)
    let sel := takeCount cp.checkCount (below s.idx ty K)
    (∀ e, e ∈ sel → ∃ c, s.cdp e.2.2 = some c ∧
        (if blockSkips E c price cp.liqRatio = true then s'.cdp e.2.2 = some c else s'.cdp e.2.2 = none)) ∧
    (∀ e, e ∈ sel → ∀ e', e' ∈ below s.idx ty K → e' ∉ sel → eLt e e' = true) ∧
    sel.length = min (if cp.checkCount ≤ 1 then 1 else cp.checkCount.toNat) (below s.idx ty K).length := by
  intro K sel
  obtain ⟨cdps, hmap, hst, -, hgone, -⟩ := liquidateBlock_spec hW hI h
  refine ⟨fun e he => ?_, fun e he e' he' hne' => take_lowest _ (sorted_below _ _ _ hI.idx.2.2) _ e he e' he' hne',
    List.length_take⟩
  have : e.2.2 ∈ cdps.map Prod.fst := hmap ▸ List.mem_map.2 ⟨e, he, rfl⟩
  obtain ⟨⟨j, c⟩, hm, ej⟩ := List.mem_map.1 this
  exact ej ▸ ⟨c, hst j c hm, hgone j c hm⟩

/-- function level: a CDP that passes the re-check of `LiquidateCdps` has `CalculateCollateralizationRatio < L`
    at the liquidation price -/
theorem blockSkips_sound (E : Env) (c : Cdp) (price L : Dec) (hL : 0 < L.m)
    (h : blockSkips E c price L = false) (r : Dec)
    (hr : collRatio c.coll (cfOf E c.ty) c.prin c.fees E.P.debtCf price = some r) : r.m < L.m := by
  unfold collRatio at hr
  split at hr
  · cases hr; exact hL
  · dsimp only at hr
    split at hr
    · cases hr
    · rename_i hc0 htot
      cases hr
      rw [add_baseUnits] at htot ⊢
      unfold blockSkips at h
      dsimp only at h
      simp only [htot, ite_false, decide_eq_false_iff_not] at h
      omega

/-- state level: whatever `LiquidateCdps` removes had passed the re-check -/
theorem liquidateBlock_sound {price : Dec}
    (hW : WF E) (hI : Inv E g s) (h : liquidateBlock E s ty cp price = .ok s')
    (id : Nat) (c : Cdp) (ho : s.cdp id = some c) (hgone : s'.cdp id = none) :
    blockSkips E c price cp.liqRatio = false := by
  obtain ⟨cdps, -, hst, -, hg, hoth⟩ := liquidateBlock_spec hW hI h
  by_cases hm : id ∈ cdps.map Prod.fst
  · obtain ⟨⟨j, c'⟩, hm', rfl⟩ := List.mem_map.1 hm
    have := hst j c' hm'
    rw [ho] at this; cases this
    have hh := hg j c hm'
    cases hsk : blockSkips E c price cp.liqRatio
    · rfl
    · rw [hsk, if_pos rfl, hgone] at hh; cases hh
  · rw [hoth id hm, ho] at hgone; cases hgone

theorem debtCovered_nonneg (v total debt : Int) (hv : 0 ≤ v) (ht : 0 < total) (hd : 0 ≤ debt) :
    0 ≤ debtCovered v total debt := by
  unfold debtCovered
  have hq : 0 ≤ (Dec.quo (Dec.ofInt v) (Dec.ofInt total)).m := by
    obtain ⟨T, -, -, -, -, -, h⟩ := quo_spec (Dec.ofInt v) (Dec.ofInt total)
      (by simp only [Dec.ofInt]; exact Int.mul_nonneg hv (by decide))
      (by simp only [Dec.ofInt]; exact Int.mul_pos ht P_pos)
    exact h
  have hm : 0 ≤ (Dec.quo (Dec.ofInt v) (Dec.ofInt total)).m * (Dec.ofInt debt).m :=
    Int.mul_nonneg hq (by simp only [Dec.ofInt]; exact Int.mul_nonneg hd (by decide))
  obtain ⟨-, -, hnn⟩ := mul_spec _ _ hm
  exact chopRound_nonneg _ hnn

theorem sendB_ok {f t : Acct} {d : Denom} {a : Int} (h : a ≤ s.bal f d) : ∃ s', sendB s f t d a = some s' := by
  unfold sendB
  split
  · exact ⟨s, rfl⟩
  · split
    · omega
    · exact ⟨_, rfl⟩

theorem sumDeps_nonneg : ∀ (l : List (Acct × Int)), (∀ a v, (a, v) ∈ l → 0 < v) → 0 ≤ sumDeps l := by
  intro l
  induction l with
  | nil => intro _; simp [sumDeps]
  | cons hd tl ih =>
    obtain ⟨a, v⟩ := hd
    intro h
    have h1 := h a v (by simp)
    have h2 := ih (fun a' v' hm => h a' v' (List.mem_cons_of_mem _ hm))
    simp only [sumDeps]; omega

/-- with the capped shares `AuctionCollateral` can no longer run out of debt coins: if the liquidator account
    holds the deposits' collateral and at least the debt to distribute, every send succeeds -/
theorem auctionDeps_ok (cd : Denom) (total debt : Int) (hcd : cd ≠ DEBT) (ht : 0 < total) (hd : 0 ≤ debt) :
    ∀ (l : List (Acct × Int)) (remaining : Int) (s : St), (∀ a v, (a, v) ∈ l → 0 < v) →
      0 ≤ remaining → remaining ≤ s.bal MLIQ DEBT → sumDeps l ≤ s.bal MLIQ cd →
      ∃ s', auctionDeps s cd total debt remaining l = .ok s' := by
  intro l
  induction l with
  | nil => intro remaining s _ _ _ _; exact ⟨s, rfl⟩
  | cons hd' tl ih =>
    obtain ⟨a, v⟩ := hd'
    intro remaining s hpos hr0 hr1 hc
    have hv : 0 < v := hpos a v (by simp)
    have htl : ∀ a' v', (a', v') ∈ tl → 0 < v' := fun a' v' hm => hpos a' v' (List.mem_cons_of_mem _ hm)
    have hs := sumDeps_nonneg tl htl
    simp only [sumDeps] at hc
    simp only [auctionDeps]
    have h0 : ¬ total = 0 := by omega
    have h1 : ¬ v = 0 := by omega
    simp only [h0, h1, ite_false]
    obtain ⟨s1, e1⟩ := sendB_ok (s := s) (f := MLIQ) (t := MAUC) (d := cd) (a := v) (by omega)
    rw [e1]
    dsimp only
    obtain ⟨-, hb1, -⟩ := sendB_spec e1
    have hsh := debtCovered_nonneg v total debt (by omega) ht hd
    have hle := cappedShare_le (debtCovered v total debt) remaining tl.isEmpty
    have hge := cappedShare_nonneg (debtCovered v total debt) remaining tl.isEmpty hsh hr0
    have hcd' : ¬ (DEBT = cd) := fun e => hcd e.symm
    have hb1d : s1.bal MLIQ DEBT = s.bal MLIQ DEBT := by
      rw [hb1]; simp [MLIQ, MAUC, hcd']
    obtain ⟨s2, e2⟩ := sendB_ok (s := s1) (f := MLIQ) (t := MAUC) (d := DEBT)
      (a := cappedShare (debtCovered v total debt) remaining tl.isEmpty) (by omega)
    rw [e2]
    dsimp only
    obtain ⟨-, hb2, -⟩ := sendB_spec e2
    refine ih _ s2 htl (by omega) ?_ ?_
    · rw [hb2, hb1d]; simp [MLIQ, MAUC] at hr1 ⊢; omega
    · rw [hb2, hb1]; simp [MLIQ, MAUC, hcd] at hc ⊢; omega

theorem accumulate_tprin {f : Dec}
    (hf : P ≤ f.m) (h : accumulate now s ty cp f = .ok s') :
    s'.cdp = s.cdp ∧ s.tprin ty ≤ s'.tprin ty ∧
    (s'.tprin ty = s.tprin ty ∨
      (2 * (s'.tprin ty * P - f.m * s.tprin ty) ≤ P ∧ 2 * (f.m * s.tprin ty - s'.tprin ty * P) ≤ P)) ∧
    (∀ t, t ≠ ty → s'.tprin t = s.tprin t) := by
  rcases accumulate_ok h with e | ⟨prior, acc, s2, hT, -, hacc, -, rfl, rfl⟩
  · rw [e]; exact ⟨rfl, Int.le_refl _, Or.inl rfl, fun _ _ => rfl⟩
  have hTpos : 0 ≤ s.tprin ty := by omega
  have e1 : Dec.roundInt (Dec.mul f (Dec.ofInt (s.tprin ty))) = chopRound (f.m * s.tprin ty) := by
    simp only [Dec.roundInt, Dec.mul, Dec.ofInt]
    rw [← Int.mul_assoc, chopRound_mul_P]
  have hb := chopRound_nonneg_bound (f.m * s.tprin ty) (Int.mul_nonneg (by have := P_pos; omega) hTpos)
  have hge : s.tprin ty ≤ chopRound (s.tprin ty * f.m) := chopRound_mul_ge_of_one_le _ _ hTpos hf
  rw [Int.mul_comm] at hge
  have F := (mintB_frame s MCDP DEBT acc).trans (mintB_frame (mintB s MCDP DEBT acc) MLIQ USDX acc)
  rw [e1] at hacc
  refine ⟨F.cdp, ?_, Or.inr ?_, fun t ht => ?_⟩
  · dsimp only; rw [upd_same, F.tprin]; omega
  · dsimp only; rw [upd_same, F.tprin, show s.tprin ty + acc = chopRound (f.m * s.tprin ty) by omega]
    exact hb
  · dsimp only; rw [upd_other ht, F.tprin]

end KV.Cdp
