/-
  Source tie ("tie 1b") for x/committee/types/committee.go: the Lean definitions REGENERATED from the Go source on every run
  (Generated/FnCommittee.lean, tools/extract/fn*.go) equal the hand-written model functions the C17 theorems are
  about.  An edit of a Go function changes the generated definition and its equality proof stops checking.
-/
import KavaVerif.Generated.FnCommittee
import KavaVerif.Model.Committee
import KavaVerif.Proofs.TieFnBase

namespace KV.TieFn
open KV KV.Go

/-- `Proposal.HasExpiredBy(now)` = `now ≥ deadline`, the test the model's `vote` and `closeProposal` paths write inline -/
theorem committee_HasExpiredBy (id cid deadline now : Int) :
    GoFn.Committee.HasExpiredBy_translated = true ∧
    GoFn.Committee.HasExpiredBy ⟨id, cid, deadline⟩ now = R.ok (decide (now ≥ deadline)) := by
  refine ⟨rfl, ?_⟩
  simp only [GoFn.Committee.HasExpiredBy, ge_iff_le, ← Int.not_lt, decide_not]
  rfl

end KV.TieFn
