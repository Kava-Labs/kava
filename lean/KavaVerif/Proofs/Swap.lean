/-
  Helper lemmas for C07 (x/swap): integer square root, the Dec compositions used by the swap fee,
  the constant-product and share-ratio inequalities of BasePool (`SwapSpec`, `AddSpec`, `RemSpec`: what a
  successful swap / deposit / withdrawal guarantees), symmetry under exchanging the tokens, and the slippage
  checks in exact terms.  Property statements are in KavaVerif/Props/C07.lean.  Core Lean only.
-/
import KavaVerif.Model.Swap
set_option linter.unusedVariables false
namespace KV.SW

theorem P_val : P = 1000000000000000000 := by decide

/-- One guard of a chain `if c then e else k`: a result other than `e` means the guard passed.  Applied by
    unification, so the rest of the chain `k` is not traversed (`split` re-simplifies all of it). -/
theorem of_ite {α : Type} {c : Prop} [Decidable c] {e k r : α} (h : (if c then e else k) = r)
    (he : e ≠ r := by nofun) : ¬ c ∧ k = r := by
  by_cases hc : c
  · rw [if_pos hc] at h; exact absurd h he
  · rw [if_neg hc] at h; exact ⟨hc, h⟩

theorem isqrtAux_spec (fuel n : Nat) (h : n ≤ fuel) :
    isqrtAux fuel n * isqrtAux fuel n ≤ n ∧ n < (isqrtAux fuel n + 1) * (isqrtAux fuel n + 1) := by
  fun_induction isqrtAux fuel n with
  | case1 n =>
    have : n = 0 := by omega
    subst this; decide
  | case2 k n h2 =>
    have : n = 0 ∨ n = 1 := by omega
    rcases this with rfl | rfl <;> decide
  | case3 k n h2 r h3 ih =>
    obtain ⟨i1, i2⟩ := ih (by omega)
    refine ⟨h3, ?_⟩
    dsimp only [r]
    generalize isqrtAux k (n / 4) = s at *
    rw [show (2 * s + 1 + 1) * (2 * s + 1 + 1) = 4 * ((s + 1) * (s + 1)) from Nat.mul_mul_mul_comm 2 (s + 1) 2 (s + 1)]
    omega
  | case4 k n h2 r h3 ih =>
    obtain ⟨i1, i2⟩ := ih (by omega)
    dsimp only [r] at h3 ⊢
    generalize isqrtAux k (n / 4) = s at *
    refine ⟨?_, by omega⟩
    rw [show (2 * s) * (2 * s) = 4 * (s * s) from Nat.mul_mul_mul_comm 2 s 2 s]
    omega

theorem isqrt_spec (n : Nat) : isqrt n * isqrt n ≤ n ∧ n < (isqrt n + 1) * (isqrt n + 1) :=
  isqrtAux_spec n n (Nat.le_refl n)

theorem initialShares_nonneg (a b : Int) : 0 ≤ initialShares a b := by
  unfold initialShares; exact Int.natCast_nonneg _

theorem initialShares_spec {a b : Int} (h : 0 ≤ a * b) :
    initialShares a b * initialShares a b ≤ a * b ∧ a * b < (initialShares a b + 1) * (initialShares a b + 1) := by
  unfold initialShares
  obtain ⟨h1, h2⟩ := isqrt_spec (a * b).toNat
  have e : ((a * b).toNat : Int) = a * b := Int.toNat_of_nonneg h
  generalize isqrt (a * b).toNat = s at *
  constructor
  · have : ((s * s : Nat) : Int) ≤ ((a * b).toNat : Int) := Int.ofNat_le.mpr h1
    rw [e] at this; simpa using this
  · have : (((a * b).toNat : Nat) : Int) < (((s + 1) * (s + 1) : Nat) : Int) := Int.ofNat_lt.mpr h2
    rw [e] at this; simpa using this

theorem inAfterFee_eq (x f : Int) (hx : 0 ≤ x) (hf : f ≤ P) :
    (Dec.mul (Dec.ofInt x) (Dec.sub Dec.one ⟨f⟩)).truncateInt = x * (P - f) / P := by
  unfold Dec.mul Dec.ofInt Dec.sub Dec.one Dec.truncateInt
  simp only []
  rw [Int.mul_right_comm x P, chopRound_mul_P]
  have h0 : 0 ≤ x * (P - f) := Int.mul_nonneg hx (by omega)
  exact chopTrunc_nonneg_eq _ h0

theorem ceil_trunc {m : Int} (hm : 0 ≤ m) :
    (Dec.ceil ⟨m⟩).truncateInt = if m % P = 0 then m / P else m / P + 1 := by
  unfold Dec.ceil Dec.truncateInt Dec.ofInt
  simp only []
  rw [tquo_nonneg_eq m P hm (by decide)]
  have hq : 0 ≤ m / P := Int.ediv_nonneg hm (by decide)
  have hr : m - m / P * P = m % P := by
    have := Int.emod_def m P; rw [Int.mul_comm] ; omega
  rw [hr]
  have hr0 : 0 ≤ m % P := Int.emod_nonneg m (by decide)
  by_cases h0 : m % P = 0
  · simp only [h0, Int.le_refl, ite_true]
    unfold chopTrunc; rw [tquo_nonneg_eq _ _ (Int.mul_nonneg hq (by decide)) (by decide)]
    exact Int.mul_ediv_cancel _ (by decide)
  · have : ¬ m % P ≤ 0 := by omega
    simp only [this, h0, ite_false]
    unfold chopTrunc; rw [tquo_nonneg_eq _ _ (Int.mul_nonneg (by omega) (by decide)) (by decide)]
    exact Int.mul_ediv_cancel _ (by decide)

/-- `NewDecFromInt(w).Quo(⟨g⟩)`, `w ≥ 0`, `g > 0`: the mantissa is `q = ⌊w·10⁵⁴/g⌋` rounded to a multiple of
    10¹⁸ (banker's), so it is within half a unit of `q/10¹⁸`. -/
theorem quo_ofInt {w g : Int} (hw : 0 ≤ w) (hg : 0 < g) :
    ∃ q, 0 ≤ (Dec.quo (Dec.ofInt w) ⟨g⟩).m ∧ 2 * ((Dec.quo (Dec.ofInt w) ⟨g⟩).m * P - q) ≤ P ∧
      2 * (q - (Dec.quo (Dec.ofInt w) ⟨g⟩).m * P) ≤ P ∧ q * g ≤ w * P * P * P ∧ w * P * P * P < (q + 1) * g := by
  have hnum : 0 ≤ w * P * P * P :=
    Int.mul_nonneg (Int.mul_nonneg (Int.mul_nonneg hw (by decide)) (by decide)) (by decide)
  have hq : 0 ≤ w * P * P * P / g := Int.ediv_nonneg hnum (by omega)
  have e : (Dec.quo (Dec.ofInt w) ⟨g⟩).m = chopRoundNonneg (w * P * P * P / g) := by
    show chopRound (tquo (w * P * P * P) g) = _
    rw [tquo_nonneg_eq _ _ hnum (by omega)]; unfold chopRound; rw [if_neg (by omega)]
  rw [e]
  exact ⟨_, chopRoundNonneg_nonneg _ hq, (chopRoundNonneg_bound _ hq).1, (chopRoundNonneg_bound _ hq).2,
    Int.ediv_mul_le _ (by omega), Int.lt_ediv_add_one_mul_self _ hg⟩

/-- `NewDecFromInt(w).Quo(1 - fee).Ceil().TruncateInt()` is at least w/(1−fee): the banker's
    rounding inside `Quo` never loses the ceiling. -/
theorem ceilQuo_ge (w g : Int) (hw : 0 ≤ w) (hg : 0 < g) (hgP : g ≤ P) :
    w * P ≤ ((Dec.quo (Dec.ofInt w) ⟨g⟩).ceil).truncateInt * g := by
  obtain ⟨q, hm, -, hb, -, hlt⟩ := quo_ofInt hw hg
  generalize Dec.quo (Dec.ofInt w) ⟨g⟩ = d at *
  obtain ⟨m⟩ := d
  rw [ceil_trunc hm]
  generalize hi : (if m % P = 0 then m / P else m / P + 1) = i
  have hmi : m ≤ i * P := by
    have := Int.emod_def m P
    have := Int.emod_nonneg m (show P ≠ 0 by decide)
    rw [← hi]; split <;> simp only [P_val] at * <;> omega
  -- were i·g < w·P, then m·g ≤ i·P·g ≤ (w·P − 1)·P, and q·g ≤ m·P·g + P·g/2 falls short of w·P³ − g
  false_or_by_contra
  have k1 : m * g ≤ (i * P) * g := Int.mul_le_mul_of_nonneg_right hmi (by omega)
  have k2 : (2 * (q - m * P)) * g ≤ P * g := Int.mul_le_mul_of_nonneg_right hb (by omega)
  rw [Int.mul_right_comm i P g] at k1
  rw [Int.mul_assoc 2, Int.sub_mul, Int.mul_right_comm m P g] at k2
  rw [Int.add_mul, Int.one_mul] at hlt
  generalize q * g = qg at *
  generalize m * g = mg at *
  generalize i * g = ig at *
  simp only [P_val] at *
  omega

/-- `calculateOutputForExactInput` in closed form: with y = ⌊x·(1−fee)⌋ the output is ⌊outR·y/(inR+y)⌋
    and the fee x − y -/
theorem outputForExactInput_eq (x inR outR : Int) (fee : Dec) (hin : 0 < inR) (hout : 0 ≤ outR)
    (hx : 0 < x) (hf0 : 0 ≤ fee.m) (hf1 : fee.m < P) :
    outputForExactInput x inR outR fee =
      some (outR * (x * (P - fee.m) / P) / (inR + x * (P - fee.m) / P), x - x * (P - fee.m) / P) := by
  have hy : ((Dec.ofInt x).mul (Dec.sub Dec.one fee)).truncateInt = x * (P - fee.m) / P :=
    inAfterFee_eq x fee.m (by omega) (by omega)
  have hy0 : 0 ≤ x * (P - fee.m) / P :=
    Int.ediv_nonneg (Int.mul_nonneg (by omega) (by omega)) (by decide)
  unfold outputForExactInput pquo
  rw [if_neg (by omega), if_neg (by omega)]
  simp only [hy]
  rw [if_neg (by omega), tquo_nonneg_eq _ _ (Int.mul_nonneg hout hy0) (by omega)]

/-- What one successful swap guarantees, in terms of the reserves of the token paid in (`rin`) and
    of the token paid out (`rout`), before and after; `inp` includes the fee `fv`; `f` is the fee
    rate's mantissa (rate = f / 10^18). -/
structure SwapSpec (rin rout rin' rout' inp out fv f : Int) : Prop where
  in_added : rin' = rin + inp
  out_taken : rout' = rout - out
  inp_pos : 0 < inp
  out_nonneg : 0 ≤ out
  out_left : 0 < rout'
  fee_nonneg : 0 ≤ fv
  fee_le : fv ≤ inp
  fee_rate : inp * f ≤ fv * P
  product_fee : rin * rout ≤ (rin' - fv) * rout'
  product : rin * rout ≤ rin' * rout'

namespace SwapSpec

theorem mk' {rin rout inp out fv f : Int} (h1 : 0 < inp) (h2 : 0 ≤ out) (h3 : out < rout)
    (h4 : 0 ≤ fv) (h5 : fv ≤ inp) (h6 : inp * f ≤ fv * P)
    (h7 : rin * rout ≤ (rin + inp - fv) * (rout - out)) :
    SwapSpec rin rout (rin + inp) (rout - out) inp out fv f := by
  refine ⟨rfl, rfl, h1, h2, by omega, h4, h5, h6, h7, ?_⟩
  have : (rin + inp - fv) * (rout - out) ≤ (rin + inp) * (rout - out) :=
    Int.mul_le_mul_of_nonneg_right (by omega) (by omega)
  omega

end SwapSpec

theorem outputForExactInput_spec {x inR outR : Int} {fee : Dec} {out fv : Int}
    (hin : 0 < inR) (hout : 0 < outR)
    (h : outputForExactInput x inR outR fee = some (out, fv)) :
    SwapSpec inR outR (inR + x) (outR - out) x out fv fee.m := by
  have hg := h
  unfold outputForExactInput at hg
  obtain ⟨hx, hg⟩ := of_ite hg
  obtain ⟨hf, -⟩ := of_ite hg
  rw [outputForExactInput_eq x inR outR fee hin (by omega) (by omega) (by omega) (by omega)] at h
  cases h
  have hnum : 0 ≤ x * (P - fee.m) := Int.mul_nonneg (by omega) (by omega)
  have hyP : x * (P - fee.m) / P * P ≤ x * (P - fee.m) := Int.ediv_mul_le _ (by decide)
  have hy0 : 0 ≤ x * (P - fee.m) / P := Int.ediv_nonneg hnum (by decide)
  have hxf0 : 0 ≤ x * fee.m := Int.mul_nonneg (by omega) (by omega)
  generalize x * (P - fee.m) / P = y at *
  rw [Int.mul_sub] at hyP
  have hprod : 0 ≤ outR * y := Int.mul_nonneg (by omega) hy0
  have hq0 : 0 ≤ outR * y / (inR + y) := Int.ediv_nonneg hprod (by omega)
  have hqm : outR * y / (inR + y) * (inR + y) ≤ outR * y := Int.ediv_mul_le _ (by omega)
  have hlt : outR * y < outR * (inR + y) := Int.mul_lt_mul_of_pos_left (by omega) hout
  generalize outR * y / (inR + y) = q at *
  have hq_lt : q < outR := Int.lt_of_mul_lt_mul_right (show q * (inR + y) < outR * (inR + y) by omega) (by omega)
  refine SwapSpec.mk' (by omega) hq0 hq_lt ?_ (by omega) ?_ ?_
  · simp only [P_val] at *; omega
  · rw [Int.sub_mul]; omega
  · -- (inR + y)(outR − q) = inR·outR + (outR·y − q·(inR + y)), and q = ⌊outR·y/(inR + y)⌋
    rw [show inR + x - (x - y) = inR + y by omega, Int.mul_sub, Int.add_mul, Int.mul_comm y outR,
      Int.mul_comm (inR + y) q]
    omega

/-- For an exact output the fee is strictly less than the input: the input before the fee is
    ⌈Rin·out/(Rout−out)⌉ ≥ 1 (the keeper divides by it). -/
theorem inputForExactOutput_spec {out outR inR : Int} {fee : Dec} {inp fv : Int}
    (hin : 0 < inR) (h : inputForExactOutput out outR inR fee = some (inp, fv)) :
    SwapSpec inR outR (inR + inp) (outR - out) inp out fv fee.m ∧ fv < inp := by
  unfold inputForExactOutput at h
  obtain ⟨ho, h⟩ := of_ite h
  obtain ⟨ho2, h⟩ := of_ite h
  obtain ⟨hf, h⟩ := of_ite h
  have hN : 0 < outR - out := by omega
  have hnum : 0 < inR * out := Int.mul_pos hin (by omega)
  simp only [tquo_nonneg_eq _ _ (Int.le_of_lt hnum) (Int.le_of_lt hN),
    show Dec.sub Dec.one fee = ⟨P - fee.m⟩ from rfl, Option.some.injEq, Prod.mk.injEq] at h
  obtain ⟨rfl, rfl⟩ := h
  have hq0 : 0 ≤ inR * out / (outR - out) := Int.ediv_nonneg (by omega) (by omega)
  have hq1 : inR * out / (outR - out) * (outR - out) ≤ inR * out := Int.ediv_mul_le _ (by omega)
  have hq2 : inR * out < (inR * out / (outR - out) + 1) * (outR - out) := Int.lt_ediv_add_one_mul_self _ hN
  rw [Int.add_mul, Int.one_mul] at hq2
  generalize inR * out / (outR - out) = q at *
  -- w = ⌈inR·out/(outR−out)⌉ ≥ 1, the input before the fee
  generalize hw : (if inR * out - q * (outR - out) ≠ 0 then q + 1 else q) = w
  have hwN : inR * out ≤ w * (outR - out) ∧ 0 < w := by
    rw [← hw]; split
    · rw [Int.add_mul]; omega
    · refine ⟨by omega, ?_⟩
      false_or_by_contra
      have : q = 0 := by omega
      subst this; omega
  have hge := ceilQuo_ge w (P - fee.m) (by omega) (by omega) (by omega)
  generalize ((Dec.quo (Dec.ofInt w) ⟨P - fee.m⟩).ceil).truncateInt = i at *
  have hiw : w ≤ i :=
    Int.le_of_mul_le_mul_right (Int.le_trans (Int.mul_le_mul_of_nonneg_left (by omega) (by omega)) hge)
      (show 0 < P - fee.m by omega)
  rw [Int.mul_sub] at hge
  refine ⟨SwapSpec.mk' (by omega) (by omega) (by omega) (by omega) (by omega) ?_ ?_, by omega⟩
  · rw [Int.sub_mul]; omega
  · -- (inR + w)(outR − out) = inR·outR + (w·(outR − out) − inR·out), and w ≥ inR·out/(outR − out)
    rw [show inR + i - (i - w) = inR + w by omega, Int.add_mul, Int.mul_sub]
    omega

theorem assertInvariant_some {p : Pool} {newA feeA newB feeB : Int} {p' : Pool}
    (h : assertInvariantAndUpdate p newA feeA newB feeB = some p') :
    p' = { p with a := newA, b := newB } ∧ p.a * p.b ≤ (newA - feeA) * (newB - feeB) := by
  unfold assertInvariantAndUpdate at h
  obtain ⟨hc, h⟩ := of_ite h
  cases h; exact ⟨rfl, by omega⟩

theorem assertInvariant_of_le {p : Pool} {newA feeA newB feeB : Int}
    (h : p.a * p.b ≤ (newA - feeA) * (newB - feeB)) :
    assertInvariantAndUpdate p newA feeA newB feeB = some { p with a := newA, b := newB } := by
  unfold assertInvariantAndUpdate
  rw [if_neg (by omega)]

/-- The four swap entry points have one shape: a calculation `c` of (amount, fee), then the invariant
    assertion on the new reserves.  Each of them unfolds to an instance of the left-hand side. -/
theorem swap_some_iff {c : Option (Int × Int)} {p p' : Pool} {nA fA nB fB : Int → Int → Int} {r fv : Int} :
    (match c with
      | none => none
      | some (r, fv) =>
        match assertInvariantAndUpdate p (nA r fv) (fA r fv) (nB r fv) (fB r fv) with
        | none => none
        | some p' => some (p', r, fv)) = some (p', r, fv) ↔
    c = some (r, fv) ∧ p.a * p.b ≤ (nA r fv - fA r fv) * (nB r fv - fB r fv) ∧
      p' = { p with a := nA r fv, b := nB r fv } := by
  constructor
  · intro h
    split at h
    · cases h
    split at h
    · cases h
    rename_i hq
    cases h
    obtain ⟨rfl, hle⟩ := assertInvariant_some hq
    exact ⟨rfl, hle, rfl⟩
  · rintro ⟨rfl, hle, rfl⟩
    simp only [assertInvariant_of_le hle]

theorem swapExactAForB_spec {p p' : Pool} {x : Int} {fee : Dec} {out fv : Int}
    (ha : 0 < p.a) (hb : 0 < p.b) (h : swapExactAForB p x fee = some (p', out, fv)) :
    SwapSpec p.a p.b p'.a p'.b x out fv fee.m ∧ p'.s = p.s := by
  obtain ⟨hc, -, rfl⟩ := swap_some_iff.mp h
  exact ⟨outputForExactInput_spec ha hb hc, rfl⟩

theorem swapExactBForA_spec {p p' : Pool} {x : Int} {fee : Dec} {out fv : Int}
    (ha : 0 < p.a) (hb : 0 < p.b) (h : swapExactBForA p x fee = some (p', out, fv)) :
    SwapSpec p.b p.a p'.b p'.a x out fv fee.m ∧ p'.s = p.s := by
  obtain ⟨hc, -, rfl⟩ := swap_some_iff.mp h
  exact ⟨outputForExactInput_spec hb ha hc, rfl⟩

theorem swapAForExactB_spec {p p' : Pool} {y : Int} {fee : Dec} {inp fv : Int}
    (ha : 0 < p.a) (h : swapAForExactB p y fee = some (p', inp, fv)) :
    SwapSpec p.a p.b p'.a p'.b inp y fv fee.m ∧ p'.s = p.s ∧ fv < inp := by
  obtain ⟨hc, -, rfl⟩ := swap_some_iff.mp h
  obtain ⟨sp, hlt⟩ := inputForExactOutput_spec ha hc
  exact ⟨sp, rfl, hlt⟩

theorem swapBForExactA_spec {p p' : Pool} {y : Int} {fee : Dec} {inp fv : Int}
    (hb : 0 < p.b) (h : swapBForExactA p y fee = some (p', inp, fv)) :
    SwapSpec p.b p.a p'.b p'.a inp y fv fee.m ∧ p'.s = p.s ∧ fv < inp := by
  obtain ⟨hc, -, rfl⟩ := swap_some_iff.mp h
  obtain ⟨sp, hlt⟩ := inputForExactOutput_spec hb hc
  exact ⟨sp, rfl, hlt⟩

theorem inputForExactOutput_total (out outR inR : Int) (fee : Dec)
    (ho : 0 < out) (ho2 : out < outR) (hf0 : 0 ≤ fee.m) (hf1 : fee.m < P) :
    ∃ r, inputForExactOutput out outR inR fee = some r := by
  unfold inputForExactOutput
  rw [if_neg (by omega), if_neg (by omega), if_neg (by omega)]
  exact ⟨_, rfl⟩

/-- the trader pays token A (and receives B) -/
def SwapOp.paysA : SwapOp → Bool
  | .exactAForB _ => true
  | .aForExactB _ => true
  | _ => false

/-- what the trader pays (fee included), given the amount `r` the pool function returned -/
def SwapOp.paid : SwapOp → Int → Int
  | .exactAForB x, _ => x
  | .exactBForA x, _ => x
  | .aForExactB _, r => r
  | .bForExactA _, r => r

/-- what the trader receives -/
def SwapOp.received : SwapOp → Int → Int
  | .exactAForB _, r => r
  | .exactBForA _, r => r
  | .aForExactB y, _ => y
  | .bForExactA y, _ => y

/-- the documented input guards of a swap: positive amount, fee in [0,1), exact output below reserves -/
def SwapOp.guardsOk (p : Pool) (fee : Dec) : SwapOp → Prop
  | .exactAForB x => 0 < x ∧ 0 ≤ fee.m ∧ fee.m < P
  | .exactBForA x => 0 < x ∧ 0 ≤ fee.m ∧ fee.m < P
  | .aForExactB y => 0 < y ∧ y < p.b ∧ 0 ≤ fee.m ∧ fee.m < P
  | .bForExactA y => 0 < y ∧ y < p.a ∧ 0 ≤ fee.m ∧ fee.m < P

theorem applySwap_spec {p p' : Pool} {fee : Dec} {op : SwapOp} {r fv : Int}
    (ha : 0 < p.a) (hb : 0 < p.b) (h : applySwap p fee op = some (p', r, fv)) :
    SwapSpec (if op.paysA then p.a else p.b) (if op.paysA then p.b else p.a)
             (if op.paysA then p'.a else p'.b) (if op.paysA then p'.b else p'.a)
             (op.paid r) (op.received r) fv fee.m ∧ p'.s = p.s := by
  cases op with
  | exactAForB x => exact swapExactAForB_spec ha hb h
  | exactBForA x => exact swapExactBForA_spec ha hb h
  | aForExactB y => exact (swapAForExactB_spec ha h).imp_right And.left
  | bForExactA y => exact (swapBForExactA_spec hb h).imp_right And.left

/-- with valid inputs the calculation succeeds and, by its own guarantee, the invariant assertion holds -/
theorem applySwap_total (p : Pool) (fee : Dec) (op : SwapOp) (ha : 0 < p.a) (hb : 0 < p.b)
    (hg : op.guardsOk p fee) : ∃ r, applySwap p fee op = some r := by
  cases op with
  | exactAForB x =>
    have hc := outputForExactInput_eq x p.a p.b fee ha (by omega) hg.1 hg.2.1 hg.2.2
    have h9 := (outputForExactInput_spec ha hb hc).product_fee
    exact ⟨_, swap_some_iff.mpr ⟨hc, by rw [Int.sub_zero]; exact h9, rfl⟩⟩
  | exactBForA x =>
    have hc := outputForExactInput_eq x p.b p.a fee hb (by omega) hg.1 hg.2.1 hg.2.2
    have h9 := (outputForExactInput_spec hb ha hc).product_fee
    exact ⟨_, swap_some_iff.mpr
      ⟨hc, by rw [Int.sub_zero, Int.mul_comm p.a p.b, Int.mul_comm (p.a - _)]; exact h9, rfl⟩⟩
  | aForExactB y =>
    obtain ⟨⟨a, fv⟩, hc⟩ := inputForExactOutput_total y p.b p.a fee hg.1 hg.2.1 hg.2.2.1 hg.2.2.2
    have h9 := (inputForExactOutput_spec ha hc).1.product_fee
    exact ⟨_, swap_some_iff.mpr ⟨hc, by rw [Int.sub_zero]; exact h9, rfl⟩⟩
  | bForExactA y =>
    obtain ⟨⟨b, fv⟩, hc⟩ := inputForExactOutput_total y p.a p.b fee hg.1 hg.2.1 hg.2.2.1 hg.2.2.2
    have h9 := (inputForExactOutput_spec hb hc).1.product_fee
    exact ⟨_, swap_some_iff.mpr
      ⟨hc, by rw [Int.sub_zero, Int.mul_comm p.a p.b, Int.mul_comm (p.a - _)]; exact h9, rfl⟩⟩

/-- What a successful `AddLiquidity` guarantees: `p` is the pool before (`⟨0, 0, 0⟩` for one being created),
    `actA`, `actB` what is taken of the desired `da`, `db`, and `sh` the shares issued — never more than the
    share of either reserve that was added. -/
structure AddSpec (p p' : Pool) (da db actA actB sh : Int) : Prop where
  a_eq : p'.a = p.a + actA
  b_eq : p'.b = p.b + actB
  s_eq : p'.s = p.s + sh
  a_nonneg : 0 ≤ actA
  a_le : actA ≤ da
  b_nonneg : 0 ≤ actB
  b_le : actB ≤ db
  sh_nonneg : 0 ≤ sh
  sh_a : sh * p.a ≤ actA * p.s
  sh_b : sh * p.b ≤ actB * p.s

namespace AddSpec

theorem mono {p p' : Pool} {da db actA actB sh : Int} (h : AddSpec p p' da db actA actB sh) :
    p.a * p'.s ≤ p'.a * p.s ∧ p.b * p'.s ≤ p'.b * p.s := by
  have := h.sh_a; have := h.sh_b
  rw [h.a_eq, h.b_eq, h.s_eq, Int.mul_add, Int.mul_add, Int.add_mul, Int.add_mul, Int.mul_comm p.a sh,
    Int.mul_comm p.b sh]
  omega

end AddSpec

theorem addLiquidity_spec {p p' : Pool} {da db actA actB sh : Int}
    (ha : 0 < p.a) (hb : 0 < p.b) (hs : 0 ≤ p.s)
    (h : addLiquidity p da db = some (p', actA, actB, sh)) : AddSpec p p' da db actA actB sh := by
  unfold addLiquidity at h
  obtain ⟨hda, h⟩ := of_ite h
  obtain ⟨hdb, h⟩ := of_ite h
  rw [if_neg (by omega), if_neg (by omega), if_neg (by omega)] at h
  have hpa : 0 ≤ p.b * da := Int.mul_nonneg (by omega) (by omega)
  have hpb : 0 ≤ p.a * db := Int.mul_nonneg (by omega) (by omega)
  simp only [tquo_nonneg_eq _ _ hpa (Int.le_of_lt ha), tquo_nonneg_eq _ _ hpb (Int.le_of_lt hb)] at h
  -- the two amounts taken: the desired one, or the other side's at the pool ratio, rounded down
  generalize hA : (if p.b * da ≤ p.a * db then da else p.a * db / p.b) = xA at h
  generalize hB : (if p.b * da ≤ p.a * db then p.b * da / p.a else db) = xB at h
  have hxA : 0 ≤ xA ∧ xA ≤ da := by
    rw [← hA]; split
    · omega
    · exact ⟨Int.ediv_nonneg hpb (by omega), Int.ediv_le_of_le_mul hb (by rw [Int.mul_comm da]; omega)⟩
  have hxB : 0 ≤ xB ∧ xB ≤ db := by
    rw [← hB]; split
    · exact ⟨Int.ediv_nonneg hpa (by omega), Int.ediv_le_of_le_mul ha (by rw [Int.mul_comm db]; omega)⟩
    · omega
  have hnA : 0 ≤ xA * p.s := Int.mul_nonneg hxA.1 hs
  have hnB : 0 ≤ xB * p.s := Int.mul_nonneg hxB.1 hs
  rw [tquo_nonneg_eq _ _ hnA (by omega), tquo_nonneg_eq _ _ hnB (by omega)] at h
  have hsA := Int.ediv_mul_le (xA * p.s) (show p.a ≠ 0 by omega)
  have hsB := Int.ediv_mul_le (xB * p.s) (show p.b ≠ 0 by omega)
  have hsA0 : 0 ≤ xA * p.s / p.a := Int.ediv_nonneg hnA (by omega)
  have hsB0 : 0 ≤ xB * p.s / p.b := Int.ediv_nonneg hnB (by omega)
  generalize xA * p.s / p.a = sA at *
  generalize xB * p.s / p.b = sB at *
  cases h
  refine ⟨rfl, rfl, rfl, hxA.1, hxA.2, hxB.1, hxB.2, ?_, ?_, ?_⟩ <;> split
  · omega
  · omega
  · exact hsA
  · have : sB * p.a ≤ sA * p.a := Int.mul_le_mul_of_nonneg_right (by omega) (by omega)
    omega
  · have : sA * p.b ≤ sB * p.b := Int.mul_le_mul_of_nonneg_right ‹_› (by omega)
    omega
  · exact hsB

theorem addLiquidity_empty (da db : Int) (s : Int) (hda : 0 < da) (hdb : 0 < db) :
    addLiquidity ⟨0, 0, s⟩ da db =
      some (⟨da, db, initialShares da db⟩, da, db, initialShares da db) := by
  unfold addLiquidity
  rw [if_neg (by omega), if_neg (by omega)]
  simp

/-- What a successful `RemoveLiquidity` guarantees: the share value, rounded down, leaves the pool. -/
structure RemSpec (p p' : Pool) (sh wa wb : Int) : Prop where
  a_eq : p'.a = p.a - wa
  b_eq : p'.b = p.b - wb
  s_eq : p'.s = p.s - sh
  sh_pos : 0 < sh
  sh_le : sh ≤ p.s
  wa_eq : wa = p.a * sh / p.s
  wb_eq : wb = p.b * sh / p.s
  wa_nonneg : 0 ≤ wa
  wb_nonneg : 0 ≤ wb
  wa_le : wa * p.s ≤ p.a * sh
  wb_le : wb * p.s ≤ p.b * sh

/-- a share value ⌊x·sh/s⌋, `sh ≤ s`, is at most the reserve `x` -/
theorem shareValue_le {x sh s : Int} (hx : 0 ≤ x) (h0 : 0 < sh) (hle : sh ≤ s) : x * sh / s ≤ x :=
  Int.ediv_le_of_le_mul (by omega) (Int.mul_le_mul_of_nonneg_left hle hx)

theorem removeLiquidity_eq (p : Pool) (sh : Int) (ha : 0 ≤ p.a) (hb : 0 ≤ p.b) (hs : 0 < sh) (hle : sh ≤ p.s) :
    removeLiquidity p sh =
      some (⟨p.a - p.a * sh / p.s, p.b - p.b * sh / p.s, p.s - sh⟩, p.a * sh / p.s, p.b * sh / p.s) := by
  have hna : 0 ≤ p.a * sh := Int.mul_nonneg ha (by omega)
  have hnb : 0 ≤ p.b * sh := Int.mul_nonneg hb (by omega)
  have l1 := shareValue_le ha hs hle
  have l2 := shareValue_le hb hs hle
  unfold removeLiquidity shareValue
  rw [if_neg (by omega), if_neg (by omega), tquo_nonneg_eq _ _ hna (by omega), tquo_nonneg_eq _ _ hnb (by omega)]
  simp only []
  rw [if_neg (by omega), if_neg (by omega)]

theorem removeLiquidity_spec {p p' : Pool} {sh wa wb : Int} (ha : 0 ≤ p.a) (hb : 0 ≤ p.b)
    (h : removeLiquidity p sh = some (p', wa, wb)) : RemSpec p p' sh wa wb := by
  have hg : 0 < sh ∧ sh ≤ p.s := by
    unfold removeLiquidity shareValue at h
    split at h
    · cases h
    rename_i hv
    obtain ⟨h1, hv⟩ := of_ite hv
    obtain ⟨h2, -⟩ := of_ite hv
    omega
  rw [removeLiquidity_eq p sh ha hb hg.1 hg.2] at h
  cases h
  have hna : 0 ≤ p.a * sh := Int.mul_nonneg ha (by omega)
  have hnb : 0 ≤ p.b * sh := Int.mul_nonneg hb (by omega)
  exact ⟨rfl, rfl, rfl, hg.1, hg.2, rfl, rfl, Int.ediv_nonneg hna (by omega), Int.ediv_nonneg hnb (by omega),
    Int.ediv_mul_le _ (by omega), Int.ediv_mul_le _ (by omega)⟩

namespace RemSpec

theorem wa_le_a {p p' : Pool} {sh wa wb : Int} (h : RemSpec p p' sh wa wb) (ha : 0 ≤ p.a) : wa ≤ p.a := by
  rw [h.wa_eq]; exact shareValue_le ha h.sh_pos h.sh_le

theorem wb_le_b {p p' : Pool} {sh wa wb : Int} (h : RemSpec p p' sh wa wb) (hb : 0 ≤ p.b) : wb ≤ p.b := by
  rw [h.wb_eq]; exact shareValue_le hb h.sh_pos h.sh_le

theorem mono {p p' : Pool} {sh wa wb : Int} (h : RemSpec p p' sh wa wb) :
    p.a * p'.s ≤ p'.a * p.s ∧ p.b * p'.s ≤ p'.b * p.s := by
  have := h.wa_le; have := h.wb_le
  rw [h.a_eq, h.b_eq, h.s_eq, Int.mul_sub, Int.mul_sub, Int.sub_mul, Int.sub_mul]
  omega

theorem all {p p' : Pool} {wa wb : Int} (h : RemSpec p p' p.s wa wb) :
    wa = p.a ∧ wb = p.b ∧ p' = ⟨0, 0, 0⟩ := by
  have hs := h.sh_pos
  have h1 : wa = p.a := by rw [h.wa_eq]; exact Int.mul_ediv_cancel _ (by omega)
  have h2 : wb = p.b := by rw [h.wb_eq]; exact Int.mul_ediv_cancel _ (by omega)
  refine ⟨h1, h2, ?_⟩
  have := h.a_eq; have := h.b_eq; have := h.s_eq
  cases p'; simp only [Pool.mk.injEq] at *; omega

theorem partial_pos {p p' : Pool} {sh wa wb : Int} (h : RemSpec p p' sh wa wb) (ha : 0 < p.a)
    (hb : 0 < p.b) (hlt : sh < p.s) : 0 < p'.a ∧ 0 < p'.b := by
  have hs := h.sh_pos
  have l1 : wa < p.a := by
    rw [h.wa_eq]; exact Int.ediv_lt_of_lt_mul (by omega) (Int.mul_lt_mul_of_pos_left hlt ha)
  have l2 : wb < p.b := by
    rw [h.wb_eq]; exact Int.ediv_lt_of_lt_mul (by omega) (Int.mul_lt_mul_of_pos_left hlt hb)
  have := h.a_eq; have := h.b_eq
  omega

end RemSpec

theorem roundtrip_no_profit {p p1 p2 : Pool} {da db actA actB sh wa wb : Int}
    (ha : 0 < p.a) (hb : 0 < p.b) (hs : 0 < p.s)
    (h1 : addLiquidity p da db = some (p1, actA, actB, sh))
    (h2 : removeLiquidity p1 sh = some (p2, wa, wb)) : wa ≤ actA ∧ wb ≤ actB := by
  have ad := addLiquidity_spec ha hb (by omega) h1
  have a0 := ad.a_nonneg; have b0 := ad.b_nonneg; have s0 := ad.sh_nonneg
  have rm := removeLiquidity_spec (by rw [ad.a_eq]; omega) (by rw [ad.b_eq]; omega) h2
  have m1 := rm.wa_le; have m2 := rm.wb_le
  rw [ad.a_eq, ad.s_eq] at m1
  rw [ad.b_eq, ad.s_eq] at m2
  -- one token: shares bought with `act` at no more than the pool ratio r : S and sold at (r + act) : (S + sh)
  -- return w with w·(S+sh) ≤ (r+act)·sh ≤ act·S + act·sh
  have side : ∀ {r act w : Int}, sh * r ≤ act * p.s → w * (p.s + sh) ≤ (r + act) * sh → w ≤ act := by
    intro r act w k m
    refine Int.le_of_mul_le_mul_right (a := p.s + sh) (Int.le_trans m ?_) (by omega)
    rw [Int.add_mul, Int.mul_add, Int.mul_comm r sh]
    omega
  exact ⟨side ad.sh_a m1, side ad.sh_b m2⟩

theorem applySwap_product {p p' : Pool} {fee : Dec} {op : SwapOp} {r fv : Int}
    (ha : 0 < p.a) (hb : 0 < p.b) (h : applySwap p fee op = some (p', r, fv)) :
    p.a * p.b ≤ (p'.a - (if op.paysA then fv else 0)) * (p'.b - (if op.paysA then 0 else fv)) ∧
    p.a * p.b ≤ p'.a * p'.b ∧ 0 < p'.a ∧ 0 < p'.b ∧ p'.s = p.s := by
  obtain ⟨sp, hs⟩ := applySwap_spec ha hb h
  have i := sp.in_added; have ip := sp.inp_pos; have ol := sp.out_left
  have pf := sp.product_fee; have pr := sp.product
  cases hp : op.paysA <;> simp only [hp, ite_true, ite_false, Bool.false_eq_true, Int.sub_zero] at *
  · rw [Int.mul_comm p.a, Int.mul_comm p'.a, Int.mul_comm p'.a]
    exact ⟨pf, pr, ol, by omega, hs⟩
  · exact ⟨pf, pr, by omega, ol, hs⟩

theorem runSwaps_product (ops : List (Dec × SwapOp)) (p : Pool) (ha : 0 < p.a) (hb : 0 < p.b) :
    0 < (runSwaps p ops).a ∧ 0 < (runSwaps p ops).b ∧
    p.a * p.b ≤ (runSwaps p ops).a * (runSwaps p ops).b ∧ (runSwaps p ops).s = p.s := by
  fun_induction runSwaps p ops with
  | case1 p => exact ⟨ha, hb, Int.le_refl _, rfl⟩
  | case2 p fee op rest _ ih => exact ih ha hb
  | case3 p fee op rest p' r fv hs ih =>
    obtain ⟨-, pr, a1, b1, s1⟩ := applySwap_product ha hb hs
    obtain ⟨a2, b2, pr2, s2⟩ := ih a1 b1
    exact ⟨a2, b2, by omega, by omega⟩

theorem product_no_free {a b a' b' : Int} (hb : 0 < b) (ha' : 0 < a') (h : a * b ≤ a' * b') (hlt : a' < a) :
    b < b' := by
  by_cases hc : b < b'
  · exact hc
  · exfalso
    have h1 : a' * b' ≤ a' * b := Int.mul_le_mul_of_nonneg_left (by omega) (by omega)
    have h2 : a' * b < a * b := Int.mul_lt_mul_of_pos_right hlt hb
    omega

def flipAdd : Option (Pool × Int × Int × Int) → Option (Pool × Int × Int × Int)
  | none => none
  | some (p, a, b, s) => some (p.flip, b, a, s)

def flipRem : Option (Pool × Int × Int) → Option (Pool × Int × Int)
  | none => none
  | some (p, a, b) => some (p.flip, b, a)

def flipSwap : Option (Pool × Int × Int) → Option (Pool × Int × Int)
  | none => none
  | some (p, r, f) => some (p.flip, r, f)

theorem initialShares_comm (a b : Int) : initialShares a b = initialShares b a := by
  unfold initialShares; rw [Int.mul_comm]

/-- exchanging the tokens in the common shape of the four entry points (`swap_some_iff`) -/
theorem swap_flip {c : Option (Int × Int)} {p : Pool} {nA fA nB fB : Int → Int → Int} :
    (match c with
      | none => none
      | some (r, fv) =>
        match assertInvariantAndUpdate p.flip (nB r fv) (fB r fv) (nA r fv) (fA r fv) with
        | none => none
        | some p' => some (p', r, fv)) =
    flipSwap (match c with
      | none => none
      | some (r, fv) =>
        match assertInvariantAndUpdate p (nA r fv) (fA r fv) (nB r fv) (fB r fv) with
        | none => none
        | some p' => some (p', r, fv)) := by
  rcases c with _ | ⟨r, fv⟩
  · rfl
  simp only [assertInvariantAndUpdate, Pool.flip, Int.mul_comm p.b p.a,
    Int.mul_comm (nB r fv - fB r fv) (nA r fv - fA r fv)]
  by_cases hc : p.a * p.b > (nA r fv - fA r fv) * (nB r fv - fB r fv)
  · rw [if_pos hc, if_pos hc]; rfl
  · rw [if_neg hc, if_neg hc]; rfl

theorem swapExactBForA_flip (p : Pool) (x : Int) (fee : Dec) :
    swapExactBForA p.flip x fee = flipSwap (swapExactAForB p x fee) := swap_flip

theorem swapExactAForB_flip (p : Pool) (x : Int) (fee : Dec) :
    swapExactAForB p.flip x fee = flipSwap (swapExactBForA p x fee) := swap_flip

theorem swapBForExactA_flip (p : Pool) (y : Int) (fee : Dec) :
    swapBForExactA p.flip y fee = flipSwap (swapAForExactB p y fee) := swap_flip

theorem swapAForExactB_flip (p : Pool) (y : Int) (fee : Dec) :
    swapAForExactB p.flip y fee = flipSwap (swapBForExactA p y fee) := swap_flip

theorem removeLiquidity_flip (p : Pool) (sh : Int) :
    removeLiquidity p.flip sh = flipRem (removeLiquidity p sh) := by
  unfold removeLiquidity shareValue Pool.flip flipRem
  simp only []
  by_cases h1 : 0 < sh
  case neg => simp only [h1, not_false_eq_true, ite_true]
  case pos =>
    simp only [h1, not_true_eq_false, ite_false]
    by_cases h2 : sh > p.s
    · simp only [h2, ite_true]
    · simp only [h2, ite_false]
      by_cases h3 : p.a - tquo (p.a * sh) p.s < 0 <;> by_cases h4 : p.b - tquo (p.b * sh) p.s < 0 <;>
        simp only [h3, h4, ite_true, ite_false, Pool.flip]

theorem addLiquidity_flip (p : Pool) (da db : Int) :
    addLiquidity p.flip db da = flipAdd (addLiquidity p da db) := by
  unfold addLiquidity Pool.flip flipAdd
  simp only []
  by_cases h1 : 0 < da <;> by_cases h2 : 0 < db <;>
    simp only [h1, h2, not_true_eq_false, not_false_eq_true, ite_true, ite_false]
  by_cases he : p.a = 0 ∧ p.b = 0
  · simp only [he, and_self, ite_true, Pool.flip, initialShares_comm db da]
  · have he' : ¬ (p.b = 0 ∧ p.a = 0) := fun h => he ⟨h.2, h.1⟩
    simp only [he, he', ite_false]
    by_cases h3 : 0 < p.a <;> by_cases h4 : 0 < p.b <;>
      simp only [h3, h4, not_true_eq_false, not_false_eq_true, ite_true, ite_false]
    -- the main branch: p.a, p.b, da, db > 0
    have key : ∀ (xA xB : Int),
        (if tquo (xB * p.s) p.b ≤ tquo (xA * p.s) p.a then tquo (xB * p.s) p.b else tquo (xA * p.s) p.a) =
        (if tquo (xA * p.s) p.a ≤ tquo (xB * p.s) p.b then tquo (xA * p.s) p.a else tquo (xB * p.s) p.b) := by
      intro xA xB; split <;> split <;> omega
    by_cases c1 : p.b * da ≤ p.a * db <;> by_cases c2 : p.a * db ≤ p.b * da
    · -- at the pool ratio exactly each side takes both desired amounts
      have heq : p.b * da = p.a * db := by omega
      have q1 : tquo (p.b * da) p.a = db := by
        rw [heq, tquo_nonneg_eq _ _ (Int.mul_nonneg (by omega) (by omega)) (by omega)]
        exact Int.mul_ediv_cancel_left _ (by omega)
      have q2 : tquo (p.a * db) p.b = da := by
        rw [← heq, tquo_nonneg_eq _ _ (Int.mul_nonneg (by omega) (by omega)) (by omega)]
        exact Int.mul_ediv_cancel_left _ (by omega)
      simp only [c1, c2, ite_true, q1, q2, Pool.flip, key]
    · simp only [c1, c2, ite_true, ite_false, Pool.flip, key]
    · simp only [c1, c2, ite_true, ite_false, Pool.flip, key]
    · omega

/-- the flipped operation -/
def SwapOp.flip : SwapOp → SwapOp
  | .exactAForB x => .exactBForA x
  | .exactBForA x => .exactAForB x
  | .aForExactB y => .bForExactA y
  | .bForExactA y => .aForExactB y

theorem applySwap_flip (p : Pool) (fee : Dec) (op : SwapOp) :
    applySwap p.flip fee op.flip = flipSwap (applySwap p fee op) := by
  cases op with
  | exactAForB x => exact swapExactBForA_flip p x fee
  | exactBForA x => exact swapExactAForB_flip p x fee
  | aForExactB y => exact swapBForExactA_flip p y fee
  | bForExactA y => exact swapAForExactB_flip p y fee

/-- `NewDecFromInt(x).Quo(NewDecFromInt(y))` is within half a unit (10⁻¹⁸/2, plus the inner truncation)
    of the exact ratio x/y -/
theorem quoInt_bounds {x y : Int} (hx : 0 ≤ x) (hy : 0 < y) :
    2 * ((Dec.quo (Dec.ofInt x) (Dec.ofInt y)).m * y) ≤ 2 * x * P + y ∧
    2 * x * P * P < (2 * ((Dec.quo (Dec.ofInt x) (Dec.ofInt y)).m * y) + y) * P + 2 * y := by
  obtain ⟨q0, -, b1, b2, h1, h2⟩ := quo_ofInt hx (Int.mul_pos hy (show 0 < P by decide))
  rw [show (⟨y * P⟩ : Dec) = Dec.ofInt y from rfl] at b1 b2
  generalize (Dec.quo (Dec.ofInt x) (Dec.ofInt y)).m = q at *
  -- the rounding bounds multiplied by y, everything in terms of q·y and q0·y
  have k1 : (2 * (q * P - q0)) * y ≤ P * y := Int.mul_le_mul_of_nonneg_right b1 (by omega)
  have k2 : (2 * (q0 - q * P)) * y ≤ P * y := Int.mul_le_mul_of_nonneg_right b2 (by omega)
  rw [Int.mul_assoc 2, Int.sub_mul, Int.mul_right_comm q P y] at k1 k2
  rw [← Int.mul_assoc] at h1 h2
  rw [Int.add_mul q0, Int.one_mul] at h2
  generalize q * y = u at *
  generalize q0 * y = v at *
  simp only [P_val] at *
  omega

/-- the swap slippage check in exact terms: x/y ≥ 1 − limit − ½·10⁻¹⁸, cross-multiplied -/
theorem slippageOk_real {x y : Int} {slip : Dec} (hx : 0 ≤ x) (hy : 0 < y)
    (h : slippageOk (Dec.quo (Dec.ofInt x) (Dec.ofInt y)) slip = true) :
    2 * ((P - slip.m) * y) ≤ 2 * x * P + y := by
  have qu := (quoInt_bounds hx hy).1
  unfold slippageOk Dec.sub Dec.one at h
  simp only [Bool.not_eq_true', decide_eq_false_iff_not] at h
  generalize (Dec.quo (Dec.ofInt x) (Dec.ofInt y)).m = q at *
  have hq : P - slip.m ≤ q := by omega
  have : (P - slip.m) * y ≤ q * y := Int.mul_le_mul_of_nonneg_right hq (by omega)
  omega

/-- a Dec quotient of two integers that is at most `t` bounds the exact ratio: x/y < t + ½·10⁻¹⁸ + 10⁻³⁶,
    cross-multiplied with `t` as a mantissa -/
theorem quoInt_le {x y t : Int} (hx : 0 ≤ x) (hy : 0 < y) (h : (Dec.quo (Dec.ofInt x) (Dec.ofInt y)).m ≤ t) :
    2 * x * P * P < (2 * (t * y) + y) * P + 2 * y := by
  have l := (quoInt_bounds hx hy).2
  have k := Int.mul_le_mul_of_nonneg_right h (Int.le_of_lt hy)
  generalize (Dec.quo (Dec.ofInt x) (Dec.ofInt y)).m * y = u at *
  generalize t * y = v at *
  simp only [P_val] at l ⊢
  omega

theorem Dec_max_m (a b : Dec) : (Dec.max a b).m = if a.m < b.m then b.m else a.m := by
  unfold Dec.max; split <;> rfl

/-- the deposit slippage check in exact terms: both desired/actual ratios are below
    1 + limit + ½·10⁻¹⁸ + 10⁻³⁶, cross-multiplied -/
theorem depositSlippage_real {xA xB dA dB : Int} {slip : Dec} (hxA : 0 ≤ xA) (hxB : 0 ≤ xB)
    (hdA : 0 < dA) (hdB : 0 < dB)
    (h : (Dec.sub (Dec.max (Dec.quo (Dec.ofInt xA) (Dec.ofInt dA)) (Dec.quo (Dec.ofInt xB) (Dec.ofInt dB)))
            Dec.one).m ≤ slip.m) :
    2 * xA * P * P < (2 * ((P + slip.m) * dA) + dA) * P + 2 * dA ∧
    2 * xB * P * P < (2 * ((P + slip.m) * dB) + dB) * P + 2 * dB := by
  unfold Dec.sub Dec.one at h
  simp only [Dec_max_m] at h
  -- either quotient is at most their maximum, which is at most 1 + limit
  refine ⟨quoInt_le hxA hdA ?_, quoInt_le hxB hdB ?_⟩ <;> split at h <;> omega

end KV.SW
