/-
  Helper lemmas for C12: the governance tally (app/tally_handler.go).
  The total counted power is split per validator; for a validator of the handler's set, what is counted for its
  voting delegators and derivative holders is bounded by the deductions, and what the validator votes with itself is
  its shares minus the deductions, so together at most its tokens (up to half a 10^-18 unit per rounding).
-/
import KavaVerif.Proofs.LiquidStep
set_option linter.unusedSimpArgs false
set_option linter.unusedVariables false
namespace KV.Liquid
open KV

theorem sumTo_le (n : Nat) (f g : Nat → Int) (h : ∀ v, v < n → f v ≤ g v) : sumTo n f ≤ sumTo n g := by
  induction n with
  | zero => simp [sumTo]
  | succ m ih =>
    simp only [sumTo]
    have := ih (fun v hv => h v (by omega))
    have := h m (by omega)
    omega

theorem sumTo_congr {n : Nat} {f g : Nat → Int} (h : ∀ v, v < n → f v = g v) : sumTo n f = sumTo n g :=
  Int.le_antisymm (sumTo_le n f g fun v hv => Int.le_of_eq (h v hv))
    (sumTo_le n g f fun v hv => Int.le_of_eq (h v hv).symm)

theorem sumTo_bump {n : Nat} {f : Nat → Int} {v : Nat} {d : Int} (h : v < n) : sumTo n (bump f v d) = sumTo n f + d := by
  induction n with
  | zero => omega
  | succ m ih =>
    simp only [sumTo]
    by_cases hv : v = m
    · subst hv
      rw [sumTo_congr (f := bump f v d) (g := f) fun i hi => if_neg (Nat.ne_of_lt hi)]
      simp only [bump, ite_true]; omega
    · have hne : ¬ m = v := fun e => hv e.symm
      rw [ih (by omega)]; simp only [bump, hne, ite_false]; omega

theorem sumTo_add (n : Nat) (f g : Nat → Int) : sumTo n (fun v => f v + g v) = sumTo n f + sumTo n g := by
  induction n with
  | zero => simp [sumTo]
  | succ m ih => simp only [sumTo, ih]; omega

theorem sumTo_zero (n : Nat) : sumTo n (fun _ => 0) = 0 := by
  induction n with
  | zero => rfl
  | succ m ih => simp only [sumTo, ih]; rfl

theorem sumTo_const_one (n : Nat) : sumTo n (fun _ => 1) = n := by
  induction n with
  | zero => simp [sumTo]
  | succ m ih => simp only [sumTo, ih]; omega

theorem sumTo_mul (n : Nat) (f : Nat → Int) (c : Int) : sumTo n (fun v => c * f v) = c * sumTo n f := by
  induction n with
  | zero => simp [sumTo]
  | succ m ih => simp only [sumTo, ih]; rw [Int.mul_add]

theorem tvAt_bonded_lt {vals : List TVal} {v : Nat} (h : (tvAt vals v).bonded = true) : v < vals.length := by
  unfold tvAt at h
  split at h
  · rename_i tv hv
    exact (List.getElem?_eq_some_iff.mp hv).1
  · cases h

theorem sharePower_bound (tv : TVal) (sh : Dec) (hsh : 0 ≤ sh.m) (hT : 0 ≤ tv.tokens) (hS : 0 < tv.shares.m) :
    0 ≤ (sharePower tv sh).m ∧ 2 * tv.shares.m * (sharePower tv sh).m ≤ 2 * sh.m * tv.tokens * P + tv.shares.m := by
  unfold sharePower
  have hm : 0 ≤ (sh.mulInt tv.tokens).m := Int.mul_nonneg hsh hT
  rw [quo_m_nonneg _ _ hm hS, Int.mul_assoc 2 sh.m]
  exact roundQuo_upper _ _ hm hS

theorem stakedTok_bound (tv : TVal) (amt : Int) (ha : 0 ≤ amt) (hT : 0 ≤ tv.tokens) (hS : 0 < tv.shares.m) :
    0 ≤ stakedTok tv amt ∧ tv.shares.m * (stakedTok tv amt * P) ≤ amt * P * tv.tokens * P := by
  unfold stakedTok Dec.truncateInt Dec.quoTruncate Dec.mulInt Dec.ofInt
  simp only []
  have h1 : 0 ≤ amt * P * tv.tokens * P * P :=
    Int.mul_nonneg (Int.mul_nonneg (Int.mul_nonneg (Int.mul_nonneg ha (by decide)) hT) (by decide)) (by decide)
  rw [tquo_nonneg_eq _ _ h1 (by omega)]
  generalize hN : amt * P * tv.tokens * P * P = N at h1
  have hq0 : 0 ≤ N / tv.shares.m := Int.ediv_nonneg h1 (by omega)
  rw [chopTrunc_nonneg_eq _ hq0]
  have hq1 : 0 ≤ N / tv.shares.m / P := Int.ediv_nonneg hq0 (by decide)
  rw [chopTrunc_nonneg_eq _ hq1]
  have hq2 : 0 ≤ N / tv.shares.m / P / P := Int.ediv_nonneg hq1 (by decide)
  refine ⟨hq2, ?_⟩
  have a1 : N / tv.shares.m / P / P * P ≤ N / tv.shares.m / P := Int.ediv_mul_le _ (by decide)
  have a2 : N / tv.shares.m / P * P ≤ N / tv.shares.m := Int.ediv_mul_le _ (by decide)
  have a3 : N / tv.shares.m * tv.shares.m ≤ N := Int.ediv_mul_le _ (by omega)
  generalize N / tv.shares.m / P / P = s at *
  generalize N / tv.shares.m / P = s1 at *
  generalize N / tv.shares.m = s2 at *
  generalize tv.shares.m = S at *
  have b1 : s * P * P ≤ s1 * P := Int.mul_le_mul_of_nonneg_right a1 (by decide)
  have b2 : (s * P * P) * S ≤ s2 * S := Int.mul_le_mul_of_nonneg_right (by omega) (by omega)
  have b3 : P * (S * (s * P)) ≤ P * (amt * P * tv.tokens * P) := by grind
  exact Int.le_of_mul_le_mul_left b3 (by decide)

def resSum (res : Nat → Int) : Int := res 1 + res 2 + res 3 + res 4

def wsum : List (Nat × Dec) → Int
  | [] => 0
  | (_, w) :: t => w.m + wsum t

def mulSum (p : Dec) : List (Nat × Dec) → Int
  | [] => 0
  | (_, w) :: t => (p.mul w).m + mulSum p t

/-- what x/gov's `ValidateBasic` guarantees of a weighted vote: non-negative weights adding up to one,
    no option twice (so at most four entries) -/
def OptsOK (opts : List (Nat × Dec)) : Prop := (∀ ow ∈ opts, 0 ≤ ow.2.m) ∧ wsum opts = P ∧ opts.length ≤ 4

theorem mul_nonneg_m (p w : Dec) (hp : 0 ≤ p.m) (hw : 0 ≤ w.m) : 0 ≤ (p.mul w).m := by
  unfold Dec.mul; exact chopRound_nonneg _ (Int.mul_nonneg hp hw)

/-- at most one of the four results is bumped -/
theorem resSum_bump (res : Nat → Int) (o : Nat) (d : Int) (hd : 0 ≤ d) : resSum (bump res o d) ≤ resSum res + d := by
  have hne : ∀ k, k ≠ o → bump res o d k = res k := fun k hk => if_neg hk
  have heq : ∀ k, k = o → bump res o d k = res k + d := fun k hk => if_pos hk
  unfold resSum
  by_cases h1 : 1 = o
  · subst h1; rw [heq 1 rfl, hne 2 (by decide), hne 3 (by decide), hne 4 (by decide)]; omega
  by_cases h2 : 2 = o
  · subst h2; rw [hne 1 h1, heq 2 rfl, hne 3 (by decide), hne 4 (by decide)]; omega
  by_cases h3 : 3 = o
  · subst h3; rw [hne 1 h1, hne 2 h2, heq 3 rfl, hne 4 (by decide)]; omega
  by_cases h4 : 4 = o
  · rw [hne 1 h1, hne 2 h2, hne 3 h3, heq 4 h4]; omega
  · rw [hne 1 h1, hne 2 h2, hne 3 h3, hne 4 h4]; omega

theorem aw_nonneg (p : Dec) (hp : 0 ≤ p.m) (opts : List (Nat × Dec)) (res : Nat → Int)
    (hw : ∀ ow ∈ opts, 0 ≤ ow.2.m) (h : ∀ o, 0 ≤ res o) (o : Nat) : 0 ≤ addWeighted res p opts o := by
  fun_induction addWeighted res p opts
  · exact h o
  · rename_i res o' w t ih
    refine ih (fun ow hm => hw ow (List.mem_cons_of_mem _ hm)) fun o'' => ?_
    unfold bump
    have := mul_nonneg_m p w hp (hw (o', w) List.mem_cons_self)
    have := h o''
    split <;> omega

theorem aw_resSum (p : Dec) (hp : 0 ≤ p.m) (opts : List (Nat × Dec)) (res : Nat → Int)
    (hw : ∀ ow ∈ opts, 0 ≤ ow.2.m) : resSum (addWeighted res p opts) ≤ resSum res + mulSum p opts := by
  fun_induction addWeighted res p opts
  · exact Int.le_of_eq (Int.add_zero _).symm
  · rename_i res o' w t ih
    have h1 := ih (fun ow hm => hw ow (List.mem_cons_of_mem _ hm))
    have h2 := resSum_bump res o' (p.mul w).m (mul_nonneg_m p w hp (hw (o', w) List.mem_cons_self))
    rw [mulSum]
    omega

/-- one more product rounded half-even: half an ulp more -/
theorem add_half_ulp {A B C D E U : Int} (hb : 2 * (A - B) ≤ U) (ih : C ≤ D + E) :
    2 * A + C ≤ 2 * B + D + (E + U) := by omega

theorem mulSum_bound (p : Dec) (hp : 0 ≤ p.m) (opts : List (Nat × Dec)) (hw : ∀ ow ∈ opts, 0 ≤ ow.2.m) :
    2 * P * mulSum p opts ≤ 2 * p.m * wsum opts + opts.length * P := by
  induction opts with
  | nil => simp [mulSum, wsum]
  | cons x t ih =>
    obtain ⟨o', w⟩ := x
    have hx : 0 ≤ p.m * w.m := Int.mul_nonneg hp (hw (o', w) List.mem_cons_self)
    have hb : 2 * ((p.mul w).m * P - p.m * w.m) ≤ P := by
      unfold Dec.mul; simp only []
      rw [chopRound_nonneg_eq _ hx]
      exact (chopRoundNonneg_bound _ hx).1
    rw [mulSum, wsum, List.length_cons, Int.natCast_succ, Int.mul_add, Int.mul_add (2 * p.m), Int.add_mul, Int.one_mul,
      Int.mul_assoc 2 P, Int.mul_comm P (p.mul w).m, Int.mul_assoc 2 p.m w.m]
    exact add_half_ulp hb (ih fun ow hm => hw ow (List.mem_cons_of_mem _ hm))

/-- the weighted split of a power `p ≥ 0` adds at most `p` plus half an ulp per option to the results -/
theorem aw_total (p : Dec) (hp : 0 ≤ p.m) (opts : List (Nat × Dec)) (hok : OptsOK opts) (res : Nat → Int) :
    2 * resSum (addWeighted res p opts) ≤ 2 * resSum res + 2 * p.m + 4 := by
  obtain ⟨hw, hs, hl⟩ := hok
  have h1 := aw_resSum p hp opts res hw
  have h2 := mulSum_bound p hp opts hw
  -- divide by 10^18
  rw [hs, Int.mul_right_comm, ← Int.add_mul] at h2
  have h3 := Int.le_of_mul_le_mul_right h2 P_pos
  omega

/-- the validators of the handler's set carry non-negative tokens and positive shares -/
def ValsOK (vals : List TVal) : Prop :=
  ∀ v, (tvAt vals v).bonded = true → 0 ≤ (tvAt vals v).tokens ∧ 0 < (tvAt vals v).shares.m

/-- `ValsOK` looks at the validators of the table only -/
theorem ValsOK_of_lt {vals : List TVal}
    (h : ∀ v, v < vals.length → (tvAt vals v).bonded = true → 0 ≤ (tvAt vals v).tokens ∧ 0 < (tvAt vals v).shares.m) :
    ValsOK vals := fun v hb => h v (tvAt_bonded_lt hb) hb

/-- `k` items (delegations, derivative coins) processed so far: the total is split per validator (`pw`), each part
    bounded by the deductions of that validator; `cnt` counts the half-ulp roundings per validator -/
structure TSplit (vals : List TVal) (a : TAcc) (k : Int) (pw cnt : Nat → Int) : Prop where
  total : a.total = sumTo vals.length pw
  cnt_le : sumTo vals.length cnt ≤ k
  cnt_nonneg : ∀ v, 0 ≤ cnt v
  pw_le : ∀ v, if (tvAt vals v).bonded then
      2 * (tvAt vals v).shares.m * pw v ≤ 2 * a.ded v * (tvAt vals v).tokens * P + cnt v * (tvAt vals v).shares.m
    else pw v = 0
  res_nonneg : ∀ o, 0 ≤ a.res o
  res_le : 2 * resSum a.res ≤ 2 * a.total + 4 * k
  votes : ∀ v, (a.vote v).isEmpty = false → OptsOK (a.vote v)

def TInv (vals : List TVal) (a : TAcc) (k : Int) : Prop := ∃ pw cnt, TSplit vals a k pw cnt

theorem TInv_init (vals : List TVal) : TInv vals TAcc.init 0 :=
  ⟨fun _ => 0, fun _ => 0, {
    total := (sumTo_zero _).symm
    cnt_le := Int.le_of_eq (sumTo_zero _)
    cnt_nonneg := fun _ => Int.le_refl 0
    pw_le := fun v => by
      simp only [TAcc.init]
      split
      · simp
      · trivial
    res_nonneg := fun _ => Int.le_refl 0
    res_le := Int.le_refl 0
    votes := fun v h => nomatch h }⟩

variable {g : Cfg} {vals : List TVal} {opts : List (Nat × Dec)} {a a' : TAcc} {k : Int}

theorem TInv_mono {k' : Int} (hk : k ≤ k') (h : TInv vals a k) : TInv vals a k' := by
  obtain ⟨pw, cnt, h⟩ := h
  exact ⟨pw, cnt, { h with
    cnt_le := Int.le_trans h.cnt_le hk
    res_le := Int.le_trans h.res_le (Int.add_le_add_left (Int.mul_le_mul_of_nonneg_left hk (by decide)) _) }⟩

/-- the bookkeeping of one counted item: power `p` for validator `v` of the set, `d` share-ulps deducted, `c` ∈ {0, 1}
    half-ulp roundings, `p` bounded by what `d` is worth -/
theorem TInv_add (hok : OptsOK opts) {v : Nat} (p : Dec) (d c : Int) (hb : (tvAt vals v).bonded = true)
    (hp0 : 0 ≤ p.m) (hc0 : 0 ≤ c) (hc1 : c ≤ 1)
    (hpb : 2 * (tvAt vals v).shares.m * p.m ≤ 2 * d * (tvAt vals v).tokens * P + c * (tvAt vals v).shares.m)
    (h : TInv vals a k) :
    TInv vals { a with ded := bump a.ded v d, res := addWeighted a.res p opts, total := a.total + p.m } (k + 1) := by
  obtain ⟨pw, cnt, h⟩ := h
  have hlt := tvAt_bonded_lt hb
  refine ⟨bump pw v p.m, bump cnt v c, ?_, ?_, fun w => ?_, fun w => ?_, aw_nonneg _ hp0 opts a.res hok.1 h.res_nonneg,
    ?_, h.votes⟩
  · show a.total + p.m = _; rw [sumTo_bump hlt, h.total]
  · rw [sumTo_bump hlt]; exact Int.add_le_add h.cnt_le hc1
  · unfold bump; split
    · exact Int.add_nonneg (h.cnt_nonneg w) hc0
    · exact h.cnt_nonneg w
  · have a3 := h.pw_le w
    by_cases hw : w = v
    · subst hw
      simp only [bump, ite_true, hb] at a3 ⊢
      rw [Int.mul_add, Int.mul_add 2, Int.add_mul, Int.add_mul, Int.add_mul, Int.add_assoc,
        Int.add_left_comm (2 * d * _ * P), ← Int.add_assoc]
      exact Int.add_le_add a3 hpb
    · simp only [bump, hw, ite_false]
      exact a3
  · show 2 * resSum (addWeighted a.res p opts) ≤ 2 * (a.total + p.m) + 4 * (k + 1)
    have := aw_total _ hp0 opts hok a.res
    have h6 := h.res_le
    generalize resSum (addWeighted a.res p opts) = x at this ⊢
    generalize resSum a.res = y at this h6
    omega

theorem delStep_inv (hv : ValsOK vals) (hok : OptsOK opts) (v : Nat) {sh : Dec} (hsh : 0 ≤ sh.m)
    (h : TInv vals a k) : TInv vals (delStep vals opts a v sh) (k + 1) := by
  unfold delStep
  by_cases hb : (tvAt vals v).bonded = true
  · rw [if_pos hb]
    obtain ⟨hT, hS⟩ := hv v hb
    obtain ⟨hp0, hpb⟩ := sharePower_bound (tvAt vals v) sh hsh hT hS
    exact TInv_add hok _ sh.m 1 hb hp0 (by decide) (Int.le_refl 1) (by rw [Int.one_mul]; exact hpb) h
  · rw [if_neg hb]
    exact TInv_mono (by omega) h

theorem delLoop_inv (hv : ValsOK vals) (hok : OptsOK opts) (dels : List (Nat × Dec)) (hd : ∀ x ∈ dels, 0 ≤ x.2.m)
    (h : TInv vals a k) : TInv vals (delLoop vals opts a dels) (k + dels.length) := by
  fun_induction delLoop vals opts a dels generalizing k
  · exact (Int.add_zero k).symm ▸ h
  · rename_i a v sh t ih
    rw [List.length_cons, Int.natCast_succ, Int.add_left_comm, Int.add_comm _ (k + 1)]
    exact ih (fun y hy => hd y (List.mem_cons_of_mem _ hy)) (delStep_inv hv hok v (hd _ List.mem_cons_self) h)

theorem bkStep_inv (hv : ValsOK vals) (hok : OptsOK opts) {v : Nat} {amt : Int} (hamt : 0 ≤ amt)
    (hin : (tvAt vals v).bonded = true ∨ g.tallySkipUnbonded = true)
    (h : TInv vals a k) (hs : bkStep g vals opts a v amt = some a') : TInv vals a' (k + 1) := by
  unfold bkStep at hs
  simp only [] at hs
  by_cases hskip : g.tallySkipUnbonded = true ∧ (tvAt vals v).bonded = false
  · rw [if_pos hskip] at hs; cases hs
    exact TInv_mono (by omega) h
  · rw [if_neg hskip] at hs
    have hb : (tvAt vals v).bonded = true := by
      rcases hin with hb | hg
      · exact hb
      · cases hbb : (tvAt vals v).bonded with
        | true => rfl
        | false => exact absurd ⟨hg, hbb⟩ hskip
    split at hs
    · cases hs
    · split at hs
      · cases hs
      · cases hs
        obtain ⟨hT, hS⟩ := hv v hb
        obtain ⟨hs0, hsb⟩ := stakedTok_bound (tvAt vals v) amt hamt hT hS
        simp only [hb, ite_true]
        refine TInv_add hok (Dec.ofInt (stakedTok (tvAt vals v) amt)) (amt * P) 0 hb
          (Int.mul_nonneg hs0 (by decide)) (Int.le_refl 0) (by decide) ?_ h
        show 2 * (tvAt vals v).shares.m * (stakedTok (tvAt vals v) amt * P) ≤ _
        rw [Int.zero_mul, Int.add_zero, Int.mul_assoc 2, Int.mul_assoc 2, Int.mul_assoc 2]
        exact Int.mul_le_mul_of_nonneg_left hsb (by decide)

theorem bkLoop_inv (hv : ValsOK vals) (hok : OptsOK opts) (coins : List (Nat × Int))
    (hc : ∀ x ∈ coins, 0 ≤ x.2 ∧ ((tvAt vals x.1).bonded = true ∨ g.tallySkipUnbonded = true)) (h : TInv vals a k)
    (hs : bkLoop g vals opts a coins = some a') : TInv vals a' (k + coins.length) := by
  fun_induction bkLoop g vals opts a coins generalizing k
  · cases hs; exact (Int.add_zero k).symm ▸ h
  · cases hs
  · rename_i a v amt t a1 hs1 ih
    rw [List.length_cons, Int.natCast_succ, Int.add_left_comm, Int.add_comm _ (k + 1)]
    have hx := hc (v, amt) List.mem_cons_self
    exact ih (fun y hy => hc y (List.mem_cons_of_mem _ hy)) (bkStep_inv hv hok hx.1 hx.2 h hs1) hs

/-- derivative units of validator `v` the voter holds in wallet + savings + earn -/
def heldOf (t : TVote) (v : Nat) : Int := amountOf t.wallet v + amountOf t.savings v + amountOf t.earn v

theorem addrBkava_fst (l : List Nat) (t : TVote) :
    (l.filterMap fun v => if heldOf t v > 0 then some (v, heldOf t v) else none).map Prod.fst
      = l.filter (fun v => decide (heldOf t v > 0)) := by
  induction l with
  | nil => rfl
  | cons x xs ih =>
    simp only [List.filterMap_cons, List.filter_cons]
    by_cases h : heldOf t x > 0
    · simp only [h, ite_true, List.map_cons, decide_true, ih]
    · simp only [h, ite_false, decide_false, ih]; rfl

/-- `getAddrBkava`: each validator's derivative appears exactly once, with wallet, savings and earn added up -/
theorem addrBkava_spec (n : Nat) (t : TVote) :
    ((addrBkava n t).map Prod.fst).Nodup ∧
    ∀ x, x ∈ addrBkava n t ↔ (x.1 < n ∧ x.2 = heldOf t x.1 ∧ 0 < x.2) := by
  have e : addrBkava n t = (List.range n).filterMap fun v => if heldOf t v > 0 then some (v, heldOf t v) else none := rfl
  constructor
  · rw [e, addrBkava_fst]
    exact List.Nodup.sublist List.filter_sublist List.nodup_range
  · intro x
    rw [e, List.mem_filterMap]
    constructor
    · rintro ⟨v, hv, hx⟩
      split at hx
      · cases hx; exact ⟨List.mem_range.mp hv, rfl, by assumption⟩
      · cases hx
    · rintro ⟨h1, h2, h3⟩
      refine ⟨x.1, List.mem_range.mpr h1, ?_⟩
      have : heldOf t x.1 > 0 := by omega
      rw [if_pos this, ← h2]

/-- what the stores guarantee of a vote: options validated by x/gov, non-negative delegation shares; and — the
    hypothesis of the partial theorem, automatic for the repaired code — every derivative the voter holds belongs to
    a validator of the handler's set -/
def VoteOK (g : Cfg) (vals : List TVal) (t : TVote) : Prop :=
  OptsOK t.opts ∧ (∀ x ∈ t.dels, 0 ≤ x.2.m) ∧
  (∀ x ∈ addrBkava vals.length t, (tvAt vals x.1).bonded = true ∨ g.tallySkipUnbonded = true)

/-- number of delegations and derivative coins looked at -/
def itemsOf (vals : List TVal) : List TVote → Int
  | [] => 0
  | t :: ts => (t.dels.length : Int) + ((addrBkava vals.length t).length : Int) + itemsOf vals ts

theorem voteStep_inv (hv : ValsOK vals) {t : TVote}
    (hok : VoteOK g vals t) (h : TInv vals a k) (hs : voteStep g vals a t = some a') :
    TInv vals a' (k + (t.dels.length : Int) + ((addrBkava vals.length t).length : Int)) := by
  obtain ⟨ho, hd, hb⟩ := hok
  unfold voteStep at hs
  simp only [] at hs
  have h1 : TInv vals (match t.oper with
      | some v => if inMap vals v then { a with vote := fun x => if x = v then t.opts else a.vote x } else a
      | none => a) k := by
    split
    · split
      · rename_i v _ hin
        obtain ⟨pw, cnt, h⟩ := h
        refine ⟨pw, cnt, { h with votes := fun w hw => ?_ }⟩
        simp only [] at hw ⊢
        by_cases hwv : w = v
        · simp only [hwv, ite_true] at hw ⊢; exact ho
        · simp only [hwv, ite_false] at hw ⊢; exact h.votes w hw
      · exact h
    · exact h
  exact bkLoop_inv hv ho _ (fun x hx => ⟨Int.le_of_lt (((addrBkava_spec _ t).2 x).mp hx).2.2, hb x hx⟩)
    (delLoop_inv hv ho t.dels hd h1) hs

theorem voteLoop_inv (hv : ValsOK vals) (votes : List TVote) (hok : ∀ t ∈ votes, VoteOK g vals t) (h : TInv vals a k)
    (hs : voteLoop g vals a votes = some a') : TInv vals a' (k + itemsOf vals votes) := by
  fun_induction voteLoop g vals a votes generalizing k
  · cases hs; exact (Int.add_zero k).symm ▸ h
  · cases hs
  · rename_i a t ts a1 hs1 ih
    rw [itemsOf, ← Int.add_assoc, ← Int.add_assoc]
    exact ih (fun y hy => hok y (List.mem_cons_of_mem _ hy)) (voteStep_inv hv (hok t List.mem_cons_self) h hs1) hs

/-- the power a validator of the set votes with itself: its shares minus the deductions -/
def resid (vals : List TVal) (a : TAcc) (v : Nat) : Int :=
  if (tvAt vals v).bonded ∧ ¬ (a.vote v).isEmpty then
    (sharePower (tvAt vals v) ⟨(tvAt vals v).shares.m - a.ded v⟩).m
  else 0

/-- deductions never exceed the validator's shares (what backing + x/staking's share accounting give) -/
def DedOK (vals : List TVal) (a : TAcc) : Prop :=
  ∀ v, (tvAt vals v).bonded = true → a.ded v ≤ (tvAt vals v).shares.m

theorem resid_bound (hv : ValsOK vals) (hd : DedOK vals a) (v : Nat) :
    0 ≤ resid vals a v ∧ (resid vals a v = 0 ∨ 2 * (tvAt vals v).shares.m * resid vals a v ≤
      2 * ((tvAt vals v).shares.m - a.ded v) * (tvAt vals v).tokens * P + (tvAt vals v).shares.m) := by
  unfold resid
  split
  · rename_i h
    obtain ⟨hT, hS⟩ := hv v h.1
    have := sharePower_bound (tvAt vals v) ⟨(tvAt vals v).shares.m - a.ded v⟩ (Int.sub_nonneg_of_le (hd v h.1)) hT hS
    exact ⟨this.1, Or.inr this.2⟩
  · exact ⟨Int.le_refl 0, Or.inl rfl⟩

theorem valLoop_inv (vals : List TVal) (hv : ValsOK vals) (a : TAcc) (k : Int) (hd : DedOK vals a)
    (hres : ∀ o, 0 ≤ a.res o) (hsum : 2 * resSum a.res ≤ 2 * a.total + 4 * k)
    (hvote : ∀ v, (a.vote v).isEmpty = false → OptsOK (a.vote v)) (m : Nat) :
    (valLoop vals a m).total = a.total + sumTo m (resid vals a) ∧ (∀ o, 0 ≤ (valLoop vals a m).res o) ∧
    2 * resSum (valLoop vals a m).res ≤ 2 * (valLoop vals a m).total + 4 * (k + m) := by
  induction m with
  | zero => exact ⟨(Int.add_zero _).symm, hres, by show _ ≤ _ + 4 * (k + 0); rw [Int.add_zero]; exact hsum⟩
  | succ j ih =>
    obtain ⟨i1, i2, i3⟩ := ih
    have e : ((j + 1 : Nat) : Int) = (j : Int) + 1 := rfl
    simp only [valLoop, sumTo]
    unfold valStep
    simp only []
    by_cases hc : (tvAt vals j).bonded ∧ ¬ (a.vote j).isEmpty
    · rw [if_pos hc]
      have hb : (tvAt vals j).bonded = true := hc.1
      obtain ⟨hT, hS⟩ := hv j hb
      have hr : resid vals a j = (sharePower (tvAt vals j) ⟨(tvAt vals j).shares.m - a.ded j⟩).m := by
        unfold resid; rw [if_pos hc]
      have hp0 := (resid_bound hv hd j).1
      rw [hr] at hp0
      have hok := hvote j (by simpa using hc.2)
      refine ⟨by simp only []; rw [i1, hr, Int.add_assoc], aw_nonneg _ hp0 _ _ hok.1 i2, ?_⟩
      simp only []
      have := aw_total _ hp0 _ hok (valLoop vals a j).res
      rw [e]
      generalize resSum (addWeighted _ _ _) = x at this ⊢
      generalize resSum (valLoop vals a j).res = y at this i3
      generalize (valLoop vals a j).total = t at i3 ⊢
      omega
    · rw [if_neg hc]
      have hr : resid vals a j = 0 := by unfold resid; rw [if_neg hc]
      refine ⟨by rw [i1, hr, Int.add_zero], i2, ?_⟩
      rw [e, ← Int.add_assoc, Int.mul_add, ← Int.add_assoc]
      exact Int.le_trans i3 (Int.le_add_of_nonneg_right (show (0:Int) ≤ 4 * 1 by decide))

/-- per validator: what was counted for its delegators and derivative holders plus what it votes with itself is at
    most its tokens, up to half an ulp per rounding -/
theorem per_val_bound (S T ded cnt pw r : Int) (hS : 0 < S) (hT : 0 ≤ T) (hdS : ded ≤ S)
    (hA : 2 * S * pw ≤ 2 * ded * T * P + cnt * S) (hr0 : 0 ≤ r)
    (hR : r = 0 ∨ 2 * S * r ≤ 2 * (S - ded) * T * P + S) : 2 * (pw + r) ≤ 2 * (P * T) + cnt + 1 := by
  have hTP : 0 ≤ T * P := Int.mul_nonneg hT (by decide)
  have h1 : 0 ≤ (S - ded) * (T * P) := Int.mul_nonneg (by omega) hTP
  have key : S * (2 * (pw + r)) ≤ S * (2 * (P * T) + cnt + 1) := by
    rcases hR with h0 | hR
    · subst h0; grind
    · grind
  exact Int.le_of_mul_le_mul_left key hS

theorem tally_total_bound (hv : ValsOK vals) (h : TInv vals a k)
    (hd : DedOK vals a) :
    2 * (valLoop vals a vals.length).total ≤ 2 * (bondedTotal vals * P) + k + vals.length ∧
    (∀ o, 0 ≤ (valLoop vals a vals.length).res o) ∧
    2 * resSum (valLoop vals a vals.length).res ≤ 2 * (bondedTotal vals * P) + 5 * (k + vals.length) := by
  obtain ⟨pw, cnt, h⟩ := h
  obtain ⟨t1, t2, t3⟩ := valLoop_inv vals hv a k hd h.res_nonneg h.res_le h.votes vals.length
  have hpt : ∀ v, v < vals.length →
      2 * (pw v + resid vals a v) ≤ 2 * (P * if (tvAt vals v).bonded then (tvAt vals v).tokens else 0) + cnt v + 1 := by
    intro v _
    have a3 := h.pw_le v
    by_cases hb : (tvAt vals v).bonded = true
    · rw [if_pos hb] at a3; rw [if_pos hb]
      obtain ⟨hT, hS⟩ := hv v hb
      obtain ⟨hr0, hR⟩ := resid_bound hv hd v
      exact per_val_bound _ _ _ _ _ _ hS hT (hd v hb) a3 hr0 hR
    · have hbf : (tvAt vals v).bonded = false := by simpa using hb
      rw [hbf] at a3; simp only [Bool.false_eq_true, ite_false] at a3
      have hr : resid vals a v = 0 := by unfold resid; simp [hbf]
      rw [hr, a3, hbf]; simp only [Bool.false_eq_true, ite_false]
      have := h.cnt_nonneg v; omega
  have hsum : 2 * (a.total + sumTo vals.length (resid vals a)) ≤ 2 * (bondedTotal vals * P) + sumTo vals.length cnt + vals.length := by
    rw [h.total, ← sumTo_add, ← sumTo_mul]
    have := sumTo_le vals.length _ _ hpt
    have e : sumTo vals.length (fun v => 2 * (P * if (tvAt vals v).bonded then (tvAt vals v).tokens else 0) + cnt v + 1)
        = 2 * (bondedTotal vals * P) + sumTo vals.length cnt + vals.length := by
      rw [sumTo_add, sumTo_add, sumTo_const_one, sumTo_mul, sumTo_mul, Int.mul_comm P]; rfl
    rw [e] at this; exact this
  rw [t1] at t3 ⊢
  refine ⟨Int.le_trans hsum (Int.add_le_add_right (Int.add_le_add_left h.cnt_le _) _), t2, ?_⟩
  have h2 := h.cnt_le
  clear hpt h t2 t1
  generalize resSum (valLoop vals a vals.length).res = x at t3 ⊢
  generalize a.total + sumTo vals.length (resid vals a) = y at t3 hsum
  generalize sumTo vals.length cnt = c at h2 hsum
  generalize bondedTotal vals * P = b at hsum ⊢
  omega

/-- number of Dec roundings a tally can perform, up to the factor 5 -/
def tallyItems (vals : List TVal) (votes : List TVote) : Int := itemsOf vals votes + vals.length

theorem tally_bounds (g : Cfg) (vals : List TVal) (votes : List TVote) (o : TallyOut) (hv : ValsOK vals)
    (hok : ∀ t ∈ votes, VoteOK g vals t)
    (hd : ∀ a, voteLoop g vals TAcc.init votes = some a → DedOK vals a)
    (h : tally g vals votes = some o) :
    2 * o.total ≤ 2 * (bondedTotal vals * P) + tallyItems vals votes ∧
    2 * (o.counted * P) ≤ 2 * (bondedTotal vals * P) + 5 * tallyItems vals votes := by
  unfold tally at h
  split at h
  · cases h
  · rename_i a ha
    cases h
    have hinv := voteLoop_inv hv votes hok (TInv_init vals) ha
    have e0 : (0 : Int) + itemsOf vals votes = itemsOf vals votes := by omega
    rw [e0] at hinv
    obtain ⟨b1, b2, b3⟩ := tally_total_bound hv hinv (hd a ha)
    unfold tallyItems
    refine ⟨by simp only []; omega, ?_⟩
    unfold TallyOut.counted
    simp only []
    have c1 := chopTrunc_mul_le (b2 1)
    have c2 := chopTrunc_mul_le (b2 2)
    have c3 := chopTrunc_mul_le (b2 3)
    have c4 := chopTrunc_mul_le (b2 4)
    unfold resSum at b3
    rw [Int.add_mul, Int.add_mul, Int.add_mul]
    exact Int.le_trans
      (Int.mul_le_mul_of_nonneg_left (Int.add_le_add (Int.add_le_add (Int.add_le_add c1 c2) c3) c4) (by decide)) b3

/-- the integer TallyResult never exceeds the tokens of the handler's validator set (unless a single tally
    performs more than 4·10^17 roundings) -/
theorem tally_counted_le {votes : List TVote} {o : TallyOut} (hv : ValsOK vals)
    (hok : ∀ t ∈ votes, VoteOK g vals t)
    (hd : ∀ a, voteLoop g vals TAcc.init votes = some a → DedOK vals a)
    (hsmall : 5 * tallyItems vals votes < 2 * P)
    (h : tally g vals votes = some o) : o.counted ≤ bondedTotal vals := by
  have := (tally_bounds g vals votes o hv hok hd h).2
  rcases Int.lt_or_le (bondedTotal vals) o.counted with hlt | hle
  · have h1 : (bondedTotal vals + 1) * P ≤ o.counted * P := Int.mul_le_mul_of_nonneg_right (by omega) (by decide)
    have e : (bondedTotal vals + 1) * P = bondedTotal vals * P + P := by rw [Int.add_mul, Int.one_mul]
    omega
  · exact hle

/-- one derivative coin of a validator of the set: its truncated token value is added to the total once and the same
    units are deducted from the validator's inherited shares -/
theorem bkStep_effect (g : Cfg) (vals : List TVal) (opts : List (Nat × Dec)) (a : TAcc) (v : Nat) (x : Int)
    (hb : (tvAt vals v).bonded = true) (hS : (tvAt vals v).shares.m ≠ 0) :
    ∃ a', bkStep g vals opts a v x = some a' ∧ a'.total = a.total + stakedTok (tvAt vals v) x * P ∧
      a'.ded = bump a.ded v (x * P) ∧ a'.vote = a.vote := by
  have hlt := tvAt_bonded_lt hb
  have hsome : vals[v]?.isNone = false := by
    cases hc : vals[v]? with
    | none => unfold tvAt at hb; rw [hc] at hb; cases hb
    | some _ => rfl
  unfold bkStep
  simp only [hb, hsome, hS, Bool.true_eq_false, and_false, ite_false, ite_true, Bool.false_eq_true]
  exact ⟨_, rfl, rfl, rfl, rfl⟩

theorem bkStep_some (g : Cfg) (hg : g.tallySkipUnbonded = true) (vals : List TVal) (hv : ValsOK vals)
    (opts : List (Nat × Dec)) (a : TAcc) (v : Nat) (x : Int) : ∃ a', bkStep g vals opts a v x = some a' := by
  cases hb : (tvAt vals v).bonded with
  | false =>
    refine ⟨a, ?_⟩
    unfold bkStep; simp only [hg, hb, and_self, ite_true]
  | true =>
    obtain ⟨a', h, -⟩ := bkStep_effect g vals opts a v x hb (by have := (hv v hb).2; omega)
    exact ⟨a', h⟩

theorem bkLoop_some (hg : g.tallySkipUnbonded = true) (hv : ValsOK vals) (coins : List (Nat × Int)) :
    ∃ a', bkLoop g vals opts a coins = some a' := by
  fun_induction bkLoop g vals opts a coins
  · exact ⟨_, rfl⟩
  · rename_i a v amt t h
    obtain ⟨a1, h1⟩ := bkStep_some g hg vals hv opts a v amt
    rw [h] at h1; cases h1
  · assumption

theorem voteLoop_some (hg : g.tallySkipUnbonded = true) (hv : ValsOK vals) (votes : List TVote) :
    ∃ a', voteLoop g vals a votes = some a' := by
  fun_induction voteLoop g vals a votes
  · exact ⟨_, rfl⟩
  · rename_i a t ts h
    obtain ⟨a1, h1⟩ : ∃ a1, voteStep g vals a t = some a1 := bkLoop_some hg hv _
    rw [h] at h1; cases h1
  · assumption

theorem tally_some (g : Cfg) (hg : g.tallySkipUnbonded = true) (vals : List TVal) (hv : ValsOK vals)
    (votes : List TVote) : ∃ o, tally g vals votes = some o := by
  obtain ⟨a, ha⟩ := voteLoop_some (a := TAcc.init) hg hv votes
  unfold tally; rw [ha]; exact ⟨_, rfl⟩
end KV.Liquid
