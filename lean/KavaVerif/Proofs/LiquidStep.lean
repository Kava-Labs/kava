/-
  Helper lemmas for C12: single-step facts that need the share/token arithmetic —
  no empty delegation, and the value of a holder's stake before and after a conversion.
-/
import KavaVerif.Proofs.LiquidHist
set_option linter.unusedSimpArgs false
set_option linter.unusedVariables false
namespace KV.Liquid
open KV

/-- the part of the loss that comes from the token left behind by the truncation in `RemoveDelShares` -/
theorem value_B (T S sh r T' S' : Int) (hT : 0 ≤ T) (hS : 0 < S) (hsh : 0 < sh) (hS' : 1 ≤ S') (hS'def : S' = S - sh)
    (hT'1 : 1 ≤ T') (hT'T : T' ≤ T)
    (F1 : (sh - r) * T' ≤ S + T' - 2) (F2 : S' * T - T' + 1 ≤ (S' + r) * T') :
    T * (sh - r) * S' ≤ S * (S' + r) + S * T := by
  have hTS' : 0 ≤ T * S' := Int.mul_nonneg hT (by omega)
  have k1 : (T * S') * ((sh - r) * T') ≤ (T * S') * (S + T' - 2) := Int.mul_le_mul_of_nonneg_left F1 hTS'
  have k2 : S * (S' * T - T' + 1) ≤ S * ((S' + r) * T') := Int.mul_le_mul_of_nonneg_left F2 (by omega)
  have hTsh : 0 ≤ T * sh := Int.mul_nonneg hT (by omega)
  have key : T * S' * (S + T' - 2) ≤ S * (S' * T - T' + 1) + S * T * T' := by
    rcases Int.lt_or_le T' 2 with h1 | h2
    · have : T' = 1 := by omega
      subst this
      have : T * sh ≤ T * S := Int.mul_le_mul_of_nonneg_left (by omega) hT
      subst hS'def
      grind
    · have p1 : (T * sh) * 2 ≤ (T * sh) * T' := Int.mul_le_mul_of_nonneg_left h2 hTsh
      have p2 : S * T' ≤ S * T := Int.mul_le_mul_of_nonneg_left hT'T (by omega)
      have p3 : 0 ≤ T * S := Int.mul_nonneg hT (by omega)
      subst hS'def
      grind
  have fin : T' * (T * (sh - r) * S') ≤ T' * (S * (S' + r) + S * T) := by grind
  exact Int.le_of_mul_le_mul_left fin (by omega)

/-- the part of a possible gain that comes from the half-even rounding in `TokensFromShares` -/
theorem value_G (T S sh r T' S' : Int) (hT : 1 ≤ T) (hS : 0 < S) (hS' : 1 ≤ S')
    (hT'1 : 1 ≤ T')
    (F3 : (r - sh) * T' ≤ S) (F2 : S' * T - T' + 1 ≤ (S' + r) * T') (hsane : 2 * (T' - 1) < S') :
    T * (r - sh) * S' ≤ 2 * S * (S' + r) := by
  have hTS' : 0 ≤ T * S' := Int.mul_nonneg (by omega) (by omega)
  have k1 : (T * S') * ((r - sh) * T') ≤ (T * S') * S := Int.mul_le_mul_of_nonneg_left F3 hTS'
  have k2 : (2 * S) * (S' * T - T' + 1) ≤ (2 * S) * ((S' + r) * T') := Int.mul_le_mul_of_nonneg_left F2 (by omega)
  have k3 : S' * 1 ≤ S' * T := Int.mul_le_mul_of_nonneg_left hT (by omega)
  have k4 : S * (2 * T') ≤ S * (S' * T + 2) := Int.mul_le_mul_of_nonneg_left (by omega) (by omega)
  have fin : T' * (T * (r - sh) * S') ≤ T' * (2 * S * (S' + r)) := by grind
  exact Int.le_of_mul_le_mul_left fin (by omega)

/-- `amt` tokens move for `sh` shares (`h_lo`, `hx`) and `r` shares are issued for them (`hr1`, `hr2`): how far `r`
    is from `sh`, counted in tokens after the removal -/
theorem moved_issued {T S sh amt r : Int}
    (h_lo : sh * T < (amt + 1) * S) (hx : amt * S - sh * T ≤ S)
    (hr1 : r * (T - amt) ≤ (S - sh) * amt) (hr2 : (S - sh) * amt < (r + 1) * (T - amt)) :
    (sh - r) * (T - amt) ≤ S + (T - amt) - 2 ∧ (S - sh) * T - (T - amt) + 1 ≤ (S - sh + r) * (T - amt) ∧
    (r - sh) * (T - amt) ≤ S := by
  have e2 : r * (T - amt) = r * T - r * amt := Int.mul_sub ..
  have e3 : (S - sh) * amt = amt * S - sh * amt := by rw [Int.sub_mul, Int.mul_comm S]
  rw [Int.add_mul, Int.one_mul] at h_lo hr2
  rw [e2, e3] at hr1 hr2
  rw [Int.add_mul, Int.sub_mul sh, Int.sub_mul r, Int.mul_sub (S - sh), Int.mul_sub sh, e2, e3]
  clear e2 e3
  -- linear in the products (naming them first keeps `omega` from comparing the products with each other)
  generalize amt * S = a at *
  generalize sh * T = b at *
  generalize sh * amt = c at *
  generalize r * T = d at *
  generalize r * amt = e at *
  generalize (S - sh) * T = g at *
  omega

/-- Core of the value theorems: `sh` shares (mantissa) leave the holder, `amt` tokens are moved, `r` shares arrive,
    the holder's claim goes from `H` to `H − (sh − r) − f` share-ulps (`f` = the fraction of a derivative unit lost
    to the floor on minting, 0 on burning).  `X` is any number with `S'' ≤ X` and `T·f ≤ X − T` (for a mint:
    `X = max(S'', T·10^18)`, since f < 10^18).  Valued at tokens/shares before and after:
    loss ≤ S·S'' + S·X, gain ≤ 2·S·S'' (≤ S·S'' + S·X). -/
theorem value_core_rate (T S sh amt r H f X : Int) (hS : 0 < S) (hsh : 0 < sh) (hS' : 1 ≤ S - sh)
    (hamt0 : 0 ≤ amt) (hT' : 1 ≤ T - amt) (hr0 : 0 ≤ r)
    (h_lo : sh * T < (amt + 1) * S) (h_up : 2 * P * (amt * S - sh * T) ≤ S)
    (hr1 : r * (T - amt) ≤ (S - sh) * amt) (hr2 : (S - sh) * amt < (r + 1) * (T - amt))
    (hsane : 2 * (T - amt - 1) < S - sh)
    (hH1 : sh ≤ H) (hH2 : H ≤ S) (hf0 : 0 ≤ f) (hX : S - sh + r ≤ X) (hA : T * f ≤ X - T) :
    H * T * (S - sh + r) - (H - (sh - r) - f) * T * S ≤ S * (S - sh + r) + S * X ∧
    (H - (sh - r) - f) * T * S - H * T * (S - sh + r) ≤ 2 * S * (S - sh + r) ∧
    (H - (sh - r) - f) * T * S - H * T * (S - sh + r) ≤ S * (S - sh + r) + S * X := by
  have hx : amt * S - sh * T ≤ S := by
    generalize amt * S - sh * T = x at h_up
    simp only [P_val] at h_up
    omega
  obtain ⟨F1, F2, F3⟩ := moved_issued h_lo hx hr1 hr2
  clear h_lo h_up hr1 hr2 hx
  have hS0 : 0 ≤ S := Int.le_of_lt hS
  have hT1 : 1 ≤ T := by omega
  have hT0 : 0 ≤ T := Int.le_trans (by decide) hT1
  have hSS : 0 ≤ S * (S - sh + r) := Int.mul_nonneg hS0 (Int.add_nonneg (Int.le_trans (by decide) hS') hr0)
  have hST : 0 ≤ S * T := Int.mul_nonneg hS0 hT0
  have e : 2 * S * (S - sh + r) = 2 * (S * (S - sh + r)) := Int.mul_assoc ..
  -- the part of the change that comes from δ = sh − r
  have hd : -(2 * (S * (S - sh + r))) ≤ T * (sh - r) * (S - H) ∧
      T * (sh - r) * (S - H) ≤ S * (S - sh + r) + S * T := by
    rcases Int.lt_or_le 0 (sh - r) with hd | hd
    · have hB := value_B T S sh r (T - amt) (S - sh) hT0 hS hsh hS' rfl hT' (Int.sub_le_self T hamt0) F1 F2
      have hTd : 0 ≤ T * (sh - r) := Int.mul_nonneg hT0 (Int.le_of_lt hd)
      have hm : T * (sh - r) * (S - H) ≤ T * (sh - r) * (S - sh) :=
        Int.mul_le_mul_of_nonneg_left (Int.sub_le_sub_left hH1 S) hTd
      have hm0 : 0 ≤ T * (sh - r) * (S - H) := Int.mul_nonneg hTd (Int.sub_nonneg_of_le hH2)
      exact ⟨Int.le_trans (Int.neg_nonpos_of_nonneg (Int.mul_nonneg (by decide) hSS)) hm0, Int.le_trans hm hB⟩
    · have hG := value_G T S sh r (T - amt) (S - sh) hT1 hS hS' hT' F3 F2 hsane
      have hTd : 0 ≤ T * (r - sh) := Int.mul_nonneg hT0 (Int.sub_nonneg_of_le (Int.le_of_sub_nonpos hd))
      have hm : T * (r - sh) * (S - H) ≤ T * (r - sh) * (S - sh) :=
        Int.mul_le_mul_of_nonneg_left (Int.sub_le_sub_left hH1 S) hTd
      have hm0 : 0 ≤ T * (r - sh) * (S - H) := Int.mul_nonneg hTd (Int.sub_nonneg_of_le hH2)
      rw [← Int.neg_sub r sh, Int.mul_neg, Int.neg_mul]
      exact ⟨Int.neg_le_neg (Int.le_trans hm (e ▸ hG)),
        Int.le_trans (Int.neg_nonpos_of_nonneg hm0) (Int.add_nonneg hSS hST)⟩
  clear F1 F2 F3
  -- H·S'' − H'·S = δ·(S − H) + f·S
  have idL : H * T * (S - sh + r) - (H - (sh - r) - f) * T * S = T * (sh - r) * (S - H) + T * f * S := by grind
  have hTf : T * f * S ≤ S * X - S * T := by
    have : S * (T * f) ≤ S * (X - T) := Int.mul_le_mul_of_nonneg_left hA hS0
    rw [Int.mul_sub] at this; rw [Int.mul_comm (T * f)]; exact this
  have hSX : S * (S - sh + r) ≤ S * X := Int.mul_le_mul_of_nonneg_left hX hS0
  have hTfS : 0 ≤ T * f * S := Int.mul_nonneg (Int.mul_nonneg hT0 hf0) hS0
  rw [e]
  clear hsane hH1 hH2 hX hA hS' hT' hamt0 hr0 hsh
  generalize H * T * (S - sh + r) = p1 at *
  generalize (H - (sh - r) - f) * T * S = p2 at *
  generalize T * (sh - r) * (S - H) = a at *
  generalize S * (S - sh + r) = w at *
  omega

/-- `value_core_rate` while one share is worth at most one token after the operation (`X = S''`): the change is at
    most two base units, both ways. -/
theorem value_core (T S sh amt r H f : Int) (hS : 0 < S) (hsh : 0 < sh) (hS' : 1 ≤ S - sh)
    (hamt0 : 0 ≤ amt) (hT' : 1 ≤ T - amt) (hr0 : 0 ≤ r)
    (h_lo : sh * T < (amt + 1) * S) (h_up : 2 * P * (amt * S - sh * T) ≤ S)
    (hr1 : r * (T - amt) ≤ (S - sh) * amt) (hr2 : (S - sh) * amt < (r + 1) * (T - amt))
    (hsane : 2 * (T - amt - 1) < S - sh)
    (hH1 : sh ≤ H) (hH2 : H ≤ S) (hf0 : 0 ≤ f) (hA : T * f ≤ S - sh + r - T) :
    H * T * (S - sh + r) - (H - (sh - r) - f) * T * S ≤ 2 * S * (S - sh + r) ∧
    (H - (sh - r) - f) * T * S - H * T * (S - sh + r) ≤ 2 * S * (S - sh + r) := by
  have h := value_core_rate T S sh amt r H f (S - sh + r) hS hsh hS' hamt0 hT' hr0 h_lo h_up hr1 hr2 hsane hH1 hH2 hf0
    (Int.le_refl _) hA
  rw [Int.mul_assoc 2 S]
  generalize S * (S - sh + r) = w at *
  omega

/-- the validator's exchange rate is sane: one share-ulp (10^-18 share) is worth at most half a token -/
def SaneRate (c : VSt) : Prop := ∀ v, c.val = some v → 2 * v.tokens ≤ v.shares.m

/-- the shares are worth at least one token at the validator's rate -/
def WorthOneToken (c : VSt) (sh : Dec) : Prop := ∀ v, c.val = some v → v.shares.m ≤ sh.m * v.tokens

/-- `RemoveDelShares` on a validator with a sane rate, as arithmetic: either all shares leave with all the tokens,
    or `amt` = ⌊round₁₈(sh·T/S)⌋ tokens leave and the rate stays sane (S' > 2·(T' − 1)). -/
theorem removeDelShares_arith {v v2 : Val} {sh : Dec} {amt : Int} (hT : 0 ≤ v.tokens) (hs : 0 < sh.m)
    (hle : sh.m ≤ v.shares.m) (hrt : 2 * v.tokens ≤ v.shares.m) (h : v.removeDelShares sh = some (v2, amt)) :
    v2 = { v with tokens := v.tokens - amt, shares := v.shares.sub sh } ∧ 0 ≤ amt ∧ 0 ≤ v.tokens - amt ∧
    ((sh.m = v.shares.m ∧ amt = v.tokens) ∨
     (1 ≤ v.shares.m - sh.m ∧ sh.m * v.tokens < (amt + 1) * v.shares.m ∧
        2 * P * (amt * v.shares.m - sh.m * v.tokens) ≤ v.shares.m ∧
        2 * (v.tokens - amt - 1) < v.shares.m - sh.m)) := by
  obtain ⟨rfl, a6⟩ := removeDelShares_spec h
  rcases a6 with ⟨e0, e1⟩ | ⟨hne2, -, e1, e3⟩
  · exact ⟨rfl, e1 ▸ hT, Int.le_of_eq (by rw [e1]; exact (Int.sub_self _).symm),
      Or.inl ⟨(Int.eq_of_sub_eq_zero e0).symm, e1⟩⟩
  · have hS : 0 < v.shares.m := Int.lt_of_lt_of_le hs hle
    have hs0 : 0 ≤ sh.m := Int.le_of_lt hs
    rw [tfs_trunc v sh hT hS hs0] at e1
    have hlo := tokOut_lower v.tokens v.shares.m sh.m hT hS hs0
    have hup := tokOut_upper v.tokens v.shares.m sh.m hT hS hs0
    have h0 := tokOut_nonneg v.tokens v.shares.m sh.m hT hS hs0
    rw [← e1] at hlo hup h0
    refine ⟨rfl, h0, e3, Or.inr ⟨by omega, hlo, hup, ?_⟩⟩
    rcases Int.lt_or_le (v.tokens - amt) 1 with hlt | hge
    · omega
    · -- S·(T' − 1) < S'·T (less than one token is left behind) and 2T ≤ S
      have k1 : v.shares.m * (v.tokens - amt - 1) < (v.shares.m - sh.m) * v.tokens := by
        rw [Int.sub_mul, Int.sub_sub, Int.mul_sub, Int.mul_comm _ (amt + 1)]; exact Int.sub_lt_sub_left hlo _
      have k2 : 2 * v.tokens * (v.tokens - amt - 1) ≤ v.shares.m * (v.tokens - amt - 1) :=
        Int.mul_le_mul_of_nonneg_right hrt (Int.sub_nonneg_of_le hge)
      have k3 : v.tokens * (2 * (v.tokens - amt - 1)) < v.tokens * (v.shares.m - sh.m) := by
        rw [← Int.mul_assoc, Int.mul_comm v.tokens 2, Int.mul_comm v.tokens (v.shares.m - sh.m)]
        exact Int.lt_of_le_of_lt k2 k1
      exact Int.lt_of_mul_lt_mul_left k3 hT

/-- `AddTokensFromDel` on a validator with shares: the shares issued are ⌊S·amt/T⌋ -/
theorem addTokensFromDel_arith {v v1 : Val} {amt : Int} {r : Dec} (h : v.addTokensFromDel amt = some (v1, r))
    (hT : 0 ≤ v.tokens) (hS : 0 < v.shares.m) (ha : 0 ≤ amt) :
    1 ≤ v.tokens ∧ 0 ≤ r.m ∧ r.m * v.tokens ≤ v.shares.m * amt ∧ v.shares.m * amt < (r.m + 1) * v.tokens := by
  obtain ⟨-, ⟨h0, -⟩ | ⟨-, ht, e⟩⟩ := addTokensFromDel_spec h
  · exact absurd h0 (Int.ne_of_gt hS)
  · have hx : 0 ≤ v.shares.m * amt := Int.mul_nonneg (Int.le_of_lt hS) ha
    have hT1 : 0 < v.tokens := Int.lt_iff_le_and_ne.mpr ⟨hT, Ne.symm ht⟩
    rw [e, tquo_nonneg_eq _ _ hx hT]
    exact ⟨hT1, Int.ediv_nonneg hx hT, Int.ediv_mul_le _ ht, Int.lt_ediv_add_one_mul_self _ hT1⟩

/-- shares worth at least one token (`S ≤ sh·T`) move at least one token -/
theorem one_le_moved {T S sh amt : Int} (hT : 0 ≤ T) (hS : 0 < S) (hw : S ≤ sh * T)
    (hR : (sh = S ∧ amt = T) ∨ sh * T < (amt + 1) * S) : 1 ≤ amt := by
  rcases Int.lt_or_le amt 1 with h' | h'
  · exfalso
    rcases hR with ⟨-, eT⟩ | hlo
    · have : T = 0 := by omega
      rw [this, Int.mul_zero] at hw; omega
    · have : (amt + 1) * S ≤ 1 * S := Int.mul_le_mul_of_nonneg_right (by omega) (Int.le_of_lt hS)
      omega
  · exact h'

/-- tokens delegated at a sane rate (S' ≥ 2T' − 1 ≥ T') issue at least as many share-ulps: S'·amt < (r + 1)·T' -/
theorem issued_ge_moved {T' S' amt r : Int} (hT' : 1 ≤ T') (hamt : 0 ≤ amt) (hsane : 2 * (T' - 1) < S')
    (q2 : S' * amt < (r + 1) * T') : amt ≤ r := by
  rcases Int.lt_or_le r amt with hlt | hge
  · exfalso
    have k1 : (r + 1) * T' ≤ amt * T' := Int.mul_le_mul_of_nonneg_right hlt (by omega)
    have k2 : amt * T' ≤ amt * S' := Int.mul_le_mul_of_nonneg_left (by omega) hamt
    rw [Int.mul_comm S'] at q2
    omega
  · exact hge

theorem transfer_no_empty {accts : List Addr} {g : Cfg} {c c2 : VSt} {frm to : Addr} {sh r : Dec}
    (hf : frm ∈ accts) (ht : to ∈ accts) (hne : frm ≠ to) (hwf : WF accts c) (hrate : SaneRate c)
    (hworth : g.skipZeroDelegate = true ∨ WorthOneToken c sh)
    (h : transfer g c frm to sh = .ok (c2, r)) :
    (∀ a, NoEmptyAt c a → NoEmptyAt c2 a) ∧ ((c2.del to = c.del to ∧ r.m = 0) ∨ 0 < r.m) ∧
    (WorthOneToken c sh → 0 < r.m) := by
  obtain ⟨x, v, v2, amt, hx, hv, hpos, hle, hrm, hdf, hoth, hcase⟩ := transfer_effect hne h
  obtain ⟨hT, hS⟩ := hwf.2.2 v hv
  have hxS := hwf.del_le_shares hf hx hv
  have hshS : sh.m ≤ v.shares.m := Int.le_trans hle hxS
  obtain ⟨rfl, hamt0, hT2, hR⟩ := removeDelShares_arith hT hpos hshS (hrate v hv) hrm
  have hworth1 : WorthOneToken c sh → 1 ≤ amt := fun hw =>
    one_le_moved hT (Int.lt_of_lt_of_le hpos hshS) (hw v hv) (hR.imp id fun hR => hR.2.1)
  have hfrmNE : NoEmptyAt c2 frm := by
    unfold NoEmptyAt; rw [hdf]
    split
    · exact fun e => nomatch e
    · intro e; exact ‹¬ x.m - sh.m = 0› (congrArg Dec.m (Option.some.inj e))
  have hrest : ∀ a, a ≠ to → NoEmptyAt c a → NoEmptyAt c2 a := by
    intro a h2 ha
    by_cases h1 : a = frm
    · exact h1 ▸ hfrmNE
    · unfold NoEmptyAt at *; rw [hoth a h1 h2]; exact ha
  rcases hcase with ⟨hs, ha0, hr0, hto, -⟩ | ⟨hns, v3, hadd, hval2, hdt⟩
  · -- nothing unbonded, nothing delegated: the recipient's record is untouched
    refine ⟨fun a ha => ?_, Or.inl ⟨hto, by rw [hr0]; rfl⟩,
      fun hw => absurd ha0 (Int.ne_of_gt (hworth1 hw))⟩
    by_cases h2 : a = to
    · subst h2; unfold NoEmptyAt at *; rw [hto]; exact ha
    · exact hrest a h2 ha
  · have hamt : 1 ≤ amt := by
      rcases hworth with hz | hw
      · exact Int.lt_iff_le_and_ne.mpr ⟨hamt0, fun e => hns ⟨hz, e.symm⟩⟩
      · exact hworth1 hw
    have hr : 0 < r.m := by
      rcases hR with ⟨eS, -⟩ | ⟨hS2, -, -, hsane⟩
      · obtain ⟨-, ⟨-, e⟩ | ⟨hs2, -, -⟩⟩ := addTokensFromDel_spec hadd
        · rw [e]; exact Int.mul_pos hamt P_pos
        · exact absurd (show v.shares.m - sh.m = 0 by rw [eS, Int.sub_self]) hs2
      · obtain ⟨hT2', -, -, q2⟩ := addTokensFromDel_arith hadd hT2 hS2 hamt0
        exact Int.lt_of_lt_of_le hamt (issued_ge_moved hT2' hamt0 hsane q2)
    have htoNE : NoEmptyAt c2 to := by
      unfold NoEmptyAt; rw [hdt]
      intro e
      have := congrArg Dec.m (Option.some.inj e)
      exact Int.ne_of_gt (Int.add_pos_of_nonneg_of_pos (hwf.dm_nonneg to) hr) this
    exact ⟨fun a ha => if h2 : a = to then h2 ▸ htoNE else hrest a h2 ha, Or.inr hr, fun _ => hr⟩

/-- the arithmetic facts of a successful transfer, in the notation of `value_core`
    (T, S = validator before; sh = shares sent; r = shares received).  `hTpos`: the validator has tokens. -/
theorem transfer_arith (accts : List Addr) (hn : accts.Nodup) (g : Cfg) (c c2 : VSt) (frm to : Addr) (sh r : Dec)
    (hf : frm ∈ accts) (hne : frm ≠ to) (hwf : WF accts c) (hrate : SaneRate c)
    (hTpos : ∀ v, c.val = some v → 0 < v.tokens)
    (h : transfer g c frm to sh = .ok (c2, r)) :
    ∃ v v3, c.val = some v ∧ c2.val = some v3 ∧ v3.tokens = v.tokens ∧ v3.shares.m = v.shares.m - sh.m + r.m ∧
      0 < v.shares.m ∧ 0 < sh.m ∧ sh.m ≤ dm c frm ∧ dm c frm ≤ v.shares.m ∧ 0 ≤ r.m ∧ 0 ≤ v.tokens ∧
      ((sh.m = v.shares.m ∧ r.m = v.tokens * P) ∨
       (∃ amt, 1 ≤ v.shares.m - sh.m ∧ 0 ≤ amt ∧ 1 ≤ v.tokens - amt ∧
          sh.m * v.tokens < (amt + 1) * v.shares.m ∧ 2 * P * (amt * v.shares.m - sh.m * v.tokens) ≤ v.shares.m ∧
          r.m * (v.tokens - amt) ≤ (v.shares.m - sh.m) * amt ∧
          (v.shares.m - sh.m) * amt < (r.m + 1) * (v.tokens - amt) ∧
          2 * (v.tokens - amt - 1) < v.shares.m - sh.m)) := by
  obtain ⟨x, v, v2, amt, hx, hv, hpos, hle, hrm, -, -, hcase⟩ := transfer_effect hne h
  obtain ⟨hT, hS⟩ := hwf.2.2 v hv
  have hT1 := hTpos v hv
  have hxS := hwf.del_le_shares hf hx hv
  have hshS : sh.m ≤ v.shares.m := Int.le_trans hle hxS
  have hSpos : 0 < v.shares.m := Int.lt_of_lt_of_le hpos hshS
  obtain ⟨rfl, hamt0, hT2, hR⟩ := removeDelShares_arith hT hpos hshS (hrate v hv) hrm
  rw [dm_eq, hx]
  rcases hcase with ⟨-, ha0, hr0, -, hval2⟩ | ⟨-, v3, hadd, hval2, -⟩
  · -- repaired code, nothing unbonded: amt = 0, r = 0, the validator keeps its tokens
    subst ha0 hr0
    rcases hR with ⟨-, eT⟩ | ⟨hS2, hlo, hup, hsane⟩
    · exact absurd eT (Int.ne_of_lt hT1)
    · have e0 : (Dec.zero).m = 0 := rfl
      refine ⟨v, _, hv, hval2.trans (if_neg fun hh => Int.ne_of_gt hS2 hh.1), Int.sub_zero _, by rw [e0, Int.add_zero]; rfl,
        hSpos, hpos, hle, hxS, Int.le_refl 0, hT,
        Or.inr ⟨0, hS2, Int.le_refl 0, by rw [Int.sub_zero]; exact hT1, hlo, hup, ?_, ?_, hsane⟩⟩
      · rw [e0, Int.zero_mul, Int.mul_zero]; exact Int.le_refl 0
      · rw [e0, Int.mul_zero, Int.zero_add, Int.one_mul, Int.sub_zero]; exact hT1
  · obtain ⟨rfl, b7⟩ := addTokensFromDel_spec hadd
    have t1 : v.tokens - amt + amt = v.tokens := Int.sub_add_cancel ..
    rcases hR with ⟨eS, eT⟩ | ⟨hS2, hlo, hup, hsane⟩
    · -- the last shares leave with all the tokens, which come back at rate one
      have hr : r.m = v.tokens * P := by
        rcases b7 with ⟨-, e⟩ | ⟨hs2, -, -⟩
        · rw [e, eT]
        · exact absurd (show v.shares.m - sh.m = 0 by rw [eS, Int.sub_self]) hs2
      exact ⟨v, _, hv, hval2, t1, rfl, hSpos, hpos, hle, hxS,
        by rw [hr]; exact Int.mul_nonneg hT (by decide), hT, Or.inl ⟨eS, hr⟩⟩
    · obtain ⟨hT2', hr0, q1, q2⟩ := addTokensFromDel_arith hadd hT2 hS2 hamt0
      exact ⟨v, _, hv, hval2, t1, rfl, hSpos, hpos, hle, hxS, hr0, hT,
        Or.inr ⟨amt, hS2, hamt0, hT2', hlo, hup, q1, q2, hsane⟩⟩

theorem trunc_frac {r : Dec} (h : 0 ≤ r.m) : 0 ≤ r.m - r.truncateInt * P ∧ r.m - r.truncateInt * P ≤ P - 1 := by
  unfold Dec.truncateInt; rw [chopTrunc_nonneg_eq _ h]
  have h1 := Int.ediv_mul_le r.m (by decide : P ≠ 0)
  have h2 := Int.lt_ediv_add_one_mul_self r.m P_pos
  rw [Int.add_mul, Int.one_mul] at h2
  omega

theorem sharesOf_some {c : VSt} {v : Val} (h : c.val = some v) : sharesOf c = v.shares.m := by
  unfold sharesOf; rw [h]

theorem stakeNum_some {c : VSt} {v : Val} (h : c.val = some v) (a : Addr) :
    stakeNum c a = (dm c a + c.bal a * P) * v.tokens := by
  unfold stakeNum; rw [h]

/-- The two outcomes of a transfer of `sh` of the `S` shares of a validator with `T` tokens, `r` shares received
    (last clause of `transfer_arith`): the last shares leave with all the tokens, which come back at rate one; or
    `amt` tokens move (`value_core_rate` names the clauses). -/
def TransferCase (T S sh r : Int) : Prop :=
  (sh = S ∧ r = T * P) ∨
  ∃ amt, 1 ≤ S - sh ∧ 0 ≤ amt ∧ 1 ≤ T - amt ∧ sh * T < (amt + 1) * S ∧ 2 * P * (amt * S - sh * T) ≤ S ∧
    r * (T - amt) ≤ (S - sh) * amt ∧ (S - sh) * amt < (r + 1) * (T - amt) ∧ 2 * (T - amt - 1) < S - sh

/-- The value of a holder's stake across a conversion, from the arithmetic facts of the transfer
    (`transfer_arith`: `v`, `v3` the validator before and after, `sh` shares sent, `r` received) and the change of the
    holder's claim from `H` to `H − (sh − r) − f`; `X` as in `value_core_rate`. -/
theorem conversion_value {c c' : VSt} (d : Addr) {v v3 : Val} (sh r f X : Int)
    (hv : c.val = some v) (hv3 : c'.val = some v3) (t1 : v3.tokens = v.tokens) (t2 : v3.shares.m = v.shares.m - sh + r)
    (hclaim : dm c' d + c'.bal d * P = dm c d + c.bal d * P - (sh - r) - f)
    (hS : 0 < v.shares.m) (hsh : 0 < sh) (hr0 : 0 ≤ r) (hT : 0 ≤ v.tokens)
    (hcase : TransferCase v.tokens v.shares.m sh r)
    (hH1 : sh ≤ dm c d + c.bal d * P) (hH : dm c d + c.bal d * P ≤ sharesOf c)
    (hf0 : 0 ≤ f) (hX : v.shares.m - sh + r ≤ X) (hA : v.tokens * f ≤ X - v.tokens) :
    stakeNum c d * sharesOf c' - stakeNum c' d * sharesOf c ≤ sharesOf c * sharesOf c' + sharesOf c * X ∧
    stakeNum c' d * sharesOf c - stakeNum c d * sharesOf c' ≤ 2 * sharesOf c * sharesOf c' ∧
    stakeNum c' d * sharesOf c - stakeNum c d * sharesOf c' ≤ sharesOf c * sharesOf c' + sharesOf c * X := by
  rw [sharesOf_some hv] at hH ⊢
  rw [sharesOf_some hv3, stakeNum_some hv, stakeNum_some hv3, hclaim, t1, t2]
  generalize dm c d + c.bal d * P = H at hH hH1 ⊢
  generalize v.tokens = T at *
  generalize v.shares.m = S at *
  rcases hcase with ⟨es, er⟩ | ⟨amt, c1, c2, c3, c4, c5, c6, c7, c8⟩
  · -- all shares of the validator leave and come back at rate one: the loss is `f` shares, worth at most `X − T`
    have hHS : H = S := Int.le_antisymm hH (es ▸ hH1)
    rw [hHS, es, er] at *
    have hS0 : 0 ≤ S := Int.le_of_lt hS
    have e3 : S * T * (T * P) - (S - (S - T * P) - f) * T * S = S * (T * f) := by grind
    have h1 : S * (T * f) ≤ S * (X - T) := Int.mul_le_mul_of_nonneg_left hA hS0
    have h2 : S * (X - T) ≤ S * X := Int.mul_le_mul_of_nonneg_left (Int.sub_le_self X hT) hS0
    have h3 : 0 ≤ S * (T * f) := Int.mul_nonneg hS0 (Int.mul_nonneg hT hf0)
    have h4 : 0 ≤ S * (T * P) := Int.mul_nonneg hS0 (Int.mul_nonneg hT (by decide))
    rw [Int.sub_self, Int.zero_add, Int.mul_assoc 2 S]
    clear hH hH1 hX hA hclaim t2 hr0 hsh hS
    generalize S * (T * P) = w at *
    generalize S * T * (T * P) = p1 at *
    generalize (S - (S - T * P) - f) * T * S = p2 at *
    omega
  · exact value_core_rate T S sh amt r H f X hS hsh c1 c2 c3 hr0 c4 c5 c6 c7 c8 hH1 hH hf0 hX hA

/-- value of the holder's stake across a burn (the code as it is and the repaired code alike) -/
theorem burn_value (accts : List Addr) (hn : accts.Nodup) (g : Cfg) (M : Addr)
    (c c' : VSt) (d : Addr) (amount : Int) (r : Dec) (hM : M ∈ accts) (hd : d ∈ accts) (hne : d ≠ M)
    (hwf : WF accts c) (hrate : SaneRate c) (hTpos : ∀ v, c.val = some v → 0 < v.tokens)
    (hH : dm c d + c.bal d * P ≤ sharesOf c)
    (hpost : ∀ v', c'.val = some v' → v'.tokens ≤ v'.shares.m)
    (h : burn g M c d amount = .ok (c', r)) : ValueWithinTwo c c' d := by
  obtain ⟨hbal, ht⟩ := burn_effect h
  have hne' : M ≠ d := fun e => hne e.symm
  have hwf0 : WF accts { c with bal := updI c.bal d (c.bal d - amount), supply := c.supply - amount } := hwf
  obtain ⟨v, v3, hv, hv3, t1, t2, hS, hsh, -, -, hr0, hT, hcase⟩ :=
    transfer_arith accts hn g _ c' M d _ r hM hne' hwf0 hrate hTpos ht
  obtain ⟨hdm, u⟩ := transfer_frame hne' ht
  have hv : c.val = some v := hv
  have hsm : (Dec.ofInt amount).m = amount * P := rfl
  rw [hsm] at t2 hsh hcase
  have hd1 : dm c' d = dm c d + r.m := by rw [hdm d]; simp only [hne, ite_false, ite_true]; rfl
  have hb1 : c'.bal d = c.bal d - amount := by rw [u.bal]; simp only [updI, ite_true]
  have hp := hpost v3 hv3
  rw [t1, t2] at hp
  have h := conversion_value d (amount * P) r.m 0 (v.shares.m - amount * P + r.m) hv hv3 t1 t2
    (by rw [hd1, hb1, Int.sub_mul]; omega) hS hsh hr0 hT hcase
    (Int.le_trans (Int.mul_le_mul_of_nonneg_right hbal (by decide)) (Int.le_add_of_nonneg_left (hwf.dm_nonneg d)))
    hH (Int.le_refl 0) (Int.le_refl _) (by rw [Int.mul_zero]; exact Int.sub_nonneg_of_le hp)
  rw [sharesOf_some hv3, ← t2] at h
  have e : 2 * sharesOf c * v3.shares.m = sharesOf c * v3.shares.m + sharesOf c * v3.shares.m := by
    rw [Int.mul_assoc, Int.two_mul]
  unfold ValueWithinTwo
  rw [sharesOf_some hv3, e]
  exact ⟨h.2.2, h.1⟩
end KV.Liquid
