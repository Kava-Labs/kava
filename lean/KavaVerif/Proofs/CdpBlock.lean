/-
  C04/C05: seizure (`seize_ok`, `seize_spec`), keeper liquidation (`liquidate_ok`;
  `liquidate_seize`: it ends in a seizure from a state that satisfies the invariant), the begin blocker
  (`accumulate_ok`, `syncOne_ok`, `liquidateBlock_spec`; the invariant and the CDPs of other types (`Kept`)
  carried through every stage in one pass), whole histories.  Core Lean only.
-/
import KavaVerif.Proofs.CdpOps
import KavaVerif.Proofs.CdpRatio

namespace KV.Cdp
open KV

variable {E : Env} {g now : Int} {s s' : St} {owner keeper : Acct} {ty id : Nat} {cp : CollParam}

/-- total debt handed to auctions by `AuctionCollateral`, starting with `remaining` debt to distribute -/
def sumShares (total debt : Int) : Int → List (Acct × Int) → Int
  | _, [] => 0
  | remaining, (_, v) :: rest =>
    cappedShare (debtCovered v total debt) remaining rest.isEmpty +
      sumShares total debt (remaining - cappedShare (debtCovered v total debt) remaining rest.isEmpty) rest

/-- the shares handed out add up to exactly the debt to distribute (the last deposit takes the remainder) -/
theorem sumShares_exact (total debt : Int) : ∀ (l : List (Acct × Int)) (remaining : Int), l ≠ [] →
    sumShares total debt remaining l = remaining := by
  intro l
  induction l with
  | nil => intro _ h; exact absurd rfl h
  | cons hd tl ih =>
    obtain ⟨a, v⟩ := hd
    intro remaining _
    cases tl with
    | nil => simp [sumShares, cappedShare]
    | cons y r =>
      simp only [sumShares] at ih ⊢
      rw [ih _ (by simp)]; omega

theorem cappedShare_le (share remaining : Int) (isLast : Bool) : cappedShare share remaining isLast ≤ remaining := by
  unfold cappedShare; split <;> omega

theorem cappedShare_nonneg (share remaining : Int) (isLast : Bool) (h1 : 0 ≤ share) (h2 : 0 ≤ remaining) :
    0 ≤ cappedShare share remaining isLast := by
  unfold cappedShare; split <;> omega

/-- `AuctionCollateral` moves coins from the liquidator to the auction module account and nothing else; what arrives
    there (for a collateral denom `cd`): the deposits in `cd`, the capped shares in debt coins -/
theorem auctionDeps_spec {cd : Denom} {total debt remaining : Int} {l : List (Acct × Int)}
    (h : auctionDeps s cd total debt remaining l = .ok s') :
    FrameB s s' ∧ s'.supply = s.supply ∧ (∀ d, s'.bal MCDP d = s.bal MCDP d) ∧ debtHeld s' = debtHeld s ∧
    (cd ≠ DEBT → s'.bal MAUC cd = s.bal MAUC cd + sumDeps l ∧
      s'.bal MAUC DEBT = s.bal MAUC DEBT + sumShares total debt remaining l) := by
  fun_induction auctionDeps s cd total debt remaining l with
  | case1 s =>
    cases h
    exact ⟨FrameB.refl _, rfl, fun _ => rfl, rfl, fun _ => ⟨by simp [sumDeps], by simp [sumShares]⟩⟩
  | case2 | case3 | case4 | case5 => cases h
  | case6 s remaining a amt rest _ _ s1 h1 s2 h2 ih =>
    obtain ⟨-, hb1, -⟩ := sendB_spec h1
    obtain ⟨F1, hs1⟩ := sendB_frame h1
    obtain ⟨-, hb2, -⟩ := sendB_spec h2
    obtain ⟨F2, hs2⟩ := sendB_frame h2
    obtain ⟨F, hs, hm, hdh, hau⟩ := ih h
    refine ⟨(F1.trans F2).trans F, by rw [hs, hs2, hs1], fun d => ?_, ?_, fun hcd => ?_⟩
    · rw [hm d, hb2, hb1]
      simp [MCDP, MLIQ, MAUC]
    · rw [hdh]
      unfold debtHeld
      rw [hb2, hb2, hb2, hb1, hb1, hb1]
      by_cases hcd : cd = DEBT
      · subst hcd; simp [MCDP, MLIQ, MAUC, DEBT]; omega
      · simp [MCDP, MLIQ, MAUC, Ne.symm hcd]; omega
    · obtain ⟨ha, hdb⟩ := hau hcd
      have hcd' : ¬ (DEBT = cd) := fun e => hcd e.symm
      constructor
      · rw [ha, hb2, hb1]
        simp only [MLIQ, MAUC, hcd, and_false, and_true, ite_false, sumDeps]
        simp
        omega
      · rw [hdb, hb2, hb1]
        simp only [MLIQ, MAUC, hcd', and_false, and_true, ite_false, sumShares]
        simp
        omega

/-- a seizure deletes CDP `id` from the table and both indexes and lowers the total principal of its type by its
    debt (clamped at 0); apart from deposit records and balances nothing else moves -/
theorem seize_ok {c : Cdp} {deps : List (Acct × Int)}
    (h : seize E s id c deps = .ok s') :
    ∃ debt s1 s2 s3, (if c.prin + c.fees < s.bal MCDP DEBT then c.prin + c.fees else s.bal MCDP DEBT) = debt ∧
      sendB s MCDP MLIQ DEBT debt = some s1 ∧ seizeDeps s1 id (denomOf E c.ty) deps = some s2 ∧
      auctionDeps s2 (denomOf E c.ty) (sumDeps deps) debt debt deps = .ok s3 ∧
      s' = { s with
        dep := s3.dep, bal := s3.bal, supply := s3.supply,
        tprin := upd s.tprin c.ty (if s.tprin c.ty - (c.prin + c.fees) < 0 then 0 else s.tprin c.ty - (c.prin + c.fees)),
        own := upd s.own c.owner (removeOwnerId id (s.own c.owner)),
        idx := removeKey (c.ty, keyOf E c, id) s.idx,
        cdp := upd s.cdp id none } := by
  revert h
  fun_cases seize E s id c deps <;> intro h <;> cases h
  rename_i _ debt s1 h1 s2 h2 s3 h3 _
  obtain ⟨b3, u3, rfl⟩ := (auctionDeps_spec h3).1.exists_eq
  obtain ⟨d2, b2, rfl⟩ : ∃ d b, s2 = { s1 with dep := d, bal := b } := ⟨_, _, (sendDeps_spec h2).eq⟩
  obtain ⟨b1, u1, rfl⟩ := (sendB_frame h1).1.exists_eq
  exact ⟨debt, _, _, _, rfl, h1, h2, h3, rfl⟩

theorem recv_liq_auc (deps : List (Acct × Int)) : recv (fun _ : Acct => MLIQ) MAUC deps = 0 := by
  induction deps with
  | nil => rfl
  | cons hd tl ih => obtain ⟨a, v⟩ := hd; simp only [recv, ih]; simp [MLIQ, MAUC]

structure SeizeSpec (E : Env) (g : Int) (s s' : St) (id : Nat) (c : Cdp) (deps : List (Acct × Int)) : Prop where
  inv : Inv E g s'
  other : ∀ j, j ≠ id → s'.cdp j = s.cdp j
  gone : s'.cdp id = none
  deps0 : ∀ a, s'.dep id a = 0
  nextId : s'.nextId = s.nextId
  price : s'.price = s.price
  status : s'.status = s.status
  ifac : s'.ifac = s.ifac
  accr : s'.accr = s.accr
  supply : s'.supply = s.supply
  /-- collateral entering auctions = the deposit records handed to the seizure -/
  aucColl : s'.bal MAUC (denomOf E c.ty) = s.bal MAUC (denomOf E c.ty) + sumDeps deps
  /-- debt entering auctions = the capped per-deposit shares of min(debt, module debt balance) -/
  aucDebt : s'.bal MAUC DEBT = s.bal MAUC DEBT +
    sumShares (sumDeps deps) (if c.prin + c.fees < s.bal MCDP DEBT then c.prin + c.fees else s.bal MCDP DEBT)
      (if c.prin + c.fees < s.bal MCDP DEBT then c.prin + c.fees else s.bal MCDP DEBT) deps

theorem seize_spec {c : Cdp} {deps : List (Acct × Int)}
    (hW : WF E) (hI : Inv E g s) (ho : s.cdp id = some c)
    (hsum : sumDeps deps = sumAcc E.accts (s.dep id))
    (hkeys : ∀ a, s.dep id a ≠ 0 → a ∈ deps.map Prod.fst)
    (h : seize E s id c deps = .ok s') : SeizeSpec E g s s' id c deps := by
  obtain ⟨debt, s1, s2, s3, hdebt, h1, h2, h3, rfl⟩ := seize_ok h
  have hcd : denomOf E c.ty ≠ DEBT := denomOf_ne_debt hW c.ty
  have hne := hcd.symm
  obtain ⟨-, hb1, -⟩ := sendB_spec h1
  obtain ⟨F1, hs1⟩ := sendB_frame h1
  have D := sendDeps_spec h2
  have htgt : ∀ a v, (a, v) ∈ deps → MLIQ ≠ MCDP := fun _ _ _ => by decide
  obtain ⟨F3, hs3, hm3, hdh3, hau3⟩ := auctionDeps_spec h3
  obtain ⟨ha3, hdb3⟩ := hau3 hcd
  have hsup : s3.supply = s.supply := hs3.trans ((congrArg St.supply D.eq).trans hs1)
  have hdep0 : ∀ a, s3.dep id a = 0 := fun a => by
    rw [F3.dep]; exact D.dep_zero (fun a hz => hkeys a (F1.dep ▸ hz)) a
  refine { inv := ⟨idx_delete hI.idx ho, own_delete hI.own ho, ?_, ?_⟩, other := fun j hj => upd_other hj,
           gone := upd_same .., deps0 := hdep0, nextId := rfl, price := rfl, status := rfl,
           ifac := rfl, accr := rfl, supply := hsup, aucColl := ?_, aucDebt := ?_ }
  · refine coll_delete (dep' := s3.dep) hI.coll ho hdep0 (fun j hj => by rw [F3.dep, D.depOther j hj, F1.dep]) ?_
    intro d hd2
    have a1 := (coll_denom hd2).2
    show s3.bal MCDP d = _
    rw [hm3 d, D.bal_mcdp htgt, hb1, hsum, ← hI.coll.1 id c ho]
    simp only [a1, and_false, ite_false]; omega
  · have := hI.debt
    unfold DebtOk at *
    show s3.supply USDX - g ≤ debtHeld s3
    rw [hsup, hdh3]; unfold debtHeld at *
    rw [D.balOther _ _ hne, D.balOther _ _ hne, D.balOther _ _ hne, hb1, hb1, hb1]
    simp [MCDP, MLIQ, MAUC, DEBT] at this ⊢
    omega
  · show s3.bal MAUC (denomOf E c.ty) = _
    rw [ha3, (D.bal htgt).2 MAUC (by decide), hb1, recv_liq_auc]
    simp only [hcd, and_false, ite_false]; omega
  · show s3.bal MAUC DEBT = _
    rw [hdb3, D.balOther MAUC DEBT hne, hb1, hdebt]
    simp [MCDP, MLIQ, MAUC]

theorem payReward_spec {reward : Int} {l l' : List (Acct × Int)} {a : Acct} (h : payReward reward l = some (a, l')) :
    a ∈ l.map Prod.fst ∧ l'.map Prod.fst = l.map Prod.fst ∧ sumDeps l' = sumDeps l - reward := by
  fun_induction payReward reward l generalizing l' with
  | case1 | case3 => cases h
  | case2 b amt rest =>
    cases h
    refine ⟨by simp, by simp, ?_⟩
    simp only [sumDeps]; omega
  | case4 b amt rest _ b' rest' hr ih =>
    cases h
    obtain ⟨h1, h2, h3⟩ := ih hr
    refine ⟨by simp only [List.map_cons, List.mem_cons]; exact Or.inr h1, by simp only [List.map_cons, h2], ?_⟩
    simp only [sumDeps, h3]; omega

structure LiquidateOk (E : Env) (now : Int) (s : St) (owner : Acct) (ty id : Nat) (c0 : Cdp) (s1 : St) (c1 : Cdp)
    (cp : CollParam) (r : Dec) (reward : Int) : Prop extends Synced E now s owner ty id c0 s1 c1 where
  listed : ¬ isActive E ty = false
  params : E.P.colls[ty]? = some cp
  ratio : calcCR c1.coll cp.cf c1.prin c1.fees E.P.debtCf (s1.price cp.liq) = .ok r
  gate : ¬ r.m ≥ cp.liqRatio.m
  reward : rewardOf c1.coll cp.keeperReward = reward

/-- `AttemptKeeperLiquidation` ends in the seizure of the synchronised CDP, after the reward has been paid out of
    the first deposit record that covers it, if there is one -/
theorem liquidate_ok (h : liquidate E now s keeper owner ty = .ok s') :
    ∃ id c0 s1 c1 cp r reward, LiquidateOk E now s owner ty id c0 s1 c1 cp r reward ∧
      ((payReward reward (depositsOf E s1 id) = none ∧ seize E s1 id c1 (depositsOf E s1 id) = .ok s') ∨
       ∃ a deps' s3, payReward reward (depositsOf E s1 id) = some (a, deps') ∧
         sendB { s1 with dep := upd2 s1.dep id a (s1.dep id a - reward) } MCDP keeper cp.denom reward = some s3 ∧
         seize E { s1 with bal := s3.bal, supply := s3.supply, dep := upd2 s1.dep id a (s1.dep id a - reward),
                           cdp := upd s1.cdp id (some { c1 with coll := c1.coll - reward }),
                           idx := insertKey (c1.ty, keyOf E { c1 with coll := c1.coll - reward }, id)
                             (removeKey (c1.ty, keyOf E c1, id) s1.idx) }
           id { c1 with coll := c1.coll - reward } deps' = .ok s') := by
  revert h
  fun_cases liquidate E now s keeper owner ty <;> intro h <;> try cases h
  · rename_i g1 id c0 hf s1 c1 hs cp hcp r hcr g2 reward _ hp
    exact ⟨id, c0, s1, c1, cp, r, reward, ⟨Synced.of hf hs, g1, hcp, hcr, g2, rfl⟩, .inl ⟨hp, h⟩⟩
  · rename_i g1 id c0 hf s1 c1 hs cp hcp r hcr g2 reward _ a deps' hp _ s3 h3 _ s4 hu
    have Y := Synced.of hf hs
    obtain ⟨b, u, rfl⟩ := (sendB_frame h3).1.exists_eq
    obtain ⟨old, hold, rfl⟩ := updateCdpIdx_spec hu
    cases hold.symm.trans Y.stored1
    exact ⟨id, c0, s1, c1, cp, r, reward, ⟨Y, g1, hcp, hcr, g2, rfl⟩, .inr ⟨a, deps', _, hp, h3, h⟩⟩

/-- what a keeper liquidation hands to `SeizeCollateral`: a state `s4` that satisfies the invariant and differs from
    `s` in the record of CDP `id` only, that record `c2` (the synchronised record `c1`, less the keeper reward if one
    was paid) and the deposit records `deps` of `s4` -/
structure KeeperSeize (E : Env) (g : Int) (s : St) (id : Nat) (c1 : Cdp) (s4 : St) (c2 : Cdp)
    (deps : List (Acct × Int)) (s' : St) : Prop where
  seize : seize E s4 id c2 deps = .ok s'
  inv : Inv E g s4
  stored : s4.cdp id = some c2
  ty : c2.ty = c1.ty
  prin : c2.prin = c1.prin
  fees : c2.fees = c1.fees
  nextId : s4.nextId = s.nextId
  tprin : s4.tprin = s.tprin
  other : ∀ j, j ≠ id → s4.cdp j = s.cdp j
  depsSum : sumDeps deps = sumAcc E.accts (s4.dep id)
  depsKeys : ∀ a, s4.dep id a ≠ 0 → a ∈ deps.map Prod.fst

theorem KeeperSeize.spec {c1 c2 : Cdp} {s4 : St} {deps : List (Acct × Int)} (hW : WF E)
    (K : KeeperSeize E g s id c1 s4 c2 deps s') : SeizeSpec E g s4 s' id c2 deps :=
  seize_spec hW K.inv K.stored K.depsSum K.depsKeys K.seize

theorem liquidate_seize
    (hW : WF E) (hI : Inv E g s) (hk : (3 : Nat) ≤ keeper) (h : liquidate E now s keeper owner ty = .ok s') :
    ∃ id c0 s1 c1 cp r reward s4 c2 deps, LiquidateOk E now s owner ty id c0 s1 c1 cp r reward ∧
      KeeperSeize E g s id c1 s4 c2 deps s' := by
  obtain ⟨id, c0, s1, c1, cp, r, reward, R, hend⟩ := liquidate_ok h
  have hI1 := R.inv hI
  have ho1 := R.stored1
  have S := R.spec
  have hoth1 : ∀ j, j ≠ id → s1.cdp j = s.cdp j := fun j hj => by rw [S.cdp, upd_other hj]
  rcases hend with ⟨-, hsz⟩ | ⟨a, deps', s3, hpay, h3, hsz⟩
  · exact ⟨id, c0, s1, c1, cp, r, reward, s1, c1, _, R, hsz, hI1, ho1, rfl, rfl, rfl, S.nextId, S.tprin, hoth1,
      sumDeps_depositsOf E s1 id, fun a => dep_mem_depositsOf hI1.coll⟩
  · -- the reward leaves one deposit record, the CDP's collateral and the module account together
    obtain ⟨hamem, hmap, hsum⟩ := payReward_spec hpay
    have haA : a ∈ E.accts := by
      obtain ⟨⟨a', v⟩, hm, rfl⟩ := List.mem_map.1 hamem
      exact ((mem_depositsOf ..).1 hm).1
    have hb := sendB_from_mcdp h3 hk
    refine ⟨id, c0, s1, c1, cp, r, reward, _, _, deps', R, hsz,
      inv_coll_change (δ := -reward) hW hI1 ho1 (R.ty1 ▸ R.params) haA hb
        (debtOk_sendB h3 (hW.denoms ty cp R.params) hI1.debt),
      upd_same .., rfl, rfl, rfl, S.nextId, S.tprin, fun j hj => (upd_other hj).trans (hoth1 j hj), ?_,
      fun b hb => ?_⟩
    · dsimp only
      rw [hsum, sumDeps_depositsOf, upd2_row, upd_same, sumAcc_upd hW.nodup haA]; omega
    · rw [hmap]
      by_cases hba : b = a
      · exact hba ▸ hamem
      · dsimp only at hb
        rw [upd2_other (fun hh => hba hh.2)] at hb
        exact dep_mem_depositsOf hI1.coll hb

theorem liquidate_inv (hW : WF E) (hI : Inv E g s) (hk : (3 : Nat) ≤ keeper)
    (h : liquidate E now s keeper owner ty = .ok s') : Inv E g s' := by
  obtain ⟨id, c0, s1, c1, cp, r, reward, s4, c2, deps, -, K⟩ := liquidate_seize hW hI hk h
  exact (K.spec hW).inv

/-- the invariant only reads the CDP table, the two indexes, the deposits, `nextId`, the module's collateral
    balances, the usdx supply and the debt coins of the three module accounts -/
theorem inv_transport (hI : Inv E g s)
    (h1 : s'.cdp = s.cdp) (h2 : s'.idx = s.idx) (h3 : s'.own = s.own) (h4 : s'.dep = s.dep)
    (h5 : s'.nextId = s.nextId) (h6 : ∀ d, 2 ≤ d → s'.bal MCDP d = s.bal MCDP d) (h7 : DebtOk g s') : Inv E g s' := by
  refine ⟨by rw [h1, h2]; exact hI.idx, by rw [h1, h3]; exact hI.own, ?_, h7⟩
  rw [h1, h4, h5]; exact coll_bal_eq hI.coll h6

/-- `AccumulateInterest` either only stamps the accrual time / registers the interest factor, or mints the interest
    `acc > 0` on the total principal of the type -/
theorem accumulate_ok {f : Dec}
    (h : accumulate now s ty cp f = .ok s') :
    s' = { s with ifac := s'.ifac, accr := s'.accr } ∨
    ∃ prior acc s2, 0 < s.tprin ty ∧ s.ifac ty = some prior ∧
      Dec.roundInt (Dec.mul f (Dec.ofInt (s.tprin ty))) - s.tprin ty = acc ∧ 0 < acc ∧
      s2 = mintB (mintB s MCDP DEBT acc) MLIQ USDX acc ∧
      s' = { s2 with tprin := upd s2.tprin ty (s2.tprin ty + acc), ifac := upd s2.ifac ty (some (Dec.mul prior f)),
                     accr := upd s2.accr ty (some now) } := by
  revert h
  fun_cases accumulate now s ty cp f <;> intro h <;> cases h
  iterate 6 exact .inl rfl
  rename_i prev _ g1 g2 prior hp g3 acc g4 g5 _ _
  exact .inr ⟨prior, acc, _, by omega, hp, rfl, by omega, rfl, rfl⟩

def Kept (ty : Nat) (s s' : St) : Prop := ∀ j c, s.cdp j = some c → c.ty ≠ ty → s'.cdp j = some c

theorem Kept.of_eq (h : s'.cdp = s.cdp) : Kept ty s s' := by
  intro j c hc _; rw [h]; exact hc

theorem Kept.trans {a b c : St} (h1 : Kept ty a b) (h2 : Kept ty b c) : Kept ty a c :=
  fun j x hx hty => h2 j x (h1 j x hx hty) hty

theorem accumulate_inv {f : Dec}
    (hI : Inv E g s) (h : accumulate now s ty cp f = .ok s') :
    Inv E g s' ∧ s'.cdp = s.cdp := by
  rcases accumulate_ok h with e | ⟨prior, acc, s2, -, -, -, -, rfl, rfl⟩
  · rw [e]
    exact ⟨inv_transport hI rfl rfl rfl rfl rfl (fun _ _ => rfl) hI.debt, rfl⟩
  obtain ⟨-, hb1, hs1⟩ := mintB_spec s MCDP DEBT acc
  obtain ⟨-, hb2, hs2⟩ := mintB_spec (mintB s MCDP DEBT acc) MLIQ USDX acc
  have F := (mintB_frame s MCDP DEBT acc).trans (mintB_frame (mintB s MCDP DEBT acc) MLIQ USDX acc)
  refine ⟨inv_transport hI F.cdp F.idx F.own F.dep F.nextId ?_ ?_, F.cdp⟩
  · intro d hd2
    have a1 := (coll_denom hd2).2
    show (mintB (mintB s MCDP DEBT acc) MLIQ USDX acc).bal MCDP d = _
    rw [hb2, hb1]
    simp [MCDP, MLIQ, a1]
  · have := hI.debt
    unfold DebtOk debtHeld at *
    dsimp only
    rw [hs2, hs1, hb2, hb2, hb2, hb1, hb1, hb1]
    simp [MCDP, MLIQ, MAUC, USDX, DEBT] at this ⊢
    omega

theorem keyBulk_eq {c : Cdp} (h : E.P.colls[c.ty]? = some cp) :
    keyBulk E cp c = keyOf E c := by
  unfold keyBulk keyOf
  rw [c2dBulk_eq, cfOf_eq h]

/-- one iteration of the bulk synchronisation: nothing happens, or CDP `id` (of type `ty`) gets the interest `acc`
    booked and is re-indexed under the keys the bulk path computes -/
theorem syncOne_ok {gf : Dec} {prev : Int}
    (h : syncOne E s ty cp gf prev id = .ok s') :
    ∃ c, s.cdp id = some c ∧ c.ty = ty ∧ (s' = s ∨ ∃ c0 c1 : Cdp,
      c0 = { c with updated := if bulkInterest gf c = 0 then prev else c.updated } ∧
      c1 = { c with fees := c.fees + bulkInterest gf c, updated := prev, ifac := gf } ∧
      s' = { s with idx := insertKey (ty, keyBulk E cp c1, id) (removeKey (ty, keyBulk E cp c0, id) s.idx),
                    cdp := upd s.cdp id (some c1) }) := by
  revert h
  fun_cases syncOne E s ty cp gf prev id <;> intro h <;> cases h
  · rename_i c ho hty _ _ _
    exact ⟨c, ho, Decidable.of_not_not hty, .inl rfl⟩
  · rename_i c ho hty _ _ _ _ _ _ _
    exact ⟨c, ho, Decidable.of_not_not hty, .inr ⟨_, _, rfl, rfl, rfl⟩⟩

theorem syncOne_inv {gf : Dec} {prev : Int}
    (hcp : E.P.colls[ty]? = some cp) (hI : Inv E g s) (h : syncOne E s ty cp gf prev id = .ok s') :
    Inv E g s' ∧ Kept ty s s' := by
  obtain ⟨c, ho, hty, rfl | ⟨c0, c1, rfl, rfl, rfl⟩⟩ := syncOne_ok h
  · exact ⟨hI, Kept.of_eq rfl⟩
  subst hty
  refine ⟨⟨?_, own_touch hI.own ho rfl, coll_touch hI.coll ho rfl rfl, hI.debt⟩, ?_⟩
  · -- the two hand-computed keys are the helper path's keys of the stored and of the updated CDP
    dsimp only
    rw [keyBulk_eq (by exact hcp), keyBulk_eq (by exact hcp),
      keyOf_congr E { c with updated := if bulkInterest gf c = 0 then prev else c.updated } c rfl rfl rfl rfl]
    exact idx_update (c := { c with fees := c.fees + bulkInterest gf c, updated := prev, ifac := gf }) hI.idx ho
  · intro j c' hc' hne
    have hj : j ≠ id := fun e => by subst e; rw [ho] at hc'; cases hc'; exact hne rfl
    dsimp only
    rw [upd_other hj]; exact hc'

theorem syncLoop_inv {gf : Dec} {prev : Int} {ids : List Nat}
    (hcp : E.P.colls[ty]? = some cp) (hI : Inv E g s) (h : syncLoop E s ty cp gf prev ids = .ok s') :
    Inv E g s' ∧ Kept ty s s' := by
  fun_induction syncLoop E s ty cp gf prev ids with
  | case1 s => cases h; exact ⟨hI, Kept.of_eq rfl⟩
  | case2 s id rest s1 h1 ih =>
    obtain ⟨hI1, k1⟩ := syncOne_inv hcp hI h1
    obtain ⟨hI2, k2⟩ := ih hI1 h
    exact ⟨hI2, k1.trans k2⟩
  | case3 | case4 => cases h

theorem syncRisky_inv (hcp : E.P.colls[ty]? = some cp) (hI : Inv E g s) (h : syncRisky E s ty cp = .ok s') :
    Inv E g s' ∧ Kept ty s s' := by
  unfold syncRisky at h
  split at h
  · cases h
  split at h
  · cases h
  · exact syncLoop_inv hcp hI h

/-- within the ratio index an id occurs once: the ids of any sublist are distinct -/
theorem idx_ids_nodup {E : Env} {cdp : Nat → Option Cdp} {idx sub : List Entry} (h : IdxOk E cdp idx)
    (hs : sub.Sublist idx) : (sub.map (fun e => e.2.2)).Nodup := by
  refine List.pairwise_map.2 ((List.Nodup.sublist hs h.2.1).imp_of_mem fun {x y} hx hy hne e => hne ?_)
  obtain ⟨c1, hc1, a1, b1⟩ := (h.1 x).1 (hs.subset hx)
  obtain ⟨c2, hc2, a2, b2⟩ := (h.1 y).1 (hs.subset hy)
  rw [e, hc2] at hc1; cases hc1
  exact (entry_ext x y).2 ⟨a1.trans a2.symm, b1.trans b2.symm, e⟩

theorem fetchCdps_spec {l : List Entry} {cdps : List (Nat × Cdp)} (h : fetchCdps s l = some cdps) :
    cdps.map Prod.fst = l.map (fun e => e.2.2) ∧ ∀ id c, (id, c) ∈ cdps → s.cdp id = some c := by
  fun_induction fetchCdps s l generalizing cdps with
  | case1 => cases h; exact ⟨rfl, fun _ _ hm => by cases hm⟩
  | case2 | case3 => cases h
  | case4 e rest c hc l' hl' ih =>
    cases h
    obtain ⟨h1, h2⟩ := ih hl'
    refine ⟨by simp only [List.map_cons, h1], fun id c' hm => ?_⟩
    rcases List.mem_cons.1 hm with e' | hm
    · cases e'; exact hc
    · exact h2 id c' hm

theorem seizeLoop_inv {price L : Dec} {l : List (Nat × Cdp)} (hW : WF E) (hI : Inv E g s)
    (hst : ∀ id c, (id, c) ∈ l → s.cdp id = some c) (hnd : (l.map Prod.fst).Nodup)
    (h : seizeLoop E price L s l = .ok s') :
    Inv E g s' ∧
      (∀ id c, (id, c) ∈ l → if blockSkips E c price L = true then s'.cdp id = some c else s'.cdp id = none) ∧
      (∀ j, j ∉ l.map Prod.fst → s'.cdp j = s.cdp j) := by
  fun_induction seizeLoop E price L s l with
  | case1 s => cases h; exact ⟨hI, fun _ _ hm => (List.not_mem_nil hm).elim, fun _ _ => rfl⟩
  | case2 s id c rest hskip ih =>
    -- re-check: the CDP is at or above the ratio and is left alone
    simp only [List.map_cons, List.nodup_cons] at hnd
    obtain ⟨hI2, g2, o2⟩ := ih hI (fun j cj hm => hst j cj (List.mem_cons_of_mem _ hm)) hnd.2 h
    refine ⟨hI2, fun j cj hm => ?_, fun j hj => ?_⟩
    · rcases List.mem_cons.1 hm with e | hm
      · cases e
        simp only [hskip, ite_true]
        rw [o2 id hnd.1]; exact hst id c (by simp)
      · exact g2 j cj hm
    · simp only [List.map_cons, List.mem_cons, not_or] at hj
      exact o2 j hj.2
  | case3 s id c rest hskip s1 h1 ih =>
    simp only [List.map_cons, List.nodup_cons] at hnd
    have SP := seize_spec hW hI (hst id c (by simp)) (sumDeps_depositsOf E s id)
      (fun a => dep_mem_depositsOf hI.coll) h1
    have hst1 : ∀ j cj, (j, cj) ∈ rest → s1.cdp j = some cj := fun j cj hm => by
      have hne : j ≠ id := fun e => hnd.1 (e ▸ List.mem_map.2 ⟨(j, cj), hm, rfl⟩)
      rw [SP.other j hne]; exact hst j cj (List.mem_cons_of_mem _ hm)
    obtain ⟨hI2, g2, o2⟩ := ih SP.inv hst1 hnd.2 h
    refine ⟨hI2, fun j cj hm => ?_, fun j hj => ?_⟩
    · rcases List.mem_cons.1 hm with e | hm
      · cases e
        simp only [hskip]
        rw [o2 id hnd.1]; exact SP.gone
      · exact g2 j cj hm
    · simp only [List.map_cons, List.mem_cons, not_or] at hj
      rw [o2 j hj.2, SP.other j hj.1]
  | case4 | case5 => cases h

theorem below_sublist (idx : List Entry) (ty : Nat) (K : Int) : (below idx ty K).Sublist idx :=
  List.filter_sublist

theorem takeCount_sublist {α : Type} (n : Int) (l : List α) : (takeCount n l).Sublist l :=
  List.take_sublist _ _

/-- `LiquidateCdps`: the CDPs fetched are those of the selected index entries; each is gone afterwards unless the
    re-check skipped it, and no other table entry changes -/
theorem liquidateBlock_spec {price : Dec}
    (hW : WF E) (hI : Inv E g s) (h : liquidateBlock E s ty cp price = .ok s') :
    ∃ cdps : List (Nat × Cdp),
      cdps.map Prod.fst =
        (takeCount cp.checkCount (below s.idx ty (sortKey (normRatio price cp.liqRatio)))).map (fun e => e.2.2) ∧
      (∀ id c, (id, c) ∈ cdps → s.cdp id = some c) ∧ Inv E g s' ∧
      (∀ id c, (id, c) ∈ cdps →
        if blockSkips E c price cp.liqRatio = true then s'.cdp id = some c else s'.cdp id = none) ∧
      (∀ j, j ∉ cdps.map Prod.fst → s'.cdp j = s.cdp j) := by
  unfold liquidateBlock at h
  split at h
  · cases h
  rename_i cdps hf
  obtain ⟨hmap, hst⟩ := fetchCdps_spec hf
  have hnd : (cdps.map Prod.fst).Nodup := by
    rw [hmap]
    exact idx_ids_nodup hI.idx ((takeCount_sublist _ _).trans (below_sublist _ _ _))
  exact ⟨cdps, hmap, hst, seizeLoop_inv hW hI hst hnd h⟩

theorem liquidateBlock_inv {price : Dec}
    (hW : WF E) (hI : Inv E g s) (h : liquidateBlock E s ty cp price = .ok s') :
    Inv E g s' ∧ Kept ty s s' := by
  obtain ⟨cdps, hmap, -, h1, -, hoth⟩ := liquidateBlock_spec hW hI h
  refine ⟨h1, fun j c hc hne => ?_⟩
  rw [hoth j ?_]; exact hc
  -- an entry selected for type `ty` indexes a CDP of type `ty`
  intro hm
  rw [hmap] at hm
  obtain ⟨e, he, rfl⟩ := List.mem_map.1 hm
  obtain ⟨hidx, hcond⟩ := List.mem_filter.1 ((takeCount_sublist _ _).subset he)
  obtain ⟨c', hc', h1, -⟩ := (hI.idx.1 e).1 hidx
  rw [hc] at hc'; cases hc'
  simp only [Bool.and_eq_true, decide_eq_true_eq] at hcond
  exact hne (h1.symm.trans hcond.1)

theorem bbType_inv {skip : Bool} {f : Dec}
    (hW : WF E) (hcp : E.P.colls[ty]? = some cp) (hI : Inv E g s)
    (h : bbType E now skip s ty cp f = .ok s') : Inv E g s' ∧ Kept ty s s' := by
  have flag : ∀ st : Nat → Bool, Inv E g { s with status := st } :=
    fun st => inv_transport hI rfl rfl rfl rfl rfl (fun _ _ => rfl) hI.debt
  revert h
  fun_cases bbType E now skip s ty cp f <;> intro h <;> cases h
  · exact ⟨flag _, Kept.of_eq rfl⟩
  · exact ⟨flag _, Kept.of_eq rfl⟩
  · rename_i hacc
    obtain ⟨hI3, c3⟩ := accumulate_inv (flag _) hacc
    exact ⟨hI3, Kept.of_eq c3⟩
  · rename_i s3 hacc _ s4 hsync hliq
    obtain ⟨hI3, c3⟩ := accumulate_inv (flag _) hacc
    obtain ⟨hI4, k4⟩ := syncRisky_inv hcp hI3 hsync
    obtain ⟨hI5, k5⟩ := liquidateBlock_inv hW hI4 hliq
    exact ⟨hI5, ((Kept.of_eq c3).trans k4).trans k5⟩

theorem zipFrom_mem : ∀ (cps : List CollParam) (facs : List Dec) (i ty : Nat) (cp : CollParam) (f : Dec),
    (ty, cp, f) ∈ zipFrom i cps facs → i ≤ ty ∧ cps[ty - i]? = some cp := by
  intro cps
  induction cps with
  | nil => intro facs i ty cp f h; simp [zipFrom] at h
  | cons c rest ih =>
    intro facs i ty cp f h
    simp only [zipFrom, List.mem_cons] at h
    rcases h with e | h
    · cases e; exact ⟨Nat.le_refl _, by simp⟩
    · obtain ⟨h1, h2⟩ := ih _ _ _ _ _ h
      refine ⟨by omega, ?_⟩
      have : ty - i = (ty - (i + 1)) + 1 := by omega
      rw [this, List.getElem?_cons_succ]; exact h2

theorem bbTypes_inv {skip : Bool} {l : List (Nat × CollParam × Dec)} (hW : WF E)
    (hall : ∀ ty cp f, (ty, cp, f) ∈ l → E.P.colls[ty]? = some cp) (hI : Inv E g s)
    (h : bbTypes E now skip s l = .ok s') :
    Inv E g s' ∧ ∀ j c, s.cdp j = some c → (∀ ty cp f, (ty, cp, f) ∈ l → c.ty ≠ ty) → s'.cdp j = some c := by
  fun_induction bbTypes E now skip s l with
  | case1 s => cases h; exact ⟨hI, fun _ _ hc _ => hc⟩
  | case2 s ty cp f rest s1 h1 ih =>
    obtain ⟨hI1, k1⟩ := bbType_inv hW (hall ty cp f (by simp)) hI h1
    obtain ⟨hI2, k2⟩ := ih (fun t c f' hm => hall t c f' (List.mem_cons_of_mem _ hm)) hI1 h
    exact ⟨hI2, fun j c hc hno => k2 j c (k1 j c hc (hno ty cp f (by simp)))
      (fun t c' f' hm => hno t c' f' (List.mem_cons_of_mem _ hm))⟩
  | case3 | case4 => cases h

theorem netSurplusAndDebt_inv (hI : Inv E g s) (h : netSurplusAndDebt s = some s') :
    Inv E g s' ∧ s'.cdp = s.cdp := by
  unfold netSurplusAndDebt at h
  dsimp only at h
  split at h
  · cases h; exact ⟨hI, rfl⟩
  split at h
  · cases h
  rename_i s1 hb1
  obtain ⟨-, b1, u1⟩ := burnB_spec hb1
  have F1 := burnB_frame hb1
  obtain ⟨-, b2, u2⟩ := burnB_spec h
  have F2 := burnB_frame h
  have F := F1.trans F2
  refine ⟨inv_transport hI F.cdp F.idx F.own F.dep F.nextId ?_ ?_, F.cdp⟩
  · intro d hd2
    rw [b2, b1]; simp [MCDP, MLIQ]
  · have := hI.debt
    have e1 : s1.bal MLIQ USDX = s.bal MLIQ USDX := by rw [b1]; simp [USDX, DEBT]
    rw [e1] at b2 u2
    have m1 : minI (s.bal MLIQ USDX) (s.bal MLIQ DEBT) ≤ s.bal MLIQ USDX := by unfold minI; split <;> omega
    have m2 : minI (s.bal MLIQ USDX) (minI (s.bal MLIQ USDX) (s.bal MLIQ DEBT)) = minI (s.bal MLIQ USDX) (s.bal MLIQ DEBT) := by
      by_cases hab : s.bal MLIQ USDX < s.bal MLIQ DEBT
      · simp only [minI, hab, ite_true, Int.lt_irrefl, ite_false]
      · simp only [minI, hab, ite_false]
    rw [m2] at b2 u2
    unfold DebtOk debtHeld at *
    rw [u2, u1, b2 MCDP DEBT, b2 MLIQ DEBT, b2 MAUC DEBT, b1 MCDP DEBT, b1 MLIQ DEBT, b1 MAUC DEBT]
    simp [MCDP, MLIQ, MAUC, USDX, DEBT] at this ⊢
    omega

theorem modsend_inv {d : Denom} {amt : Int} (hI : Inv E g s) (hd : d = USDX ∨ d = DEBT)
    (h : sendB s MLIQ MAUC d amt = some s') : Inv E g s' ∧ s'.cdp = s.cdp := by
  obtain ⟨-, b3, -⟩ := sendB_spec h
  obtain ⟨F3, u3⟩ := sendB_frame h
  refine ⟨inv_transport hI F3.cdp F3.idx F3.own F3.dep F3.nextId ?_ ?_, F3.cdp⟩
  · intro d hd2; rw [b3]; simp [MCDP, MLIQ, MAUC]
  · have := hI.debt
    unfold DebtOk debtHeld at *
    rw [u3, b3, b3, b3]
    rcases hd with rfl | rfl
    · simp [MCDP, MLIQ, MAUC, USDX, DEBT] at this ⊢; omega
    · simp [MCDP, MLIQ, MAUC, USDX, DEBT] at this ⊢; omega

theorem runAuctions_inv (hI : Inv E g s) (h : runAuctions E s = .ok s') :
    Inv E g s' ∧ s'.cdp = s.cdp := by
  revert h
  fun_cases runAuctions E s <;> intro h <;> cases h
  rename_i s2 h2 s3 h3 h4
  obtain ⟨hI2, c2⟩ := netSurplusAndDebt_inv hI h2
  have r3 : Inv E g s3 ∧ s3.cdp = s2.cdp := by
    unfold startDebtAuction at h3
    split at h3
    · exact modsend_inv hI2 (Or.inr rfl) h3
    · cases h3; exact ⟨hI2, rfl⟩
  have r4 : Inv E g s' ∧ s'.cdp = s3.cdp := by
    unfold startSurplusAuction at h4
    split at h4
    · cases h4; exact ⟨r3.1, rfl⟩
    · exact modsend_inv r3.1 (Or.inl rfl) h4
  exact ⟨r4.1, (r4.2.trans r3.2).trans c2⟩

/-- the begin blocker only visits listed types, each with its own parameters -/
theorem blockTypes_mem {facs : List Dec} {f : Dec}
    (hm : (ty, cp, f) ∈ blockTypes E facs) : E.P.colls[ty]? = some cp ∧ cp.active = true ∧ ty ∈ E.P.order := by
  unfold blockTypes at hm
  obtain ⟨t, ht, he⟩ := List.mem_filterMap.1 hm
  split at he
  · rename_i cp' hcp
    split at he
    · rename_i ha
      cases he
      exact ⟨hcp, ha, ht⟩
    · cases he
  · cases he

theorem beginBlock_inv {skip : Bool} {facs : List Dec}
    (hW : WF E) (hI : Inv E g s) (h : beginBlock E now skip facs s = .ok s') :
    Inv E g s' ∧
      ∀ j c, s.cdp j = some c → (∀ ty cp f, (ty, cp, f) ∈ blockTypes E facs → c.ty ≠ ty) → s'.cdp j = some c := by
  revert h
  fun_cases beginBlock E now skip facs s <;> intro h <;> cases h
  rename_i s1 h1 h2
  obtain ⟨hI1, k1⟩ := bbTypes_inv hW (fun ty cp f hm => (blockTypes_mem hm).1) hI h1
  obtain ⟨hI2, c2⟩ := runAuctions_inv hI1 h2
  exact ⟨hI2, fun j c hc hno => by rw [c2]; exact k1 j c hc hno⟩

/-- the accounts an operation names can hold deposits / are ordinary user accounts -/
def OpOk (E : Env) : Op → Prop
  | .create _ o _ _ _ _ _ => o ∈ E.accts
  | .deposit _ _ d _ _ _ => d ∈ E.accts
  | .liquidate _ k _ _ => (3 : Nat) ≤ k
  | _ => True

theorem step_inv {op : Op} (hW : WF E) (hI : Inv E g s) (hop : OpOk E op)
    (h : step E s op = .ok s') : Inv E g s' := by
  cases op with
  | create now o ty c cd p pd => exact create_inv hW hI hop h
  | deposit now o d ty c cd => exact deposit_inv hW hI hop h
  | withdraw now o d ty c cd => exact withdraw_inv hW hI h
  | draw now o ty p pd => exact draw_inv hI h
  | repay now o ty pay pd => exact repay_inv hW hI h
  | liquidate now k o ty => exact liquidate_inv hW hI hop h
  | beginBlock now skip facs => exact (beginBlock_inv hW hI h).1
  | setPrice m p =>
    simp only [step] at h; cases h
    refine inv_transport hI rfl rfl rfl rfl rfl (fun _ _ => rfl) ?_
    exact hI.debt

theorem apply_inv {op : Op} (hW : WF E) (hI : Inv E g s) (hop : OpOk E op) :
    Inv E g (apply E s op) := by
  unfold apply
  split
  · rename_i s' h; exact step_inv hW hI hop h
  · exact hI

theorem run_inv {E : Env} {g : Int} (hW : WF E) : ∀ (ops : List Op) (s : St), Inv E g s →
    (∀ op, op ∈ ops → OpOk E op) → Inv E g (run E s ops) := by
  intro ops
  induction ops with
  | nil => intro s hI _; exact hI
  | cons op rest ih =>
    intro s hI hall
    simp only [run]
    exact ih _ (apply_inv hW hI (hall op (by simp))) (fun o hm => hall o (List.mem_cons_of_mem _ hm))

end KV.Cdp
