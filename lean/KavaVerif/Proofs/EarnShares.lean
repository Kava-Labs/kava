/-
  Lemmas about the share record (`VaultShares`) and the several-vault world of x/earn
  (Model/EarnShares.lean).  Property statements are in Props/C11.lean.
-/
import KavaVerif.Model.EarnShares
import KavaVerif.Proofs.Earn
set_option linter.unusedSimpArgs false
set_option linter.unusedVariables false

namespace KV.Earn
namespace Shares

/-- strictly ascending denoms: sorted and duplicate-free -/
def SSorted (l : Shares) : Prop := l.Pairwise (fun x y => x.1 < y.1)

/-- what `VaultShares.Validate` accepts: strictly ascending denoms, positive amounts -/
def Valid (l : Shares) : Prop := SSorted l ∧ ∀ s ∈ l, 0 < s.2

theorem amountOf_notin (l : Shares) (d : Nat) (h : ∀ x ∈ l, x.1 ≠ d) : amountOf l d = 0 := by
  fun_induction amountOf l d with
  | case1 => rfl
  | case2 s r => exact absurd rfl (h s List.mem_cons_self)
  | case3 s r d hd ih => exact ih fun x hx => h x (List.mem_cons_of_mem _ hx)

theorem amountOf_of_lb {l : Shares} {k : Nat} (h : ∀ x ∈ l, k < x.1) : amountOf l k = 0 :=
  amountOf_notin l k fun x hx => Nat.ne_of_gt (h x hx)

theorem amountOf_cons (s : Nat × Int) (r : Shares) (d : Nat) :
    amountOf (s :: r) d = if s.1 = d then s.2 else amountOf r d := rfl

theorem SSorted.tail {a : Nat × Int} {l : Shares} (h : SSorted (a :: l)) : SSorted l := by
  unfold SSorted at h ⊢; exact (List.pairwise_cons.mp h).2

theorem SSorted.head_lt {a : Nat × Int} {l : Shares} (h : SSorted (a :: l)) : ∀ x ∈ l, a.1 < x.1 := by
  unfold SSorted at h; exact (List.pairwise_cons.mp h).1

theorem SSorted.cons {a : Nat × Int} {l : Shares} (h : SSorted l) (hlt : ∀ x ∈ l, a.1 < x.1) :
    SSorted (a :: l) := by
  unfold SSorted at h ⊢; exact List.pairwise_cons.mpr ⟨hlt, h⟩

theorem amountOf_mem {l : Shares} (hl : SSorted l) {s : Nat × Int} (hs : s ∈ l) : amountOf l s.1 = s.2 := by
  induction l with
  | nil => cases hs
  | cons t r ih =>
    rw [amountOf_cons]
    rcases List.mem_cons.mp hs with rfl | hr
    · exact if_pos rfl
    · rw [if_neg (Nat.ne_of_lt (hl.head_lt s hr))]; exact ih hl.tail hr

theorem amountOf_nonneg {l : Shares} (h : ∀ s ∈ l, 0 ≤ s.2) (d : Nat) : 0 ≤ amountOf l d := by
  fun_induction amountOf l d with
  | case1 => exact Int.le_refl 0
  | case2 s r => exact h s List.mem_cons_self
  | case3 s r d hd ih => exact ih fun x hx => h x (List.mem_cons_of_mem _ hx)

theorem SSorted.lt_of_lt_head {k : Nat} {b : Nat × Int} {l : Shares} (h : SSorted (b :: l))
    (hk : k < b.1) : ∀ y ∈ b :: l, k < y.1 :=
  List.forall_mem_cons.mpr ⟨hk, fun y hy => Nat.lt_trans hk (h.head_lt y hy)⟩

theorem removeZero_sorted {l : Shares} (h : SSorted l) : SSorted (removeZero l) := by
  unfold SSorted removeZero at *; exact h.filter _

theorem removeZero_mem {l : Shares} {s : Nat × Int} (h : s ∈ removeZero l) : s ∈ l ∧ s.2 ≠ 0 := by
  unfold removeZero at h
  have := List.mem_filter.mp h
  exact ⟨this.1, by simpa using this.2⟩

/-- one round of the `safeAdd` loop: the entry `(d, x)`, dropped when `x = 0`, goes in front of a
    result `r` all of whose denoms exceed `d` -/
theorem cons_spec (d : Nat) (x : Int) {r : Shares} (hr : SSorted r) (hnz : ∀ s ∈ r, s.2 ≠ 0)
    (hlb : ∀ s ∈ r, d < s.1) :
    SSorted (if x = 0 then r else (d, x) :: r) ∧ (∀ s ∈ (if x = 0 then r else (d, x) :: r), s.2 ≠ 0) ∧
    (∀ e, amountOf (if x = 0 then r else (d, x) :: r) e = if d = e then x else amountOf r e) ∧
    (∀ k, k < d → (∀ s ∈ r, k < s.1) → ∀ s ∈ (if x = 0 then r else (d, x) :: r), k < s.1) := by
  split
  · rename_i hz
    refine ⟨hr, hnz, fun e => ?_, fun k _ h => h⟩
    split
    · rename_i he; rw [← he, hz]; exact amountOf_of_lb hlb
    · rfl
  · rename_i hz
    exact ⟨SSorted.cons hr hlb, List.forall_mem_cons.mpr ⟨hz, hnz⟩, fun e => rfl,
      fun k hk h => List.forall_mem_cons.mpr ⟨hk, h⟩⟩

theorem removeZero_amountOf {l : Shares} (h : SSorted l) (d : Nat) :
    amountOf (removeZero l) d = amountOf l d := by
  induction l with
  | nil => rfl
  | cons s r ih =>
    have e : removeZero (s :: r) = if s.2 = 0 then removeZero r else s :: removeZero r := by
      by_cases hz : s.2 = 0 <;> simp [removeZero, hz]
    rw [e, (cons_spec s.1 s.2 (removeZero_sorted h.tail) (fun x hx => (removeZero_mem hx).2)
      fun x hx => h.head_lt x (removeZero_mem hx).1).2.2.1 d, ih h.tail]
    rfl

/-- the conclusion of `merge_spec` as a relation, symmetric in the operands -/
def Merged (A B R : Shares) : Prop :=
  SSorted R ∧ (∀ s ∈ R, s.2 ≠ 0) ∧ (∀ d, amountOf R d = amountOf A d + amountOf B d) ∧
  (∀ k, (∀ x ∈ A, k < x.1) → (∀ y ∈ B, k < y.1) → ∀ s ∈ R, k < s.1)

theorem Merged.symm {A B R : Shares} (h : Merged A B R) : Merged B A R :=
  ⟨h.1, h.2.1, fun d => (h.2.2.1 d).trans (Int.add_comm _ _), fun k hb ha => h.2.2.2 k ha hb⟩

theorem Merged.nil {B : Shares} (hB : SSorted B) : Merged [] B (removeZero B) :=
  ⟨removeZero_sorted hB, fun s hs => (removeZero_mem hs).2,
    fun d => (removeZero_amountOf hB d).trans (Int.zero_add _).symm,
    fun k _ hb s hs => hb s (removeZero_mem hs).1⟩

/-- the round that takes the head of the first operand, its denom being below all of the second -/
theorem Merged.front {a : Nat × Int} {A B r : Shares} (h : Merged A B r) (hA : SSorted (a :: A))
    (hB : ∀ y ∈ B, a.1 < y.1) : Merged (a :: A) B (if a.2 = 0 then r else a :: r) := by
  obtain ⟨i1, i2, i3, i4⟩ := h
  obtain ⟨c1, c2, c3, c4⟩ := cons_spec a.1 a.2 i1 i2 (i4 a.1 hA.head_lt hB)
  refine ⟨c1, c2, fun d => ?_, fun k ha hb => c4 k (ha a List.mem_cons_self)
    (i4 k (fun x hx => ha x (List.mem_cons_of_mem _ hx)) hb)⟩
  rw [c3 d, amountOf_cons a A]
  by_cases hd : a.1 = d
  · rw [if_pos hd, if_pos hd, ← hd, amountOf_of_lb hB]; exact (Int.add_zero _).symm
  · rw [if_neg hd, if_neg hd]; exact i3 d

/-- partial correctness of the `safeAdd` loop on strictly sorted operands: the result is strictly
    sorted (duplicate-free), has no zero entry, is the pointwise sum, and contains no denom below a
    common lower bound of the operands -/
theorem merge_spec (A B : Shares) : SSorted A → SSorted B → ∀ R, merge A B = some R →
    SSorted R ∧ (∀ s ∈ R, s.2 ≠ 0) ∧ (∀ d, amountOf R d = amountOf A d + amountOf B d) ∧
    (∀ k, (∀ x ∈ A, k < x.1) → (∀ y ∈ B, k < y.1) → ∀ s ∈ R, k < s.1) := by
  fun_induction merge A B with
  | case1 B => intro _ hB R hR; cases hR; exact Merged.nil hB
  | case2 a A => intro hA _ R hR; cases hR; exact (Merged.nil hA).symm
  | case3 a A b B hlt ih =>
    intro hA hB R hR
    obtain ⟨r, hr, rfl⟩ := Option.map_eq_some_iff.mp hR
    exact Merged.front (ih hA.tail hB r hr) hA (hB.lt_of_lt_head hlt)
  | case4 a A b B hnlt heq hneg =>
    intro _ _ R hR; cases hR
  | case5 a A b B hnlt heq hnneg ih =>
    intro hA hB R hR
    obtain ⟨r, hr, rfl⟩ := Option.map_eq_some_iff.mp hR
    obtain ⟨i1, i2, i3, i4⟩ := ih hA.tail hB.tail r hr
    obtain ⟨c1, c2, c3, c4⟩ := cons_spec a.1 (a.2 + b.2) i1 i2
      (i4 a.1 hA.head_lt fun y hy => heq ▸ hB.head_lt y hy)
    refine ⟨c1, c2, fun d => ?_, fun k ha hb => c4 k (ha a List.mem_cons_self)
      (i4 k (fun x hx => ha x (List.mem_cons_of_mem _ hx)) fun y hy => hb y (List.mem_cons_of_mem _ hy))⟩
    rw [c3 d, amountOf_cons a A, amountOf_cons b B, ← heq]
    by_cases hd : a.1 = d
    · rw [if_pos hd, if_pos hd, if_pos hd]
    · rw [if_neg hd, if_neg hd, if_neg hd]; exact i3 d
  | case6 a A b B hnlt hneq ih =>
    intro hA hB R hR
    obtain ⟨r, hr, rfl⟩ := Option.map_eq_some_iff.mp hR
    exact (Merged.front (Merged.symm (ih hA hB.tail r hr)) hB
      (hA.lt_of_lt_head (by omega))).symm

/-- the loop does not panic when no pair of equal denoms has a negative sum -/
theorem merge_total (A B : Shares) :
    (∀ a ∈ A, ∀ b ∈ B, a.1 = b.1 → 0 ≤ a.2 + b.2) → ∃ R, merge A B = some R := by
  fun_induction merge A B with
  | case1 B => intro _; exact ⟨_, rfl⟩
  | case2 a A => intro _; exact ⟨_, rfl⟩
  | case3 a A b B hlt ih =>
    intro h
    obtain ⟨r, hr⟩ := ih (fun x hx y hy => h x (List.mem_cons_of_mem _ hx) y hy)
    exact ⟨_, by rw [hr]; rfl⟩
  | case4 a A b B hnlt heq hneg =>
    intro h
    have := h a List.mem_cons_self b List.mem_cons_self heq
    omega
  | case5 a A b B hnlt heq hnneg ih =>
    intro h
    obtain ⟨r, hr⟩ := ih (fun x hx y hy => h x (List.mem_cons_of_mem _ hx) y (List.mem_cons_of_mem _ hy))
    exact ⟨_, by rw [hr]; rfl⟩
  | case6 a A b B hnlt hneq ih =>
    intro h
    obtain ⟨r, hr⟩ := ih (fun x hx y hy => h x hx y (List.mem_cons_of_mem _ hy))
    exact ⟨_, by rw [hr]; rfl⟩

theorem isSorted_of_SSorted {l : Shares} (h : SSorted l) : isSorted l = true := by
  fun_induction isSorted l with
  | case1 | case2 => rfl
  | case3 a b r ih =>
    simp only [Bool.and_eq_true, decide_eq_true_eq]
    exact ⟨Nat.le_of_lt (h.head_lt b List.mem_cons_self), ih h.tail⟩

theorem isValid_iff (l : Shares) : isValid l = true ↔ Valid l := by
  fun_induction isValid l with
  | case1 => simp [Valid, SSorted]
  | case2 a => simp [Valid, SSorted]
  | case3 a b r ih =>
    simp only [Bool.and_eq_true, decide_eq_true_eq, ih]
    constructor
    · rintro ⟨⟨ha, hab⟩, hs, hp⟩
      exact ⟨SSorted.cons hs (hs.lt_of_lt_head hab), List.forall_mem_cons.mpr ⟨ha, hp⟩⟩
    · rintro ⟨hs, hp⟩
      exact ⟨⟨hp a List.mem_cons_self, hs.head_lt b List.mem_cons_self⟩, hs.tail,
        fun s h' => hp s (List.mem_cons_of_mem _ h')⟩

theorem add_of_sum_nonneg {A B : Shares} (hA : SSorted A) (hB : SSorted B)
    (h : ∀ d, 0 ≤ amountOf A d + amountOf B d) :
    ∃ R, add A B = .ok R ∧ Valid R ∧ ∀ d, amountOf R d = amountOf A d + amountOf B d := by
  obtain ⟨R, hR⟩ := merge_total A B (fun a ha b hb hab => by
    have := h a.1
    rwa [amountOf_mem hA ha, hab, amountOf_mem hB hb] at this)
  obtain ⟨s1, s2, s3, -⟩ := merge_spec A B hA hB R hR
  refine ⟨R, ?_, ⟨s1, fun s hs => ?_⟩, s3⟩
  · simp only [add, isSorted_of_SSorted hA, isSorted_of_SSorted hB, hR, not_true_eq_false, ite_false]
  · have h1 := h s.1
    rw [← s3, amountOf_mem s1 hs] at h1
    exact Int.lt_iff_le_and_ne.mpr ⟨h1, Ne.symm (s2 s hs)⟩

theorem add_spec {A B : Shares} (hA : Valid A) (hB : SSorted B) (hB0 : ∀ b ∈ B, 0 ≤ b.2) :
    ∃ R, add A B = .ok R ∧ Valid R ∧ ∀ d, amountOf R d = amountOf A d + amountOf B d :=
  add_of_sum_nonneg hA.1 hB fun d =>
    Int.add_nonneg (amountOf_nonneg (fun x hx => Int.le_of_lt (hA.2 x hx)) d) (amountOf_nonneg hB0 d)

theorem negative_sorted {B : Shares} (h : SSorted B) : SSorted (negative B) := by
  unfold SSorted negative at *
  exact List.pairwise_map.mpr h

theorem negative_amountOf (B : Shares) (d : Nat) : amountOf (negative B) d = - amountOf B d := by
  fun_induction amountOf B d with
  | case1 => rfl
  | case2 s r => exact if_pos rfl
  | case3 s r d hd ih => exact (if_neg hd).trans ih

theorem sub_spec {A B : Shares} (hA : Valid A) (hB : SSorted B)
    (hle : ∀ d, amountOf B d ≤ amountOf A d) :
    ∃ R, sub A B = .ok R ∧ Valid R ∧ ∀ d, amountOf R d = amountOf A d - amountOf B d := by
  obtain ⟨R, hR, hRv, hRa⟩ := add_of_sum_nonneg hA.1 (negative_sorted hB) fun d => by
    rw [negative_amountOf, ← Int.sub_eq_add_neg]; exact Int.sub_nonneg.mpr (hle d)
  refine ⟨R, ?_, hRv, fun d => by rw [hRa d, negative_amountOf, Int.sub_eq_add_neg]⟩
  have : R.any (fun s => decide (s.2 < 0)) = false :=
    List.any_eq_false.mpr fun s hs => by simpa using Int.le_of_lt (hRv.2 s hs)
  simp only [sub, hR, this, Bool.false_eq_true, ite_false]

theorem amountOf_single (v : Nat) (x : Int) (d : Nat) : amountOf [(v, x)] d = if d = v then x else 0 := by
  simp only [amountOf, eq_comm]

theorem isZero_valid {l : Shares} (h : Valid l) : isZero l = true ↔ l = [] := by
  constructor
  · intro hz
    cases l with
    | nil => rfl
    | cons s r =>
      have h0 := of_decide_eq_true ((List.all_eq_true.mp hz) s List.mem_cons_self)
      exact absurd h0 (Int.ne_of_gt (h.2 s List.mem_cons_self))
  · intro e; subst e; rfl

/-- the `Add` of every keeper `Deposit`: one share raising the amount of `v` to `x` -/
theorem add_single {A : Shares} (hA : Valid A) {v : Nat} {x : Int} (hx : amountOf A v ≤ x) :
    ∃ R, add A [(v, x - amountOf A v)] = .ok R ∧ Valid R ∧ ∀ d, amountOf R d = if d = v then x else amountOf A d := by
  obtain ⟨R, hR, hRv, hRa⟩ := add_spec (B := [(v, x - amountOf A v)]) hA (List.pairwise_singleton _ _)
    (fun b hb => List.mem_singleton.mp hb ▸ Int.sub_nonneg.mpr hx)
  refine ⟨R, hR, hRv, fun d => ?_⟩
  rw [hRa d, amountOf_single]
  split
  · rename_i hd; rw [hd]; omega
  · exact Int.add_zero _

/-- the `Sub` of every keeper `Withdraw`: one share bringing the amount of `v` to `x ≥ 0`; the record
    `UpdateVaultShareRecord` then stores is the result itself -/
theorem sub_single {A : Shares} (hA : Valid A) (v : Nat) (x : Int) (hx0 : 0 ≤ x) :
    ∃ R, sub A [(v, amountOf A v - x)] = .ok R ∧ Valid R ∧ (if isZero R then [] else R) = R ∧
      ∀ d, amountOf R d = if d = v then x else amountOf A d := by
  obtain ⟨R, hR, hRv, hRa⟩ := sub_spec (B := [(v, amountOf A v - x)]) hA (List.pairwise_singleton _ _)
    (fun d => by
      rw [amountOf_single]; split
      · rename_i hd; rw [hd]; omega
      · exact amountOf_nonneg (fun s hs => Int.le_of_lt (hA.2 s hs)) d)
  refine ⟨R, hR, hRv, ?_, fun d => ?_⟩
  · split
    · rename_i hz; exact ((isZero_valid hRv).mp hz).symm
    · rfl
  · rw [hRa d, amountOf_single]
    split
    · rename_i hd; rw [hd]; omega
    · exact Int.sub_zero _

end Shares

open Shares

/-- invariant of the several-vault world: every vault satisfies the single-vault invariant on its
    view (total shares = Σ over `accts` of the accounts' `AmountOf`, …) and every account's record
    is valid (strictly sorted by denom, duplicate-free, positive amounts) -/
def MInv (accts : List Addr) (m : MSt) : Prop :=
  (∀ v, Inv accts (view m v)) ∧ ∀ a, Valid (m.recs a)

theorem St.ext' (s t : St) (h1 : s.found = t.found) (h2 : s.tot = t.tot) (h3 : ∀ a, s.sh a = t.sh a)
    (h4 : s.val = t.val) (h5 : s.loose = t.loose) (h6 : ∀ a, s.bal a = t.bal a) : s = t := by
  cases s; cases t
  simp only [St.mk.injEq] at *
  exact ⟨h1, h2, funext h3, h4, h5, funext h6⟩

theorem view_congr {m m' : MSt} {w : Nat} (hv : m'.vault w = m.vault w)
    (hr : ∀ b, amountOf (m'.recs b) w = amountOf (m.recs b) w) (hb : ∀ b, m'.bal b w = m.bal b w) :
    view m' w = view m w := by
  simp only [view, hv, hr, hb]

theorem updRec_same (f : Addr → Shares) (a : Addr) (r : Shares) : updRec f a r a = r := if_pos rfl
theorem updRec_ne (f : Addr → Shares) {a b : Addr} (r : Shares) (h : b ≠ a) : updRec f a r b = f b :=
  if_neg h
theorem updVault_same (f : Nat → VCore) (v : Nat) (c : VCore) : updVault f v c v = c := if_pos rfl
theorem updVault_ne (f : Nat → VCore) {v w : Nat} (c : VCore) (h : w ≠ v) : updVault f v c w = f w :=
  if_neg h

/-- `m'` is `m` after vault `v` stepped to the single-vault state `s'` on behalf of `act`: the view of
    `v` is `s'`; every other vault's view, every other account's record and balances, everybody's
    amounts and balances in the other vaults and every other vault's core are those of `m`; every
    record is valid -/
structure VaultStep (m : MSt) (v : Nat) (act : Option Addr) (s' : St) (m' : MSt) : Prop where
  stepped : view m' v = s'
  others : ∀ w, w ≠ v → view m' w = view m w
  accounts : ∀ b, act ≠ some b → m'.recs b = m.recs b ∧ m'.bal b = m.bal b
  vaults : ∀ b w, w ≠ v → amountOf (m'.recs b) w = amountOf (m.recs b) w ∧ m'.bal b w = m.bal b w
  cores : ∀ w, w ≠ v → m'.vault w = m.vault w
  valid : ∀ b, Valid (m'.recs b)

/-- Writing the single-vault result `s'` of an operation of account `a` on vault `v` back into the
    several-vault world, `R` being the account's new record: if `R` is the old record with the amount
    of `v` set to `a`'s shares in `s'`, and `s'` differs from the old view in `a`'s shares and balance
    only, then the new view of `v` is `s'` and everything else is untouched.  (`some a` is `o.actor`.) -/
theorem writeBack {m : MSt} (hrec : ∀ b, Valid (m.recs b)) {v : Nat} {a : Addr} {R : Shares}
    (hRv : Valid R) {s' : St} (hR : ∀ d, amountOf R d = if d = v then s'.sh a else amountOf (m.recs a) d)
    (hfr : ∀ b, some a ≠ some b → s'.sh b = (view m v).sh b ∧ s'.bal b = (view m v).bal b) :
    VaultStep m v (some a) s' { recs := updRec m.recs a R, vault := updVault m.vault v (coreOf s'),
                                bal := updBal m.bal a v (s'.bal a) } := by
  have hne : ∀ {b}, b ≠ a → some a ≠ some b := fun h e => h (Option.some.inj e).symm
  have h4 : ∀ b w, w ≠ v → amountOf (updRec m.recs a R b) w = amountOf (m.recs b) w ∧
      updBal m.bal a v (s'.bal a) b w = m.bal b w := by
    intro b w hw
    refine ⟨?_, if_neg fun h => hw h.2⟩
    by_cases hba : b = a
    · rw [hba, updRec_same, hR w]; exact if_neg hw
    · rw [updRec_ne _ _ hba]
  have h5 : ∀ w, w ≠ v → updVault m.vault v (coreOf s') w = m.vault w := fun w hw => updVault_ne _ _ hw
  refine ⟨?_, fun w hw => view_congr (h5 w hw) (fun b => (h4 b w hw).1) (fun b => (h4 b w hw).2),
    fun b hb => ⟨updRec_ne _ _ fun e => hb (e ▸ rfl), funext fun w => if_neg fun (h : b = a ∧ w = v) => hb (h.1 ▸ rfl)⟩,
    h4, h5, fun b => ?_⟩
  · apply St.ext' <;> simp only [view, updVault_same, coreOf]
    · intro b
      by_cases hba : b = a
      · rw [hba, updRec_same, hR v]; exact if_pos rfl
      · rw [updRec_ne _ _ hba]; exact ((hfr b (hne hba)).1).symm
    · intro b
      by_cases hba : b = a
      · rw [hba]; exact if_pos ⟨rfl, rfl⟩
      · rw [(hfr b (hne hba)).2]; exact if_neg fun h => hba h.1
  · show Valid (updRec m.recs a R b)
    by_cases hba : b = a
    · rw [hba, updRec_same]; exact hRv
    · rw [updRec_ne _ _ hba]; exact hrec b

/-- a successful single-vault step succeeds in the several-vault world too: the record operations
    do not panic and store the single-vault result -/
theorem mstep_ok {accts : List Addr} {m : MSt} {v : Nat} {o : Op} {s' : St}
    (hact : ∀ a, o.actor = some a → a ∈ accts) (hinv : MInv accts m)
    (hs : step (view m v) o = .ok s') : ∃ m', mstep m v o = .ok m' ∧ VaultStep m v o.actor s' m' := by
  have hv := hinv.1 v
  have hfr := fun b => step_frame hs (b := b)
  cases o with
  | accrue dv =>
    obtain ⟨-, -, hs'⟩ := accrue_ok hs
    have h5 : ∀ w, w ≠ v → updVault m.vault v (coreOf s') w = m.vault w := fun w hw => updVault_ne _ _ hw
    refine ⟨{ m with vault := updVault m.vault v (coreOf s') }, by simp only [mstep, hs], ?_,
      fun w hw => view_congr (h5 w hw) (fun _ => rfl) (fun _ => rfl), fun _ _ => ⟨rfl, rfl⟩,
      fun _ _ _ => ⟨rfl, rfl⟩, h5, hinv.2⟩
    apply St.ext' <;> simp only [view, updVault_same, coreOf] <;> rw [hs'] <;> intros <;> rfl
  | deposit a x vo so ao =>
    obtain ⟨hx, -, shares, hcs, hs'⟩ := deposit_ok (show deposit (view m v) a x vo so ao = .ok s' from hs)
    have hle : amountOf (m.recs a) v ≤ s'.sh a := by
      rw [hs']; show _ ≤ upd _ a _ a
      rw [upd_same]; exact Int.le_add_of_nonneg_right (Int.le_of_lt (convertToShares_inv hv hx hcs).1)
    obtain ⟨R, hR, hRv, hRa⟩ := add_single (hinv.2 a) hle
    exact ⟨_, by simp only [mstep, hs, hR], writeBack hinv.2 hRv hRa hfr⟩
  | withdraw a want vo so =>
    obtain ⟨w, amt, d, w', hw, hs'⟩ :=
      withdrawWith_arith (dust := dustStored (view m v) a) (hact a rfl) hv hs
    have hsa : s'.sh a = amountOf (m.recs a) v - w' := by rw [hs']; exact upd_same _ _ _
    obtain ⟨R, hR, hRv, hR', hRa⟩ := sub_single (hinv.2 a) v (s'.sh a)
      (hsa ▸ Int.sub_nonneg.mpr hw.swept_le)
    exact ⟨_, by simp only [mstep, hs, hR, hR'], writeBack hinv.2 hRv hRa hfr⟩

/-- what a successful single-vault step means for the several-vault world: `mstep` succeeds too
    (the record operations do not panic), the stepped vault's view is the single-vault result, every
    other vault's view, every other account's record and every other balance are untouched, and
    every record stays valid -/
theorem mstep_lift (accts : List Addr) (m : MSt) (v : Nat) (o : Op) (s' : St)
    (hact : ∀ a, o.actor = some a → a ∈ accts) (hinv : MInv accts m)
    (hs : step (view m v) o = .ok s') :
    ∃ m', mstep m v o = .ok m' ∧ view m' v = s' ∧ (∀ w, w ≠ v → view m' w = view m w) ∧
      (∀ b, o.actor ≠ some b → m'.recs b = m.recs b ∧ m'.bal b = m.bal b) ∧
      (∀ b w, w ≠ v → amountOf (m'.recs b) w = amountOf (m.recs b) w ∧ m'.bal b w = m.bal b w) ∧
      (∀ w, w ≠ v → m'.vault w = m.vault w) ∧ (∀ b, Valid (m'.recs b)) := by
  obtain ⟨m', hm, h⟩ := mstep_ok hact hinv hs
  exact ⟨m', hm, h.stepped, h.others, h.accounts, h.vaults, h.cores, h.valid⟩

/-- `mstep` follows the single-vault step: an error or panic there is an error or panic here -/
theorem mstep_fail (m : MSt) (v : Nat) (o : Op) (h : ∀ s', step (view m v) o ≠ .ok s') :
    ∀ m', mstep m v o ≠ .ok m' := by
  intro m' hm
  unfold mstep at hm
  split at hm
  · cases hm
  · cases hm
  · rename_i s' hs; exact h s' hs

/-- `mstep_ok` for `mnext`, successful or not: the stepped vault goes to the single-vault `next` of
    its view -/
theorem mnext_lift {accts : List Addr} {m : MSt} (v : Nat) (o : Op)
    (hact : ∀ a, o.actor = some a → a ∈ accts) (hinv : MInv accts m) :
    VaultStep m v o.actor (next (view m v) o) (mnext m (v, o)) := by
  cases hs : step (view m v) o
  case ok s' =>
    obtain ⟨m', hm, h⟩ := mstep_ok hact hinv hs
    simp only [next, mnext, hs, hm]
    exact h
  all_goals
    simp only [next, mnext, mstep, hs]
    exact ⟨rfl, fun _ _ => rfl, fun _ _ => ⟨rfl, rfl⟩, fun _ _ _ => ⟨rfl, rfl⟩, fun _ _ => rfl, hinv.2⟩

theorem mnext_inv {accts : List Addr} (hn : accts.Nodup) (m : MSt) (vo : Nat × Op)
    (hact : ∀ a, vo.2.actor = some a → a ∈ accts) (hinv : MInv accts m) : MInv accts (mnext m vo) := by
  have h := mnext_lift vo.1 vo.2 hact hinv
  refine ⟨fun u => ?_, h.valid⟩
  by_cases hu : u = vo.1
  · rw [hu, h.stepped]; exact next_inv hn _ vo.2 hact (hinv.1 vo.1)
  · rw [h.others u hu]; exact hinv.1 u

theorem mrun_inv {accts : List Addr} (hn : accts.Nodup) (ops : List (Nat × Op)) :
    ∀ m, (∀ vo ∈ ops, ∀ a, vo.2.actor = some a → a ∈ accts) → MInv accts m → MInv accts (mrun m ops) :=
  foldl_inv mnext (MInv accts) _ (fun m vo => mnext_inv hn m vo) ops

/-- the shares an operation adds to / removes from the acting account are exactly what it adds to /
    removes from the vault's total (what the harness's log of deposits and withdrawals records) -/
theorem step_delta (accts : List Addr) (s s' : St) (o : Op) (a : Addr) (ha : a ∈ accts)
    (hact : o.actor = some a) (hinv : Inv accts s) (h : step s o = .ok s') :
    s'.sh a - s.sh a = s'.tot - s.tot := by
  cases o with
  | accrue dv => cases hact
  | deposit b x vo so ao =>
    cases hact
    obtain ⟨-, -, shares, -, rfl⟩ := deposit_ok h
    show upd s.sh a _ a - _ = s.tot + shares - s.tot
    rw [upd_same]; omega
  | withdraw b want vo so =>
    cases hact
    obtain ⟨w, amt, d, w', -, rfl⟩ := withdrawWith_arith (dust := dustStored s a) ha hinv h
    show upd s.sh a _ a - _ = s.tot - w' - s.tot
    rw [upd_same]; omega

/-- "an account can always withdraw its redeemable value": from a state satisfying the invariant, an
    account whose redeemable value is positive succeeds in withdrawing exactly that value, provided
    the share price does not exceed 10^18 coins per whole share (`val ≤ tot` in mantissa units; the
    converted share count of a coin would otherwise truncate to zero) and the module account's own
    balance is not negative.  (That the strategy can pay is the monitored liquidity assumption.) -/
theorem withdraw_redeemable_ok (accts : List Addr) (s : St) (a : Addr) (ha : a ∈ accts)
    (hinv : Inv accts s) (hpos : 0 < redeemable s a) (hprice : s.val ≤ s.tot) (hl : 0 ≤ s.loose) :
    ∃ s', withdraw s a (redeemable s a) true true = .ok s' := by
  have hf : s.found = true := by
    cases hh : s.found with
    | true => rfl
    | false => rw [redeemable_notfound hh] at hpos; exact absurd hpos (Int.lt_irrefl 0)
  have hT := hinv.tot_pos hf
  have hV0 := hinv.val_nonneg
  have hsa := hinv.sh_le_tot ha
  rw [redeemable_found hinv hf] at hpos ⊢
  have hV : 0 < s.val := Int.lt_iff_le_and_ne.mpr ⟨hV0, fun hz => by
    rw [← hz, Int.zero_mul, Int.zero_ediv] at hpos; exact Int.lt_irrefl 0 hpos⟩
  have hrT : s.val * s.sh a / s.tot * s.tot ≤ s.sh a * s.val :=
    Int.mul_comm s.val _ ▸ Int.ediv_mul_le _ (Int.ne_of_gt hT)
  have hacc := convertToAssets_found hf hT hV0 (hinv.1 a)
  generalize s.val * s.sh a / s.tot = r at hpos hrT ⊢
  -- the shares asked for: 1 ≤ w ≤ sh a, the first by the bound on the share price
  have hw1 : 0 < r * s.tot / s.val :=
    Int.le_ediv_of_mul_le hV (Int.mul_le_mul hpos hprice hV0 (Int.le_of_lt hpos))
  have hwle : r * s.tot / s.val ≤ s.sh a := Int.ediv_le_of_le_mul hV hrT
  have hcs := convertToShares_found hf (Int.le_of_lt hpos) (Int.le_of_lt hT) hV
  generalize r * s.tot / s.val = w at hw1 hwle hcs
  rw [if_neg (Int.ne_of_gt hw1)] at hcs
  obtain ⟨-, hamtle, hamtV⟩ := payout_bounds hV0 hT (Int.le_of_lt hw1) hwle hsa
  have hamt := convertToAssets_found hf hT hV0 (Int.le_of_lt hw1)
  have hpaid : stratPaid (s.val * w / s.tot) s.val = s.val * w / s.tot := if_neg (Int.not_lt.mpr hamtV)
  obtain ⟨d, hd⟩ : ∃ d, convertToAssets { s with val := s.val - s.val * w / s.tot } (s.sh a - w) = .ok d :=
    ⟨_, convertToAssets_found (s := { s with val := s.val - s.val * w / s.tot }) hf hT
      (Int.sub_nonneg.mpr hamtV) (Int.sub_nonneg.mpr hwle)⟩
  have hsw := (sweep_bounds d hwle).2
  -- every guard of `Withdraw` passes, and the calls it passes on succeed with the values above
  unfold withdraw
  rw [if_neg (not_not_intro rfl), if_neg (Int.ne_of_gt hpos), if_neg (not_not_intro rfl),
    if_neg (not_not_intro hf)]
  simp only [hcs, hamt, hacc, hpaid, hd]
  rw [if_neg (Int.not_lt.mpr hwle), if_neg (Int.not_lt.mpr hamtle), if_neg (Int.ne_of_gt hV),
    if_neg (Int.not_lt.mpr (Int.le_add_of_nonneg_left hl))]
  exact ⟨_, withdrawRecords_ok_iff.mpr ⟨hsw, Int.le_trans hsw hsa, rfl⟩⟩

end KV.Earn
