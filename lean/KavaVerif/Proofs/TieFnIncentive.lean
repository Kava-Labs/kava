/-
  Source tie ("tie 1b") for x/incentive/types/accumulator.go and keeper/rewards_borrow.go: the Lean definitions
  REGENERATED from the Go source on every run (Generated/FnIncentive.lean, tools/extract/fn*.go) equal the
  hand-written model functions the C09 theorems are about.  An edit of a Go function changes the generated
  definition and its equality proof stops checking.
  Encoding: `time.Time` = unix nanoseconds, `time.Duration` = nanoseconds (`Int`); a Go panic = the model's `none`.
-/
import KavaVerif.Generated.FnIncentive
import KavaVerif.Model.Accumulator
import KavaVerif.Proofs.TieFnBase

namespace KV.TieFn
open KV KV.Go

-- `min`/`max` test `a ≤ b`, the Go functions the strict converse
theorem incentive_minTime (a b : Int) : GoFn.Incentive.minTime a b = R.ok (min a b) := by
  simp only [GoFn.Incentive.minTime, Int.min_def, ← Int.not_lt, ite_not, apply_ite R.ok]
  tie_norm

theorem incentive_maxTime (a b : Int) : GoFn.Incentive.maxTime a b = R.ok (max a b) := by
  simp only [GoFn.Incentive.maxTime, Int.max_comm a, Int.max_def, ← Int.not_lt, ite_not, apply_ite R.ok]
  tie_norm

/-- `t.Sub(u)` for `u` not after `t` saturates only at the upper end -/
theorem timeSub_of_le (t u : Int) (h : u ≤ t) :
    Go.timeSub t u = if Go.maxDur < t - u then Go.maxDur else t - u := by
  have h' : ¬ t - u < Go.minDur := by unfold Go.minDur; omega
  unfold Go.timeSub
  rw [if_neg h']

theorem incentive_getTimeElapsedWithinLimits (prev now start stop : Int) :
    GoFn.Incentive.getTimeElapsedWithinLimits_translated = true ∧
    GoFn.Incentive.getTimeElapsedWithinLimits prev now start stop = R.ofOption (KV.Acc.elapsed prev now start stop) := by
  refine ⟨rfl, ?_⟩
  simp only [GoFn.Incentive.getTimeElapsedWithinLimits, KV.Acc.elapsed, incentive_minTime, incentive_maxTime]
  tie_norm
  simp only [apply_ite R.ofOption, R.ofOption_none, R.ofOption_some]
  -- the three guards are the same tests on both sides; past them the clipped interval is not empty
  refine ite_congr rfl (fun _ => rfl) fun h1 => ite_congr rfl (fun _ => rfl) fun h2 =>
    ite_congr rfl (fun _ => rfl) fun h3 => ?_
  rw [timeSub_of_le _ _ (by omega)]; rfl

/-- `CalculateSingleReward` (x/incentive/keeper/rewards_borrow.go) on Dec mantissas = `singleReward`; the model's `none`
    is the Go error `ErrDecreasingRewardFactor` -/
theorem incentive_CalculateSingleReward (old new shares : Int) :
    GoFn.Incentive.CalculateSingleReward_translated = true ∧
    GoFn.Incentive.CalculateSingleReward ⟨old⟩ ⟨new⟩ ⟨shares⟩
      = (match KV.Acc.singleReward old new shares with | none => R.err | some x => R.ok x) := by
  refine ⟨rfl, ?_⟩
  simp only [GoFn.Incentive.CalculateSingleReward, KV.Acc.singleReward]
  dsimp only [Dec.isNegative, Dec.sub]
  tie_norm
  split <;> rfl

end KV.TieFn
