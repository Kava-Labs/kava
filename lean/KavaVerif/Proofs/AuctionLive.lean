/-
  Helper lemmas for C06, part 6: an expired auction can always be closed on a state satisfying the
  invariant, hence `BeginBlocker` (which panics on any close error) completes. Core Lean only.
-/
import KavaVerif.Proofs.AuctionSteps

namespace KV.Auc

theorem modCoins_nonneg {env : Env} {a : Auction} (hA : AWF env a) (d : Denom) : 0 ≤ modCoins a d := by
  have h1 := ind_nonneg (a.lotD = d) a.lot hA.lot_nonneg
  have h2 := ind_nonneg (a.debtD = d) a.debt hA.debt_nonneg
  cases hk : a.kind with
  | surplus => rw [modCoins_surplus _ _ hk]; exact h1
  | debt => rw [modCoins_debt _ _ hk]; exact h2
  | collateral => rw [modCoins_collateral _ _ hk]; omega

theorem modCoins_le_bal {env : Env} {s : St} (hI : Inv env s) {i : Nat} {a : Auction} (ha : s.auc i = some a)
    (d : Denom) : modCoins a d ≤ s.bal env.M d := by
  obtain ⟨hwf, hcu, _⟩ := hI
  rw [hcu d]
  have := sumTo_ge_term s.nextId (fun j => modCoinsO (s.auc j) d) (fun j _ => by
    show 0 ≤ modCoinsO (s.auc j) d
    cases hj : s.auc j with
    | none => exact Int.le_refl 0
    | some x => exact modCoins_nonneg (hwf j x hj).2.2 d) i (hwf i a ha).2.1
  rwa [ha] at this

/-- all balances are non-negative (an x/bank invariant) -/
def NonNeg (b : Bal) : Prop := ∀ z e, 0 ≤ b z e

theorem send_nonneg (b b' : Bal) (x y : Addr) (d : Denom) (n : Int) (h : send b x y d n = some b')
    (hb : NonNeg b) : NonNeg b' := by
  intro z e
  have he := send_eff h z e
  have := hb z e
  have := hb x d
  rcases send_funds b b' x y d n h with h0 | ⟨hp, hle⟩
  · rw [h0, ind_zero, ind_zero] at he; omega
  · have hy := ind_nonneg (z = y ∧ e = d) n (by omega)
    by_cases h1 : z = x ∧ e = d
    · rw [ind_pos _ h1] at he; rw [h1.1, h1.2] at he hy ⊢; omega
    · rw [ind_neg _ h1] at he; omega

theorem mint_nonneg (b : Bal) (m : Addr) (d : Denom) (n : Int) (hn : 0 ≤ n) (hb : NonNeg b) :
    NonNeg (mintTo b m d n) := by
  intro z e
  rw [mint_eff]
  have := hb z e
  have := ind_nonneg (z = m ∧ e = d) n hn
  omega

theorem sendM2A_ok_nonneg {env : Env} {b : Bal} {x y : Addr} {d : Denom} {n : Int}
    (hb : env.blocked y = false) (h0 : 0 ≤ n) (h1 : n ≤ b x d) (hnn : NonNeg b) :
    ∃ b', sendM2A env b x y d n = some b' ∧ NonNeg b' := by
  obtain ⟨b', h⟩ := sendM2A_ok env b x y d n hb h0 h1
  refine ⟨b', h, send_nonneg b b' x y d n ?_ hnn⟩
  rwa [sendM2A, if_neg (by rw [hb]; exact Bool.false_ne_true)] at h

/-- every stored auction can be paid out: its bidder is not a blocked address and a debt auction's
    initiator may mint (StartDebtAuction checks the latter; the former holds for every account that
    can sign a bid) -/
def Closable (env : Env) (s : St) : Prop :=
  ∀ i a, s.auc i = some a → env.blocked a.bidder = false ∧ (a.kind = .debt → env.minter a.initiator = true)

/-- the tail shared by the debt and collateral payouts goes through when the module holds the debt -/
theorem debtBack_ok (b1 : Bal) (M i : Addr) (dD : Denom) (n : Int) (hn : 0 ≤ n) (hc : n ≤ b1 M dD)
    (hnn : NonNeg b1) :
    ∃ b', (if ¬ (0 < n) then some (some b1) else some (send b1 M i dD n)) = some (some b') ∧ NonNeg b' := by
  split
  · exact ⟨b1, rfl, hnn⟩
  · obtain ⟨b3, h3⟩ := send_ok b1 M i dD n hn hc
    exact ⟨b3, by rw [h3], send_nonneg _ _ _ _ _ _ h3 hnn⟩

theorem payout_ok {env : Env} (hE : EnvOk env) {b : Bal} {a : Auction} (hA : AWF env a)
    (hcov : ∀ d, modCoins a d ≤ b env.M d) (hb : env.blocked a.bidder = false)
    (hm : a.kind = .debt → env.minter a.initiator = true) (hnn : NonNeg b) :
    ∃ b', payout env b a = some (some b') ∧ NonNeg b' := by
  obtain ⟨hlot, _, hdebt, _, hini, _⟩ := hA
  have hoM : ¬ (env.M = a.bidder) := Ne.symm (hE.ne_M hb)
  have hMi : ¬ (env.M = a.initiator) := fun h => hini h.symm
  have hc1 := hcov a.lotD
  have hc2 := hcov a.debtD
  have hd0 := ind_nonneg (a.debtD = a.lotD) a.debt hdebt
  have hl0 := ind_nonneg (a.lotD = a.debtD) a.lot hlot
  unfold payout
  cases hk : a.kind with
  | surplus =>
    rw [modCoins_surplus _ _ hk, ind_pos _ rfl] at hc1
    obtain ⟨b1, h1, hn1⟩ := sendM2A_ok_nonneg hb hlot hc1 hnn
    exact ⟨b1, by rw [h1], hn1⟩
  | debt =>
    rw [modCoins_debt _ _ hk, ind_pos _ rfl] at hc2
    have hfund : a.lot ≤ mintTo b a.initiator a.lotD a.lot a.initiator a.lotD := by
      rw [mint_eff, ind_pos _ ⟨rfl, rfl⟩]
      have := hnn a.initiator a.lotD; omega
    obtain ⟨b2, h2, hn2⟩ := sendM2A_ok_nonneg hb hlot hfund
      (mint_nonneg b a.initiator a.lotD a.lot hlot hnn)
    have e2 := (sendM2A_eff h2).2 env.M a.debtD
    rw [mint_eff, ind_left_false hMi, ind_left_false hoM] at e2
    simp only [hm hk, not_true_eq_false, ite_false, h2]
    exact debtBack_ok b2 env.M a.initiator a.debtD a.debt hdebt (by omega) hn2
  | collateral =>
    rw [modCoins_collateral _ _ hk, ind_pos _ rfl] at hc1 hc2
    obtain ⟨b1, h1, hn1⟩ := sendM2A_ok_nonneg (x := env.M) (d := a.lotD) hb hlot (by omega) hnn
    have e1 := (sendM2A_eff h1).2 env.M a.debtD
    rw [ind_self_and, ind_left_false hoM] at e1
    simp only [h1]
    exact debtBack_ok b1 env.M a.initiator a.debtD a.debt hdebt (by omega) hn1

theorem closeAuction_ok {env : Env} (hE : EnvOk env) {now : Int} {s : St} {id : Nat} {a : Auction}
    (hI : Inv env s) (hc : Closable env s) (hnn : NonNeg s.bal) (ha : s.auc id = some a) (hend : a.endT ≤ now) :
    ∃ s', closeAuction env now s id = .ok s' ∧ NonNeg s'.bal ∧ (∀ j, s'.auc j = if j = id then none else s.auc j) := by
  obtain ⟨b', hp, hn'⟩ := payout_ok hE (hI.awf ha)
    (modCoins_le_bal hI ha) (hc id a ha).1 (hc id a ha).2 hnn
  refine ⟨deleteAuction { s with bal := b' } id, ?_, hn', fun j => rfl⟩
  unfold closeAuction
  rw [ha]
  simp only [if_neg (Int.not_lt.mpr hend), hp]

theorem closeAll_ok (env : Env) (hE : EnvOk env) (now : Int) (ids : List Nat) (s : St) (hI : Inv env s)
    (hc : Closable env s) (hnn : NonNeg s.bal)
    (hexp : ∀ i, i ∈ ids → ∀ a, s.auc i = some a → a.endT ≤ now) :
    ∃ s', closeAll env now s ids = .ok s' := by
  induction ids generalizing s with
  | nil => exact ⟨s, rfl⟩
  | cons id ids ih =>
    have hexp' := fun i hi => hexp i (List.mem_cons_of_mem _ hi)
    unfold closeAll
    cases ha : s.auc id with
    | none =>
      rw [closeAuction_missing ha]
      exact ih s hI hc hnn hexp'
    | some a =>
      obtain ⟨s1, h1, hn1, hauc⟩ := closeAuction_ok hE hI hc hnn ha (hexp id List.mem_cons_self a ha)
      rw [h1]
      have keep : ∀ i x, s1.auc i = some x → s.auc i = some x := fun i x hx => by
        rw [hauc i] at hx
        split at hx
        · cases hx
        · exact hx
      exact ih s1 (closeAuction_inv hE hI h1) (fun i x hx => hc i x (keep i x hx)) hn1
        (fun i hi x hx => hexp' i hi x (keep i x hx))

theorem mem_expired {s : St} (hix : IndexExact s) {now : Int} {i : Nat} :
    i ∈ (s.index.filter (fun k => decide (k.1 ≤ now))).map (·.2) ↔ ∃ a, s.auc i = some a ∧ a.endT ≤ now := by
  constructor
  · intro hi
    obtain ⟨k, hk, rfl⟩ := List.mem_map.mp hi
    obtain ⟨hk1, hk2⟩ := List.mem_filter.mp hk
    obtain ⟨x, hx, hxe⟩ := (hix.2 k.1 k.2).mp hk1
    exact ⟨x, hx, hxe ▸ of_decide_eq_true hk2⟩
  · rintro ⟨a, ha, hle⟩
    exact List.mem_map.mpr ⟨(a.endT, i), List.mem_filter.mpr ⟨(hix.2 a.endT i).mpr ⟨a, ha, rfl⟩, decide_eq_true hle⟩, rfl⟩

theorem beginBlock_ok (env : Env) (hE : EnvOk env) (now : Int) (s : St) (hI : Inv env s)
    (hc : Closable env s) (hnn : NonNeg s.bal) : ∃ s', beginBlock env now s = .ok s' := by
  obtain ⟨s', h⟩ := closeAll_ok env hE now _ s hI hc hnn fun i hi a ha => by
    obtain ⟨x, hx, hle⟩ := (mem_expired hI.2.2).mp hi
    rw [ha] at hx; cases hx; exact hle
  exact ⟨s', by unfold beginBlock; rw [h]⟩

theorem beginBlock_result {env : Env} {now : Int} {s s' : St} (hix : IndexExact s)
    (h : beginBlock env now s = .ok s') :
    (∀ i a, s.auc i = some a → a.endT ≤ now → s'.auc i = none) ∧
    (∀ i a, s.auc i = some a → now < a.endT → s'.auc i = some a) ∧
    (∀ i, s.auc i = none → s'.auc i = none) := by
  have hauc := (closeAll_spec (beginBlock_spec h)).2
  refine ⟨fun i a ha hle => ?_, fun i a ha hlt => ?_, fun i hn => ?_⟩
  · rw [hauc, if_pos ((mem_expired hix).mpr ⟨a, ha, hle⟩)]
  · rw [hauc, if_neg, ha]
    intro hx
    obtain ⟨x, hx1, hx2⟩ := (mem_expired hix).mp hx
    rw [ha] at hx1; cases hx1; omega
  · rw [hauc]; split
    · rfl
    · exact hn

end KV.Auc
