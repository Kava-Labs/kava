/-
  Helper lemmas for C13 (x/bep3), part 1: the swap store, the two indexes and sums over swaps.
  Core Lean only.
-/
import KavaVerif.Model.Bep3
set_option linter.unusedSimpArgs false
set_option linter.unusedVariables false

namespace KV.Bep3

/-- the ids (store keys) of the swap records -/
def ids (l : List Swap) : List Id := l.map (·.id)

/-- contribution of one swap to `sumBy p` -/
def val (p : Swap → Bool) (x : Swap) : Int := if p x then x.amt else 0

theorem horizon_pos : 0 < horizon := by decide

theorem findSwap_cons (x : Swap) (xs : List Swap) (id : Id) :
    findSwap (x :: xs) id = if x.id = id then some x else findSwap xs id := rfl

theorem findSwap_some {l : List Swap} {id : Id} {sw : Swap} (h : findSwap l id = some sw) :
    sw ∈ l ∧ sw.id = id := by
  induction l with
  | nil => simp [findSwap] at h
  | cons x xs ih =>
    unfold findSwap at h
    split at h
    · cases h; rename_i hx; exact ⟨List.mem_cons_self, hx⟩
    · have := ih h; exact ⟨List.mem_cons_of_mem _ this.1, this.2⟩

theorem findSwap_none_iff {l : List Swap} {id : Id} : findSwap l id = none ↔ ∀ sw ∈ l, sw.id ≠ id := by
  induction l with
  | nil => exact ⟨fun _ _ hm => (nomatch hm), fun _ => rfl⟩
  | cons x xs ih =>
    rw [findSwap_cons, List.forall_mem_cons, ← ih]
    by_cases hx : x.id = id <;> simp [hx]

theorem mem_ids {l : List Swap} {x : Swap} (h : x ∈ l) : x.id ∈ ids l :=
  List.mem_map.mpr ⟨x, h, rfl⟩

theorem nodup_ids_cons {x : Swap} {xs : List Swap} :
    (ids (x :: xs)).Nodup ↔ x.id ∉ ids xs ∧ (ids xs).Nodup := by
  unfold ids; simp only [List.map_cons]; exact List.nodup_cons

theorem nodup_id_eq {l : List Swap} (hn : (ids l).Nodup) {x y : Swap} (hx : x ∈ l) (hy : y ∈ l)
    (h : x.id = y.id) : x = y := by
  induction l with
  | nil => cases hx
  | cons z zs ih =>
    have hnd := nodup_ids_cons.mp hn
    cases hx with
    | head =>
      cases hy with
      | head => rfl
      | tail _ hy' =>
        exfalso; apply hnd.1
        have := mem_ids hy'
        rw [← h] at this; exact this
    | tail _ hx' =>
      cases hy with
      | head =>
        exfalso; apply hnd.1
        have := mem_ids hx'
        rw [h] at this; exact this
      | tail _ hy' => exact ih hnd.2 hx' hy'

theorem findSwap_mem {l : List Swap} (hn : (ids l).Nodup) {sw : Swap} (hm : sw ∈ l) :
    findSwap l sw.id = some sw := by
  cases h : findSwap l sw.id with
  | none => exact absurd rfl (findSwap_none_iff.mp h sw hm)
  | some y =>
    have := findSwap_some h
    rw [nodup_id_eq hn this.1 hm this.2]

theorem ids_replace (l : List Swap) (sw : Swap) : ids (replaceSwap l sw) = ids l := by
  induction l with
  | nil => rfl
  | cons x xs ih =>
    simp only [ids, replaceSwap, List.map_cons] at ih ⊢
    rw [ih]
    by_cases h : x.id = sw.id <;> simp [h]

theorem mem_replace {l : List Swap} {sw sw' x : Swap} (hm : sw ∈ l) (hid : sw'.id = sw.id) :
    x ∈ replaceSwap l sw' ↔ (x ∈ l ∧ x.id ≠ sw.id) ∨ x = sw' := by
  unfold replaceSwap
  rw [List.mem_map, hid]
  constructor
  · rintro ⟨y, hy, rfl⟩
    by_cases h : y.id = sw.id
    · rw [if_pos h]; exact Or.inr rfl
    · rw [if_neg h]; exact Or.inl ⟨hy, h⟩
  · rintro (⟨hx, hne⟩ | rfl)
    · exact ⟨x, hx, if_neg hne⟩
    · exact ⟨sw, hm, if_pos rfl⟩

theorem forall_mem_replace {P : Swap → Prop} {l : List Swap} {sw' : Swap} (h : ∀ x ∈ l, P x) (h' : P sw') :
    ∀ x ∈ replaceSwap l sw', P x := by
  intro x hx
  obtain ⟨y, hy, rfl⟩ := List.mem_map.mp hx
  split
  · exact h'
  · exact h y hy

theorem findSwap_replace (l : List Swap) (sw : Swap) (x : Id) :
    findSwap (replaceSwap l sw) x =
      if x = sw.id then (findSwap l x).map (fun _ => sw) else findSwap l x := by
  induction l with
  | nil => simp [replaceSwap, findSwap]
  | cons y ys ih =>
    simp only [replaceSwap, List.map_cons] at ih ⊢
    by_cases hy : y.id = sw.id
    · simp only [hy, ite_true]
      by_cases hx : x = sw.id
      · subst hx; simp [findSwap, hy]
      · have hx' : ¬ sw.id = x := fun e => hx e.symm
        simp only [findSwap, hx', hy, ite_false, hx] at ih ⊢
        exact ih
    · simp only [hy, ite_false]
      by_cases hyx : y.id = x
      · have : ¬ x = sw.id := fun e => hy (hyx.trans e)
        simp [findSwap, hyx, this]
      · simp only [findSwap, hyx, ite_false]
        exact ih

theorem findSwap_replace_found {l : List Swap} {id : Id} {sw sw' : Swap} (hf : findSwap l id = some sw)
    (hid : sw'.id = id) (x : Id) :
    findSwap (replaceSwap l sw') x = if x = id then some sw' else findSwap l x := by
  rw [findSwap_replace, hid]
  split
  · rename_i hx; rw [hx, hf]; rfl
  · rfl

theorem setSwap_found {l : List Swap} {sw old : Swap} (h : findSwap l sw.id = some old) :
    setSwap l sw = replaceSwap l sw := by
  unfold setSwap; rw [h]

theorem setSwap_new {l : List Swap} {sw : Swap} (h : findSwap l sw.id = none) :
    setSwap l sw = sw :: l := by
  unfold setSwap; rw [h]

theorem mem_delSwap {l : List Swap} {id : Id} {x : Swap} : x ∈ delSwap l id ↔ x ∈ l ∧ x.id ≠ id := by
  unfold delSwap; simp [List.mem_filter]

theorem ids_delSwap_nodup {l : List Swap} {id : Id} (hn : (ids l).Nodup) : (ids (delSwap l id)).Nodup := by
  unfold ids delSwap at *
  exact List.Nodup.sublist (List.Sublist.map _ List.filter_sublist) hn

theorem findSwap_del (l : List Swap) (id x : Id) :
    findSwap (delSwap l id) x = if x = id then none else findSwap l x := by
  induction l with
  | nil => simp [delSwap, findSwap]
  | cons y ys ih =>
    unfold delSwap at ih ⊢
    by_cases hy : y.id = id
    · simp only [List.filter_cons, hy, ne_eq, not_true_eq_false, decide_false, Bool.false_eq_true, ite_false]
      rw [ih]
      by_cases hx : x = id
      · simp [hx]
      · have : ¬ id = x := fun e => hx e.symm
        simp [hx, findSwap, hy, this]
    · simp only [List.filter_cons, hy, ne_eq, not_false_eq_true, decide_true, ite_true]
      by_cases hyx : y.id = x
      · have : ¬ x = id := fun e => hy (hyx.trans e)
        simp [findSwap, hyx, this]
      · simp only [findSwap, hyx, ite_false]
        exact ih

theorem mem_insKey {l : List Key} {k x : Key} : x ∈ insKey l k ↔ x = k ∨ x ∈ l := by
  unfold insKey
  by_cases h : k ∈ l
  · simp only [h, ite_true]
    constructor
    · intro hx; exact Or.inr hx
    · rintro (rfl | hx)
      · exact h
      · exact hx
  · simp only [h, ite_false, List.mem_cons]

theorem nodup_insKey {l : List Key} {k : Key} (hn : l.Nodup) : (insKey l k).Nodup := by
  unfold insKey
  by_cases h : k ∈ l
  · simp only [h, ite_true]; exact hn
  · simp only [h, ite_false]; exact List.nodup_cons.mpr ⟨h, hn⟩

theorem mem_delKey {l : List Key} {k x : Key} : x ∈ delKey l k ↔ x ∈ l ∧ x ≠ k := by
  unfold delKey; simp [List.mem_filter]

theorem nodup_delKey {l : List Key} {k : Key} (hn : l.Nodup) : (delKey l k).Nodup := by
  unfold delKey; exact List.Nodup.sublist List.filter_sublist hn

theorem delKey_of_not_mem {l : List Key} {k : Key} (h : k ∉ l) : delKey l k = l := by
  unfold delKey
  apply List.filter_eq_self.mpr
  intro x hx
  have : x ≠ k := fun e => h (e ▸ hx)
  simp [this]

theorem sumBy_cons (p : Swap → Bool) (x : Swap) (xs : List Swap) :
    sumBy p (x :: xs) = val p x + sumBy p xs := rfl

theorem sumBy_map_congr (p : Swap → Bool) (f : Swap → Swap) (l : List Swap)
    (h : ∀ x ∈ l, val p (f x) = val p x) : sumBy p (l.map f) = sumBy p l := by
  induction l with
  | nil => rfl
  | cons x xs ih =>
    have h1 := h x List.mem_cons_self
    have h2 := ih (fun y hy => h y (List.mem_cons_of_mem _ hy))
    simp only [List.map_cons, sumBy] at h2 ⊢
    simp only [val] at h1
    rw [h1, h2]

theorem sumBy_replace_notin (p : Swap → Bool) (l : List Swap) (sw : Swap) (h : sw.id ∉ ids l) :
    sumBy p (replaceSwap l sw) = sumBy p l :=
  sumBy_map_congr p _ l fun x hx => by
    have hne : ¬ x.id = sw.id := fun e => h (e ▸ mem_ids hx)
    rw [if_neg hne]

theorem sumBy_replace {p : Swap → Bool} {l : List Swap} (hn : (ids l).Nodup) {old sw : Swap}
    (hm : old ∈ l) (hid : old.id = sw.id) :
    sumBy p (replaceSwap l sw) = sumBy p l - val p old + val p sw := by
  induction l with
  | nil => cases hm
  | cons x xs ih =>
    obtain ⟨hx, hn'⟩ := nodup_ids_cons.mp hn
    show val p (if x.id = sw.id then sw else x) + sumBy p (replaceSwap xs sw) = val p x + sumBy p xs - _ + _
    cases hm with
    | head => rw [if_pos hid, sumBy_replace_notin p xs sw (hid ▸ hx)]; omega
    | tail _ hm' =>
      have hne : x.id ≠ sw.id := fun e => hx (by rw [e, ← hid]; exact mem_ids hm')
      rw [if_neg hne, ih hn' hm']; omega

theorem delSwap_notin {l : List Swap} {id : Id} (h : id ∉ ids l) : delSwap l id = l :=
  List.filter_eq_self.mpr fun x hx => decide_eq_true fun e => h (e ▸ mem_ids hx)

theorem sumBy_del {p : Swap → Bool} {l : List Swap} (hn : (ids l).Nodup) {old : Swap} (hm : old ∈ l) :
    sumBy p (delSwap l old.id) = sumBy p l - val p old := by
  induction l with
  | nil => cases hm
  | cons x xs ih =>
    obtain ⟨hx, hn'⟩ := nodup_ids_cons.mp hn
    show sumBy p (List.filter _ (x :: xs)) = val p x + sumBy p xs - _
    rw [List.filter_cons]
    cases hm with
    | head =>
      rw [if_neg (by simp)]
      show sumBy p (delSwap xs old.id) = _
      rw [delSwap_notin hx]; omega
    | tail _ hm' =>
      have hne : x.id ≠ old.id := fun e => hx (by rw [e]; exact mem_ids hm')
      rw [if_pos (decide_eq_true hne)]
      show val p x + sumBy p (delSwap xs old.id) = _
      rw [ih hn' hm']; omega

end KV.Bep3
