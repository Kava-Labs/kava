/-
  C04/C05: point updates, the bank steps, the two index lists, sums, lookups.  Core Lean only.
-/
import KavaVerif.Model.Cdp

namespace KV.Cdp
open KV

theorem upd_same {α : Type} (f : Nat → α) (k : Nat) (v : α) : upd f k v k = v := by simp [upd]
theorem upd_other {α : Type} {f : Nat → α} {k : Nat} {v : α} {x : Nat} (h : x ≠ k) : upd f k v x = f x := by
  simp [upd, h]
theorem upd_self {α : Type} (f : Nat → α) (k : Nat) (v : α) (h : f k = v) : upd f k v = f := by
  funext x
  by_cases hx : x = k
  · subst hx; rw [upd_same, h]
  · rw [upd_other hx]

theorem upd_upd {α : Type} (f : Nat → α) (k : Nat) (v w : α) : upd (upd f k v) k w = upd f k w := by
  funext x
  by_cases hx : x = k <;> simp [upd, hx]

theorem upd2_same (f : Nat → Nat → Int) (a b : Nat) (v : Int) : upd2 f a b v a b = v := by simp [upd2]
theorem upd2_other {f : Nat → Nat → Int} {a b : Nat} {v : Int} {x y : Nat} (h : ¬ (x = a ∧ y = b)) :
    upd2 f a b v x y = f x y := by simp [upd2, h]

theorem upd2_add (f : Nat → Nat → Int) (a b : Nat) (v : Int) (x y : Nat) :
    upd2 f a b (f a b + v) x y = f x y + (if x = a ∧ y = b then v else 0) := by
  by_cases hc : x = a ∧ y = b
  · obtain ⟨rfl, rfl⟩ := hc; simp [upd2]
  · simp [upd2, hc]

theorem upd_add (f : Nat → Int) (a : Nat) (v : Int) (x : Nat) :
    upd f a (f a + v) x = f x + (if x = a then v else 0) := by
  by_cases hc : x = a
  · subst hc; simp [upd]
  · simp [upd, hc]

theorem sendB_spec {s s' : St} {f t : Acct} {d : Denom} {a : Int} (h : sendB s f t d a = some s') :
    s' = { s with bal := s'.bal } ∧
    (∀ x y, s'.bal x y = s.bal x y - (if x = f ∧ y = d then a else 0) + (if x = t ∧ y = d then a else 0)) ∧
    (a ≠ 0 → a ≤ s.bal f d) := by
  unfold sendB at h
  split at h
  · rename_i h0; cases h; subst h0
    exact ⟨rfl, fun x y => by split <;> split <;> omega, fun h => absurd rfl h⟩
  · split at h
    · cases h
    · cases h
      refine ⟨rfl, fun x y => ?_, fun _ => by omega⟩
      show upd2 (upd2 s.bal f d (s.bal f d + -a)) t d (upd2 s.bal f d (s.bal f d + -a) t d + a) x y = _
      rw [upd2_add, upd2_add]
      by_cases hc : x = f ∧ y = d
      · rw [if_pos hc, if_pos hc]; omega
      · rw [if_neg hc, if_neg hc]; omega

theorem mintB_spec (s : St) (a : Acct) (d : Denom) (amt : Int) :
    mintB s a d amt = { s with bal := (mintB s a d amt).bal, supply := (mintB s a d amt).supply } ∧
    (∀ x y, (mintB s a d amt).bal x y = s.bal x y + (if x = a ∧ y = d then amt else 0)) ∧
    (∀ y, (mintB s a d amt).supply y = s.supply y + (if y = d then amt else 0)) := by
  unfold mintB
  split
  · rename_i h0; subst h0
    exact ⟨rfl, fun x y => by split <;> omega, fun y => by split <;> omega⟩
  · exact ⟨rfl, fun x y => upd2_add .., fun y => upd_add ..⟩

theorem burnB_spec {s s' : St} {a : Acct} {d : Denom} {amt : Int} (h : burnB s a d amt = some s') :
    s' = { s with bal := s'.bal, supply := s'.supply } ∧
    (∀ x y, s'.bal x y = s.bal x y - (if x = a ∧ y = d then amt else 0)) ∧
    (∀ y, s'.supply y = s.supply y - (if y = d then amt else 0)) := by
  unfold burnB at h
  split at h
  · rename_i h0; cases h; subst h0
    exact ⟨rfl, fun x y => by split <;> omega, fun y => by split <;> omega⟩
  · split at h
    · cases h
    · cases h
      refine ⟨rfl, fun x y => ?_, fun y => ?_⟩
      · show upd2 s.bal a d (s.bal a d + -amt) x y = _
        rw [upd2_add]; split <;> omega
      · show upd s.supply d (s.supply d + -amt) y = _
        rw [upd_add]; split <;> omega

theorem eLt_iff (a b : Entry) : eLt a b = true ↔
    a.1 < b.1 ∨ (a.1 = b.1 ∧ (a.2.1 < b.2.1 ∨ (a.2.1 = b.2.1 ∧ a.2.2 < b.2.2))) := by
  simp [eLt]

theorem entry_ext (a b : Entry) : a = b ↔ a.1 = b.1 ∧ a.2.1 = b.2.1 ∧ a.2.2 = b.2.2 := by
  obtain ⟨a1, a2, a3⟩ := a; obtain ⟨b1, b2, b3⟩ := b
  simp

theorem eLt_trans (a b c : Entry) (h1 : eLt a b = true) (h2 : eLt b c = true) : eLt a c = true := by
  rw [eLt_iff] at *; omega

theorem eLt_tri (a b : Entry) (h : eLt a b = false) (hne : a ≠ b) : eLt b a = true := by
  have h' : ¬ (eLt a b = true) := by simp [h]
  rw [eLt_iff] at *
  have : ¬ (a.1 = b.1 ∧ a.2.1 = b.2.1 ∧ a.2.2 = b.2.2) := fun e => hne ((entry_ext a b).2 e)
  omega

theorem eLt_irrefl (a : Entry) : eLt a a = false := by
  cases h : eLt a a
  · rfl
  · rw [eLt_iff] at h; omega

def Sorted (l : List Entry) : Prop := List.Pairwise (fun a b => eLt a b = true) l

theorem mem_removeKey (e x : Entry) (l : List Entry) : x ∈ removeKey e l ↔ x ∈ l ∧ x ≠ e := by
  simp [removeKey, List.mem_filter]

theorem nodup_removeKey (e : Entry) (l : List Entry) (h : l.Nodup) : (removeKey e l).Nodup :=
  List.Nodup.sublist List.filter_sublist h

theorem sorted_removeKey (e : Entry) (l : List Entry) (h : Sorted l) : Sorted (removeKey e l) :=
  List.Pairwise.filter _ h

theorem insSorted_perm (e : Entry) : ∀ l : List Entry, (insSorted e l).Perm (e :: l)
  | [] => .refl _
  | y :: ys => by
    simp only [insSorted]
    split
    · exact .refl _
    · exact ((insSorted_perm e ys).cons y).trans (.swap e y ys)

theorem mem_insSorted (e x : Entry) (l : List Entry) : x ∈ insSorted e l ↔ x = e ∨ x ∈ l :=
  (insSorted_perm e l).mem_iff.trans List.mem_cons

theorem mem_insertKey (e x : Entry) (l : List Entry) : x ∈ insertKey e l ↔ x = e ∨ x ∈ l := by
  unfold insertKey
  split
  · rename_i h
    constructor
    · exact Or.inr
    · rintro (rfl | h') <;> assumption
  · exact mem_insSorted e x l

theorem nodup_insSorted (e : Entry) (l : List Entry) (he : e ∉ l) (h : l.Nodup) : (insSorted e l).Nodup :=
  (insSorted_perm e l).nodup_iff.2 (List.nodup_cons.2 ⟨he, h⟩)

theorem nodup_insertKey (e : Entry) (l : List Entry) (h : l.Nodup) : (insertKey e l).Nodup := by
  unfold insertKey
  split
  · exact h
  · rename_i he; exact nodup_insSorted e l he h

theorem sorted_insSorted (e : Entry) (l : List Entry) (he : e ∉ l) (h : Sorted l) : Sorted (insSorted e l) := by
  unfold Sorted at *
  induction l with
  | nil => simp [insSorted]
  | cons y ys ih =>
    simp only [insSorted]
    have hy : e ≠ y := fun e' => he (by simp [e'])
    have hys : e ∉ ys := fun m => he (List.mem_cons_of_mem _ m)
    rw [List.pairwise_cons] at h
    split
    · rename_i hlt
      rw [List.pairwise_cons]
      refine ⟨?_, List.pairwise_cons.2 h⟩
      intro a ha
      rcases List.mem_cons.1 ha with rfl | ha
      · exact hlt
      · exact eLt_trans e y a hlt (h.1 a ha)
    · rename_i hlt
      rw [List.pairwise_cons]
      refine ⟨?_, ih hys h.2⟩
      intro a ha
      rcases (mem_insSorted e a ys).1 ha with rfl | ha
      · have : eLt a y = false := by cases h' : eLt a y <;> simp_all
        exact eLt_tri a y this hy
      · exact h.1 a ha

theorem sorted_insertKey (e : Entry) (l : List Entry) (h : Sorted l) : Sorted (insertKey e l) := by
  unfold insertKey
  split
  · exact h
  · rename_i he; exact sorted_insSorted e l he h

theorem insId_perm (i : Nat) : ∀ l : List Nat, (insId i l).Perm (i :: l)
  | [] => .refl _
  | y :: ys => by
    simp only [insId]
    split
    · exact .refl _
    · exact ((insId_perm i ys).cons y).trans (.swap i y ys)

theorem mem_insId (i x : Nat) (l : List Nat) : x ∈ insId i l ↔ x = i ∨ x ∈ l :=
  (insId_perm i l).mem_iff.trans List.mem_cons

theorem nodup_insId (i : Nat) (l : List Nat) (hi : i ∉ l) (h : l.Nodup) : (insId i l).Nodup :=
  (insId_perm i l).nodup_iff.2 (List.nodup_cons.2 ⟨hi, h⟩)

theorem mem_removeOwnerId (i x : Nat) (l : List Nat) : x ∈ removeOwnerId i l ↔ x ∈ l ∧ x ≠ i := by
  simp [removeOwnerId, List.mem_filter]

theorem nodup_removeOwnerId (i : Nat) (l : List Nat) (h : l.Nodup) : (removeOwnerId i l).Nodup :=
  List.Nodup.sublist List.filter_sublist h

def sumAcc : List Nat → (Nat → Int) → Int
  | [], _ => 0
  | a :: r, f => f a + sumAcc r f

theorem sumAcc_congr (l : List Nat) (f g : Nat → Int) (h : ∀ a, a ∈ l → f a = g a) : sumAcc l f = sumAcc l g := by
  induction l with
  | nil => rfl
  | cons x xs ih =>
    simp only [sumAcc]
    rw [h x (by simp), ih (fun a ha => h a (List.mem_cons_of_mem _ ha))]

theorem sumAcc_upd_notin (l : List Nat) (f : Nat → Int) (a : Nat) (v : Int) (h : a ∉ l) :
    sumAcc l (upd f a v) = sumAcc l f := by
  apply sumAcc_congr
  intro x hx
  have : x ≠ a := fun e => h (e ▸ hx)
  exact upd_other this

theorem sumAcc_upd {l : List Nat} {f : Nat → Int} {a : Nat} {v : Int} (hn : l.Nodup) (ha : a ∈ l) :
    sumAcc l (upd f a v) = sumAcc l f - f a + v := by
  induction l with
  | nil => cases ha
  | cons x xs ih =>
    rw [List.nodup_cons] at hn
    simp only [sumAcc]
    by_cases hx : x = a
    · subst hx
      rw [upd_same, sumAcc_upd_notin xs f x v hn.1]; omega
    · have hax : a ∈ xs := by
        rcases List.mem_cons.1 ha with h | h
        · exact absurd h.symm hx
        · exact h
      rw [upd_other hx, ih hn.2 hax]; omega

theorem sumAcc_append (l1 l2 : List Nat) (f : Nat → Int) : sumAcc (l1 ++ l2) f = sumAcc l1 f + sumAcc l2 f := by
  induction l1 with
  | nil => simp [sumAcc]
  | cons x xs ih => simp only [List.cons_append, sumAcc, ih]; omega

theorem sumAcc_range_succ (n : Nat) (f : Nat → Int) :
    sumAcc (List.range (n + 1)) f = sumAcc (List.range n) f + f n := by
  rw [List.range_succ, sumAcc_append]; simp [sumAcc]

theorem sumAcc_zero (l : List Nat) (f : Nat → Int) (h : ∀ a, a ∈ l → f a = 0) : sumAcc l f = 0 := by
  induction l with
  | nil => rfl
  | cons x xs ih =>
    simp only [sumAcc]
    rw [h x (by simp), ih (fun a ha => h a (List.mem_cons_of_mem _ ha))]; rfl

/-- `GetDeposits` lists exactly the non-zero deposit records, so their sum is the sum over all accounts -/
theorem sumDeps_depositsOf (E : Env) (s : St) (id : Nat) :
    sumDeps (depositsOf E s id) = sumAcc E.accts (s.dep id) := by
  unfold depositsOf
  induction E.accts with
  | nil => rfl
  | cons a r ih =>
    simp only [List.filter_cons]
    by_cases h : s.dep id a = 0
    · simp only [h, ne_eq, not_true_eq_false, decide_false, Bool.false_eq_true, ite_false, sumAcc]
      rw [ih]; omega
    · simp only [h, ne_eq, not_false_eq_true, decide_true, ite_true, List.map_cons, sumDeps, sumAcc]
      rw [ih]

theorem mem_depositsOf (E : Env) (s : St) (id : Nat) (a : Acct) (v : Int) :
    (a, v) ∈ depositsOf E s id ↔ a ∈ E.accts ∧ s.dep id a ≠ 0 ∧ v = s.dep id a := by
  unfold depositsOf
  simp only [List.mem_map, List.mem_filter, decide_eq_true_eq, Prod.mk.injEq]
  constructor
  · rintro ⟨x, ⟨hx, hne⟩, rfl, rfl⟩; exact ⟨hx, hne, rfl⟩
  · rintro ⟨h1, h2, rfl⟩; exact ⟨a, ⟨h1, h2⟩, rfl, rfl⟩

theorem findCdp_spec {s : St} {o : Acct} {ty id : Nat} {c : Cdp} (h : findCdp s o ty = some (id, c)) :
    s.cdp id = some c ∧ c.ty = ty ∧ id ∈ s.own o := by
  unfold findCdp at h
  obtain ⟨a, ha, hf⟩ := List.exists_of_findSome?_eq_some h
  split at hf
  · rename_i c' hc
    split at hf
    · rename_i hty
      cases hf
      exact ⟨hc, hty, ha⟩
    · cases hf
  · cases hf

theorem validateCollateral_spec {E : Env} {s : St} {ty : Nat} {cd : Denom} {cp : CollParam}
    (h : validateCollateral E s ty cd = some cp) :
    E.P.colls[ty]? = some cp ∧ cp.denom = cd ∧ s.status cp.spot = true ∧ s.status cp.liq = true ∧
      cp.active = true := by
  revert h
  fun_cases validateCollateral E s ty cd <;> intro h <;> cases h
  rename_i hcp h0 h1 h2 h3
  exact ⟨hcp, Decidable.of_not_not h1, by simpa using h2, by simpa using h3, by simpa using h0⟩

/-- `ValidateCollateral` only accepts a type that is listed in the parameters -/
theorem validateCollateral_active {E : Env} {s : St} {ty : Nat} {cd : Denom} {cp : CollParam}
    (h : validateCollateral E s ty cd = some cp) : cp.active = true :=
  (validateCollateral_spec h).2.2.2.2

theorem denomOf_eq {E : Env} {ty : Nat} {cp : CollParam} (h : E.P.colls[ty]? = some cp) : denomOf E ty = cp.denom := by
  simp [denomOf, h]

theorem cfOf_eq {E : Env} {ty : Nat} {cp : CollParam} (h : E.P.colls[ty]? = some cp) : cfOf E ty = cp.cf := by
  simp [cfOf, h]

end KV.Cdp
