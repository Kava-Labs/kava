/-
  Proofs about the collateral auctions of a seizure (`Model/CdpAuctions.lean`): the lots of one deposit
  (`createAuctions` = `CreateAuctionsFromDeposit`) and of a whole seizure (`auctionLots` = `AuctionCollateral`).
  Core Lean only (`omega`, `grind` for the one polynomial identity).
-/
import KavaVerif.Model.CdpAuctions
import KavaVerif.Proofs.CdpMore

namespace KV.Cdp
open KV

theorem lotSum_append (l m : List Lot) : lotSum (l ++ m) = lotSum l + lotSum m := by
  induction l with
  | nil => simp [lotSum]
  | cons x xs ih => simp only [List.cons_append, lotSum, ih]; omega

theorem lotDebtSum_append (l m : List Lot) : lotDebtSum (l ++ m) = lotDebtSum l + lotDebtSum m := by
  induction l with
  | nil => simp [lotDebtSum]
  | cons x xs ih => simp only [List.cons_append, lotDebtSum, ih]; omega

/-- the loop with `0 ≤ un ≤ n` extra units to hand out: nothing is left over; `n` lots of size `A`; the extra units go
    to the FIRST lots created (`un` lots of `dpa + 1`, then `n − un` lots of `dpa`) -/
theorem wholeLots_spec (ret : Acct) (A dpa : Int) (pen : Dec) : ∀ (n : Nat) (un : Int), 0 ≤ un → un ≤ n →
    (wholeLots ret A dpa pen n un).2 = 0 ∧ (wholeLots ret A dpa pen n un).1.length = n ∧
    lotSum (wholeLots ret A dpa pen n un).1 = n * A ∧ lotDebtSum (wholeLots ret A dpa pen n un).1 = n * dpa + un ∧
    (wholeLots ret A dpa pen n un).1.map (·.debt) =
      List.replicate un.toNat (dpa + 1) ++ List.replicate (n - un.toNat) dpa ∧
    ∀ x ∈ (wholeLots ret A dpa pen n un).1, x = mkLot ret A x.debt pen ∧ (x.debt = dpa ∨ x.debt = dpa + 1) := by
  intro n
  induction n with
  | zero =>
    intro un h0 h1
    have : un = 0 := by omega
    subst this
    simp [wholeLots, lotSum, lotDebtSum]
  | succ k ih =>
    intro un h0 h1
    have hk : ((k + 1 : Nat) : Int) = k + 1 := by simp
    simp only [wholeLots, List.length_cons, List.map_cons, lotSum, lotDebtSum, mkLot, List.mem_cons, hk, Int.add_mul,
      Int.one_mul]
    by_cases hp : 0 < un
    · obtain ⟨i1, i2, i3, i4, i5, i6⟩ := ih (un - 1) (by omega) (by omega)
      simp only [hp, if_true]
      refine ⟨i1, by rw [i2], by rw [i3]; omega, by rw [i4]; omega, ?_, ?_⟩
      · rw [i5, show un.toNat = (un - 1).toNat + 1 by omega, List.replicate_succ,
          show k + 1 - ((un - 1).toNat + 1) = k - (un - 1).toNat by omega]
        rfl
      · rintro x (rfl | hx)
        · exact ⟨rfl, .inr rfl⟩
        · exact i6 x hx
    · have hz : un = 0 := by omega
      subst hz
      obtain ⟨i1, i2, i3, i4, i5, i6⟩ := ih 0 (by omega) (by omega)
      simp only [Int.lt_irrefl, if_false]
      refine ⟨i1, by rw [i2], by rw [i3]; omega, by rw [i4]; omega, ?_, ?_⟩
      · rw [i5]; simp [List.replicate_succ]
      · rintro x (rfl | hx)
        · exact ⟨rfl, .inl rfl⟩
        · exact i6 x hx

/-- `c · unallocatedDebt = n · wholeAuctionError + lastAuctionError` -/
theorem split_identity (c A d n lastC dpa lastD wErr lErr : Int)
    (h1 : c = A * n + lastC) (h2 : d * A = c * dpa + wErr) (h3 : d * lastC = c * lastD + lErr) :
    c * (d - (n * dpa + lastD)) = n * wErr + lErr := by
  grind

theorem split_bounds (c un n wErr lErr : Int) (hc : 0 < c) (hn : 0 ≤ n) (hw0 : 0 ≤ wErr) (hw : wErr < c)
    (hl0 : 0 ≤ lErr) (hl : lErr < c) (h : c * un = n * wErr + lErr) :
    0 ≤ un ∧ un ≤ n ∧ (wErr < lErr → 1 ≤ un) := by
  have hnw : 0 ≤ n * wErr := Int.mul_nonneg hn hw0
  have h0 : 0 ≤ c * un := by omega
  have hun : 0 ≤ un := Int.nonneg_of_mul_nonneg_right h0 hc
  refine ⟨hun, ?_, ?_⟩
  · have h3 : n * wErr ≤ n * c := Int.mul_le_mul_of_nonneg_left (by omega) hn
    have h4 : c * un < c * (n + 1) := by
      have : c * (n + 1) = n * c + c := by grind
      omega
    have := Int.lt_of_mul_lt_mul_left h4 (by omega)
    omega
  · intro hlt
    by_cases hz : un = 0
    · subst hz
      simp at h
      omega
    · omega

/-- What `CreateAuctionsFromDeposit` produces for a deposit `c > 0` of depositor `ret` with debt share `d ≥ 0`,
    auction size `A > 0`, penalty `pen`. -/
structure LotsSpec (ret : Acct) (c d A : Int) (pen : Dec) (L : List Lot) : Prop where
  /-- "exactly its collateral": the lots add up to the deposit -/
  lotSum : lotSum L = c
  /-- "exactly its debt": the corresponding debts add up to the deposit's share of the debt -/
  lotDebtSum : lotDebtSum L = d
  /-- number of auctions = ⌈c / A⌉ -/
  count : (L.length : Int) = (c + A - 1) / A
  /-- `c / A` whole lots of exactly the auction size whose debts are `dpa + 1` for the first `k` created and `dpa`
      for the others (`dpa = ⌊d·A / c⌋`), then — iff `A` does not divide `c` — one smaller lot `c % A` with debt
      `⌊d·(c % A) / c⌋` or that plus one -/
  shape : ∃ (W last : List Lot) (k : Nat), L = W ++ last ∧ (W.length : Int) = c / A ∧ k ≤ W.length ∧
    (∀ x ∈ W, x.lot = A) ∧
    W.map (·.debt) = List.replicate k (d * A / c + 1) ++ List.replicate (W.length - k) (d * A / c) ∧
    ((last = [] ∧ c % A = 0) ∨
     (∃ x, last = [x] ∧ x.lot = c % A ∧ 0 < x.lot ∧ x.lot < A ∧
        (x.debt = d * (c % A) / c ∨ x.debt = d * (c % A) / c + 1)))
  /-- every lot: returned to the depositor, positive, at most the auction size, its debt is its proportional share
      `d · lot / c` rounded down or up, and its max bid is its own debt plus the penalty ON ITS OWN DEBT -/
  each : ∀ x ∈ L, x.ret = ret ∧ 0 < x.lot ∧ x.lot ≤ A ∧ 0 ≤ x.debt ∧
    d * x.lot / c ≤ x.debt ∧ x.debt ≤ d * x.lot / c + 1 ∧ x.maxBid = x.debt + penaltyOf x.debt pen

theorem ceil_count (c A N lc : Int) (hA : 0 < A) (h1 : c = A * N + lc) (h0 : 0 ≤ lc) (h2 : lc < A) :
    (c + A - 1) / A = N + (if 0 < lc then 1 else 0) := by
  have e : c + A - 1 = (lc + A - 1) + A * N := by omega
  rw [e, Int.add_mul_ediv_left _ _ (by omega)]
  by_cases hp : 0 < lc
  · simp only [hp, if_true]
    have e2 : lc + A - 1 = (lc - 1) + A * 1 := by omega
    rw [e2, Int.add_mul_ediv_left _ _ (by omega), Int.ediv_eq_zero_of_lt (by omega) (by omega)]
    omega
  · simp only [hp, if_false]
    rw [Int.ediv_eq_zero_of_lt (by omega) (by omega)]
    omega

/-- the lots built from the quantities `CreateAuctionsFromDeposit` computes: `N` whole lots, the first `un1` of them
    carrying one extra unit of debt, then the remainder lot `lc` with debt `ld1` if there is a remainder -/
theorem lotsSpec_of_split (ret : Acct) (c d A : Int) (pen : Dec) (N lc dpa ld ld1 un1 : Int)
    (hA : 0 < A) (h1 : c = A * N + lc) (hlc0 : 0 ≤ lc) (hlcA : lc < A) (hdpa0 : 0 ≤ dpa) (hld0 : 0 ≤ ld)
    (hu0 : 0 ≤ un1) (huN : un1 ≤ N) (hsum : N * dpa + un1 + ld1 = d) (hld1 : ld1 = ld ∨ ld1 = ld + 1)
    (hz : lc = 0 → ld1 = 0) (hN : c / A = N) (hlcg : c % A = lc) (hdpa : d * A / c = dpa) (hld : d * lc / c = ld) :
    LotsSpec ret c d A pen
      ((wholeLots ret A dpa pen N.toNat un1).1 ++ if 0 < lc then [mkLot ret lc ld1 pen] else []) := by
  have hNn : ((N.toNat : Nat) : Int) = N := by omega
  have hun1n : un1 ≤ (N.toNat : Nat) := by omega
  obtain ⟨hleft, hlen, hsl, hsd, hdebts, hmem⟩ := wholeLots_spec ret A dpa pen N.toNat un1 hu0 hun1n
  rw [hNn] at hsl hsd
  have hNA : N * A = A * N := Int.mul_comm N A
  generalize (wholeLots ret A dpa pen N.toNat un1).1 = W at *
  -- the remainder lot, if any, carries `lc` and `ld1`
  have hlast : lotSum (if 0 < lc then [mkLot ret lc ld1 pen] else []) = lc ∧
      lotDebtSum (if 0 < lc then [mkLot ret lc ld1 pen] else []) = ld1 := by
    by_cases hp : 0 < lc
    · simp only [hp, if_true, lotSum, lotDebtSum, mkLot]; omega
    · have := hz (by omega)
      simp only [hp, if_false, lotSum, lotDebtSum]; omega
  have hW : ∀ x ∈ W, x.ret = ret ∧ x.lot = A ∧ (x.debt = dpa ∨ x.debt = dpa + 1) ∧
      x.maxBid = x.debt + penaltyOf x.debt pen := fun x hx => by
    obtain ⟨he, hd2⟩ := hmem x hx
    exact ⟨by rw [he]; rfl, by rw [he]; rfl, hd2, by rw [he]; rfl⟩
  refine ⟨by rw [lotSum_append, hlast.1]; omega, by rw [lotDebtSum_append, hlast.2]; omega, ?_, ?_, ?_⟩
  all_goals clear hlast hsl hsd hNA hmem hsum
  · rw [List.length_append, Int.natCast_add, hlen, ceil_count c A N lc hA h1 hlc0 hlcA]
    by_cases hp : 0 < lc <;> simp [hp] <;> omega
  all_goals clear h1
  · rw [hN, hlcg, hdpa, hld]
    refine ⟨W, _, un1.toNat, rfl, by omega, by omega, fun x hx => (hW x hx).2.1, by rw [hdebts, hlen], ?_⟩
    by_cases hp : 0 < lc
    · rw [if_pos hp]; exact .inr ⟨_, rfl, rfl, hp, hlcA, hld1⟩
    · rw [if_neg hp]; exact .inl ⟨rfl, by omega⟩
  · intro x hx
    rcases List.mem_append.1 hx with hx | hx
    · obtain ⟨hret, hlot, hd2, hmb⟩ := hW x hx
      rw [hlot, hdpa]
      exact ⟨hret, hA, by omega, by omega, by omega, by omega, hmb⟩
    · by_cases hp : 0 < lc
      · rw [if_pos hp, List.mem_singleton] at hx
        subst hx
        simp only [mkLot]
        rw [hld]
        exact ⟨trivial, hp, by omega, by omega, by omega, by omega, trivial⟩
      · rw [if_neg hp] at hx; cases hx

theorem createAuctions_spec (ret : Acct) (c d A : Int) (pen : Dec) (hc : 0 < c) (hd : 0 ≤ d) (hA : 0 < A) :
    ∃ L, createAuctions ret c d A pen = .ok L ∧ LotsSpec ret c d A pen L := by
  -- the quantities of the code, as atoms
  have hdA : 0 ≤ d * A := Int.mul_nonneg hd (by omega)
  have hlc0 : 0 ≤ c % A := Int.emod_nonneg c (by omega)
  have hlcA : c % A < A := Int.emod_lt_of_pos c hA
  have hdl : 0 ≤ d * (c % A) := Int.mul_nonneg hd hlc0
  have hN0 : 0 ≤ c / A := Int.ediv_nonneg (by omega) (by omega)
  have hdpa0 : 0 ≤ d * A / c := Int.ediv_nonneg hdA (by omega)
  have hld0 : 0 ≤ d * (c % A) / c := Int.ediv_nonneg hdl (by omega)
  have hw0 : 0 ≤ d * A % c := Int.emod_nonneg _ (by omega)
  have hwc : d * A % c < c := Int.emod_lt_of_pos _ hc
  have hl0 : 0 ≤ d * (c % A) % c := Int.emod_nonneg _ (by omega)
  have hlc : d * (c % A) % c < c := Int.emod_lt_of_pos _ hc
  have h1 : c = A * (c / A) + c % A := (Int.mul_ediv_add_emod c A).symm
  have h2 : d * A = c * (d * A / c) + d * A % c := (Int.mul_ediv_add_emod (d * A) c).symm
  have h3 : d * (c % A) = c * (d * (c % A) / c) + d * (c % A) % c := (Int.mul_ediv_add_emod (d * (c % A)) c).symm
  have hid := split_identity c A d (c / A) (c % A) (d * A / c) (d * (c % A) / c) (d * A % c) (d * (c % A) % c) h1 h2 h3
  obtain ⟨hun0, hunN, hun1⟩ := split_bounds c _ (c / A) _ _ hc hN0 hw0 hwc hl0 hlc hid
  have hle0 : c % A = 0 → d * (c % A) % c = 0 ∧ d * (c % A) / c = 0 := fun e => by rw [e]; simp
  unfold createAuctions
  rw [if_neg (by omega : ¬ A = 0), if_neg (by omega : ¬ c = 0)]
  simp only [emod, tquo_nonneg_eq c A (by omega) (by omega), tquo_nonneg_eq (d * A) c hdA (by omega),
    tquo_nonneg_eq (d * (c % A)) c hdl (by omega)]
  clear h2 h3 hdA hdl hid hwc hlc
  generalize hN : c / A = N at hN0 h1 hun0 hunN hun1 ⊢
  generalize hlcg : c % A = lc at hlc0 hlcA hld0 hl0 h1 hun0 hunN hun1 hle0 ⊢
  generalize hdpa : d * A / c = dpa at hdpa0 hun0 hunN hun1 ⊢
  generalize d * A % c = we at hw0 hun1 ⊢
  generalize hld : d * lc / c = ld at hld0 hun0 hunN hun1 hle0 ⊢
  generalize d * lc % c = le at hl0 hun1 hle0 ⊢
  generalize hung : d - (N * dpa + ld) = un at hun0 hunN hun1 ⊢
  -- the unallocated debt handed to the loop, and the remainder lot's debt
  generalize hu1 : (if le > we then un - 1 else un) = un1
  generalize hl1 : (if le > we then ld + 1 else ld) = ld1
  have hu1b : 0 ≤ un1 ∧ un1 ≤ N := by
    subst hu1
    split
    · have := hun1 (by omega); omega
    · omega
  have hsum1 : N * dpa + un1 + ld1 = d := by
    subst hu1; subst hl1
    split <;> omega
  have hld1 : ld1 = ld ∨ ld1 = ld + 1 := by
    subst hl1
    split <;> omega
  have hz : lc = 0 → ld1 = 0 := fun e => by
    obtain ⟨e1, e2⟩ := hle0 e
    subst hl1
    rw [if_neg (by omega)]; exact e2
  have S := lotsSpec_of_split ret c d A pen N lc dpa ld ld1 un1 hA h1 hlc0 hlcA hdpa0 hld0 hu1b.1 hu1b.2 hsum1
    hld1 hz hN hlcg hdpa hld
  rw [(wholeLots_spec ret A dpa pen N.toNat un1 hu1b.1 (by omega)).1]
  by_cases hp : 0 < lc
  · rw [if_neg (by omega : ¬ ¬ 0 < lc)]
    simp only [Int.lt_irrefl, if_false]
    rw [if_pos hp] at S
    exact ⟨_, rfl, S⟩
  · rw [if_pos hp]
    rw [if_neg hp, List.append_nil] at S
    exact ⟨_, rfl, S⟩

/-- any two whole-size lots of one deposit carry debts that differ by at most one unit -/
theorem LotsSpec.spread {ret : Acct} {c d A : Int} {pen : Dec} {L : List Lot} (h : LotsSpec ret c d A pen L)
    (x y : Lot) (hx : x ∈ L) (hy : y ∈ L) (hxl : x.lot = A) (hyl : y.lot = A) :
    x.debt - y.debt ≤ 1 ∧ y.debt - x.debt ≤ 1 := by
  have a := h.each x hx
  have b := h.each y hy
  rw [hxl] at a
  rw [hyl] at b
  omega

/-- the lots of a seizure are, deposit by deposit in depositor order, the lots `CreateAuctionsFromDeposit` makes of
    that deposit for exactly the share of the debt `AuctionCollateral` hands it — the very amounts the state machine
    of `Model/Cdp.lean` (`auctionDeps`) moves from the liquidator to the auction module for that deposit -/
def LotsOfDeps (A : Int) (pen : Dec) (total debt : Int) : Int → List (Acct × Int) → List Lot → Prop
  | _, [], L => L = []
  | remaining, (a, v) :: rest, L =>
    ∃ l L2, L = l ++ L2 ∧
      LotsSpec a v (cappedShare (debtCovered v total debt) remaining rest.isEmpty) A pen l ∧
      LotsOfDeps A pen total debt (remaining - cappedShare (debtCovered v total debt) remaining rest.isEmpty) rest L2

theorem auctionLots_spec (A : Int) (pen : Dec) (total debt : Int) (hA : 0 < A) (ht : 0 < total) (hd : 0 ≤ debt) :
    ∀ (deps : List (Acct × Int)) (remaining : Int), (∀ a v, (a, v) ∈ deps → 0 < v) → 0 ≤ remaining →
    ∃ L, auctionLots A pen total debt remaining deps = .ok L ∧ LotsOfDeps A pen total debt remaining deps L ∧
      lotSum L = sumDeps deps ∧ lotDebtSum L = sumShares total debt remaining deps ∧
      (∀ x ∈ L, x.ret ∈ deps.map Prod.fst ∧ 0 < x.lot ∧ x.lot ≤ A ∧ 0 ≤ x.debt ∧
        x.maxBid = x.debt + penaltyOf x.debt pen) := by
  intro deps
  induction deps with
  | nil =>
    intro remaining _ _
    exact ⟨[], rfl, rfl, rfl, rfl, by simp⟩
  | cons hd0 tl ih =>
    intro remaining hpos hr0
    obtain ⟨a, v⟩ := hd0
    have hv : 0 < v := hpos a v (by simp)
    have hsh := debtCovered_nonneg v total debt (by omega) ht hd
    have hle := cappedShare_le (debtCovered v total debt) remaining tl.isEmpty
    have hge := cappedShare_nonneg (debtCovered v total debt) remaining tl.isEmpty hsh hr0
    obtain ⟨l, hl, hspec⟩ := createAuctions_spec a v _ A pen hv hge hA
    obtain ⟨L2, hL2, hdeps2, hs1, hs2, hall⟩ := ih (remaining - cappedShare (debtCovered v total debt) remaining tl.isEmpty)
      (fun a' v' hm => hpos a' v' (by simp [hm])) (by omega)
    refine ⟨l ++ L2, ?_, ⟨l, L2, rfl, hspec, hdeps2⟩, ?_, ?_, ?_⟩
    · simp only [auctionLots]
      rw [if_neg (by omega : ¬ total = 0), hl]
      simp only [hL2]
    · rw [lotSum_append, hspec.lotSum, hs1]; simp [sumDeps]
    · rw [lotDebtSum_append, hspec.lotDebtSum, hs2]; simp [sumShares]
    · intro x hx
      rw [List.mem_append] at hx
      rcases hx with hx | hx
      · have e := hspec.each x hx
        refine ⟨by simp [e.1], e.2.1, e.2.2.1, e.2.2.2.1, e.2.2.2.2.2.2⟩
      · have e := hall x hx
        refine ⟨?_, e.2⟩
        simp only [List.map_cons, List.mem_cons]
        exact Or.inr e.1

theorem sumDeps_pos : ∀ (deps : List (Acct × Int)), deps ≠ [] → (∀ a v, (a, v) ∈ deps → 0 < v) → 0 < sumDeps deps
  | [], h, _ => absurd rfl h
  | (a, v) :: tl, _, hpos => by
    have := hpos a v (by simp)
    have := sumDeps_nonneg tl fun a' v' hm => hpos a' v' (List.mem_cons_of_mem _ hm)
    simp only [sumDeps]; omega

/-- the lots of a whole seizure (`SeizeCollateral` → `AuctionCollateral`) -/
theorem seizeLots_spec (A : Int) (pen : Dec) (deps : List (Acct × Int)) (debt : Int) (hA : 0 < A) (hd : 0 ≤ debt)
    (hne : deps ≠ []) (hpos : ∀ a v, (a, v) ∈ deps → 0 < v) :
    ∃ L, seizeLots A pen deps debt = .ok L ∧ LotsOfDeps A pen (sumDeps deps) debt debt deps L ∧
      lotSum L = sumDeps deps ∧ lotDebtSum L = debt ∧
      (∀ x ∈ L, x.ret ∈ deps.map Prod.fst ∧ 0 < x.lot ∧ x.lot ≤ A ∧ 0 ≤ x.debt ∧
        x.maxBid = x.debt + penaltyOf x.debt pen) := by
  obtain ⟨L, h1, h2, h3, h4, h5⟩ := auctionLots_spec A pen (sumDeps deps) debt hA (sumDeps_pos deps hne hpos) hd deps debt hpos hd
  rw [sumShares_exact _ _ deps _ hne] at h4
  exact ⟨L, h1, h2, h3, h4, h5⟩

/-- the keeper reward comes out of exactly one deposit record; the others are handed over unchanged -/
theorem depsAfterReward_sum (r : Int) (deps : List (Acct × Int)) :
    sumDeps (depsAfterReward (some r) deps) = sumDeps deps - r ∨ depsAfterReward (some r) deps = deps := by
  simp only [depsAfterReward]
  cases hp : payReward r deps with
  | none => right; rfl
  | some p =>
    obtain ⟨a, deps'⟩ := p
    left
    have := (payReward_spec hp).2.2
    simp only
    omega

end KV.Cdp
