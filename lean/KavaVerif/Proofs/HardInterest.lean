/-
  Helper lemmas for C08 (x/hard), interest part: monotonicity of the Dec operations behind the sync
  formulas, re-syncing at the factor just used, the exits of `AccrueInterest` and its effect on the two indexes.
-/
import KavaVerif.Proofs.Hard
namespace KV.Hard
open KV

theorem tquo_pos_eq (x c : Int) (hc : 0 < c) : tquo x c = if 0 ≤ x then x / c else -(-x / c) := by
  unfold tquo
  simp only [Int.le_of_lt hc, ite_true]

theorem tquo_mono (x y c : Int) (hc : 0 < c) (h : x ≤ y) : tquo x c ≤ tquo y c := by
  rw [tquo_pos_eq x c hc, tquo_pos_eq y c hc]
  by_cases hx : 0 ≤ x
  · rw [if_pos hx, if_pos (Int.le_trans hx h)]
    exact Int.ediv_le_ediv hc h
  · rw [if_neg hx]
    have := Int.ediv_nonneg (show 0 ≤ -x by omega) (Int.le_of_lt hc)
    by_cases hy : 0 ≤ y
    · rw [if_pos hy]
      have := Int.ediv_nonneg hy (Int.le_of_lt hc)
      omega
    · rw [if_neg hy]
      have := Int.ediv_le_ediv hc (show -y ≤ -x by omega)
      omega

theorem tquo_P_mono (x y : Int) (h : x ≤ y) : tquo x P ≤ tquo y P := tquo_mono x y P P_pos h

theorem truncateInt_mono (a b : Dec) (h : a.m ≤ b.m) : a.truncateInt ≤ b.truncateInt := by
  unfold Dec.truncateInt chopTrunc; exact tquo_P_mono _ _ h

theorem tquo_P_mulP (x : Int) : tquo (x * P) P = x := by
  rw [tquo_pos_eq _ P P_pos]
  split
  · exact Int.mul_ediv_cancel x (by decide)
  · rw [← Int.neg_mul, Int.mul_ediv_cancel _ (by decide : P ≠ 0)]; omega

theorem le_tquo_P {a x : Int} (h : a * P ≤ x) : a ≤ tquo x P := by
  have := tquo_P_mono _ _ h
  rwa [tquo_P_mulP] at this

theorem tquo_P_le {a x : Int} (h : x ≤ a * P) : tquo x P ≤ a := by
  have := tquo_P_mono _ _ h
  rwa [tquo_P_mulP] at this

theorem mul_mono_right (q : Dec) (g g' : Int) (hq : 0 ≤ q.m) (h : g ≤ g') : (Dec.mul q ⟨g⟩).m ≤ (Dec.mul q ⟨g'⟩).m := by
  unfold Dec.mul
  exact chopRound_mono _ _ (Int.mul_le_mul_of_nonneg_left h hq)

theorem tquo_nonneg_pos_nonneg (x c : Int) (hx : 0 ≤ x) (hc : 0 < c) : 0 ≤ tquo x c := by
  rw [tquo_nonneg_eq x c hx (by omega)]
  exact Int.ediv_nonneg hx (by omega)

theorem tquo_P_nonneg (x : Int) (h : 0 ≤ x) : 0 ≤ tquo x P := tquo_nonneg_pos_nonneg x P h P_pos

theorem quo_mono_left (x y c : Dec) (hc : 0 < c.m) (h : x.m ≤ y.m) : (Dec.quo x c).m ≤ (Dec.quo y c).m := by
  unfold Dec.quo
  apply chopRound_mono
  have hP := P_pos
  exact tquo_mono _ _ _ hc
    (Int.mul_le_mul_of_nonneg_right (Int.mul_le_mul_of_nonneg_right h (by omega)) (by omega))

theorem quo_nonneg (x c : Dec) (hx : 0 ≤ x.m) (hc : 0 < c.m) : 0 ≤ (Dec.quo x c).m := by
  unfold Dec.quo
  apply chopRound_nonneg
  have hP := P_pos
  exact tquo_nonneg_pos_nonneg _ _ (Int.mul_nonneg (Int.mul_nonneg hx (by omega)) (by omega)) hc

theorem interestQM_mono {a ui g g' : Int} (ha : 0 ≤ a) (hui : 0 < ui) (h : g ≤ g') :
    interestQM a ui g ≤ interestQM a ui g' := by
  unfold interestQM
  apply truncateInt_mono
  unfold Dec.sub
  simp only
  have hq : 0 ≤ ((Dec.ofInt a).quo ⟨ui⟩).m := by
    exact quo_nonneg _ _ (by unfold Dec.ofInt; exact Int.mul_nonneg ha (by decide)) hui
  have := mul_mono_right _ g g' hq h
  omega

theorem interestMQ_mono {a ui g g' : Int} (ha : 0 ≤ a) (hui : 0 < ui) (h : g ≤ g') :
    interestMQ a ui g ≤ interestMQ a ui g' := by
  unfold interestMQ
  apply truncateInt_mono
  unfold Dec.sub
  simp only
  have haP : 0 ≤ (Dec.ofInt a).m := by unfold Dec.ofInt; exact Int.mul_nonneg ha (by decide)
  have := quo_mono_left _ _ ⟨ui⟩ hui (mul_mono_right (Dec.ofInt a) g g' haP h)
  omega

theorem syncBorAmt_mono {a : Int} {ui : Option Int} {g g' : Int} (ha : 0 ≤ a) (hui : ∀ v, ui = some v → 0 < v)
    (h : g ≤ g') : syncBorAmt a ui g ≤ syncBorAmt a ui g' := by
  unfold syncBorAmt
  cases ui with
  | none => exact Int.le_refl _
  | some v =>
    have := interestQM_mono ha (hui v rfl) h
    simp only; omega

theorem syncSupAmt_mono {a : Int} {ui : Option Int} {g g' : Int} (ha : 0 ≤ a) (hui : ∀ v, ui = some v → 0 < v)
    (h : g ≤ g') : syncSupAmt a ui g ≤ syncSupAmt a ui g' := by
  unfold syncSupAmt
  cases ui with
  | none => exact Int.le_refl _
  | some v =>
    have := interestMQ_mono ha (hui v rfl) h
    simp only
    split <;> split <;> omega

theorem syncSupAmt_ge (a : Int) (ui : Option Int) (g : Int) : a ≤ syncSupAmt a ui g := by
  unfold syncSupAmt
  cases ui with
  | none => exact Int.le_refl _
  | some v => simp only; split <;> omega

/-- a negative interest is one of the panics of the borrow-side sync -/
theorem syncBorAmt_ge (a : Int) (ui : Option Int) (g : Int) (h : syncBorPanics a ui g = false) :
    a ≤ syncBorAmt a ui g := by
  unfold syncBorPanics at h
  unfold syncBorAmt
  cases ui with
  | none => exact Int.le_refl _
  | some v =>
    have : ¬ interestQM a v g < 0 := fun hlt => by simp [hlt] at h
    dsimp only; omega

/-- query side (`GetSyncedBorrow` / `GetSyncedDeposit`), both factors present -/
theorem loadSyncedAmt_ok_iff (a v g x : Int) :
    loadSyncedAmt a (some v) (some g) = .ok x ↔ v ≠ 0 ∧ ¬ interestQM a v g < 0 ∧ x = a + interestQM a v g := by
  unfold loadSyncedAmt
  dsimp only
  by_cases h1 : v = 0
  · rw [if_pos h1]; exact ⟨nofun, fun h => absurd h1 h.1⟩
  by_cases h2 : interestQM a v g < 0
  · rw [if_neg h1, if_pos h2]; exact ⟨nofun, fun h => absurd h2 h.2.1⟩
  · rw [if_neg h1, if_neg h2]
    exact ⟨fun h => ⟨h1, h2, (Res.ok.inj h).symm⟩, fun h => h.2.2 ▸ rfl⟩

theorem loadSyncedAmt_mono {a : Int} {ui : Option Int} {g g' : Int} (ha : 0 ≤ a) (hui : ∀ v, ui = some v → 0 < v)
    (h : g ≤ g') {x y : Int} (hx : loadSyncedAmt a ui (some g) = .ok x) (hy : loadSyncedAmt a ui (some g') = .ok y) :
    x ≤ y := by
  cases ui with
  | none => cases hx; cases hy; exact Int.le_refl _
  | some v =>
    have := interestQM_mono ha (hui v rfl) h
    have := ((loadSyncedAmt_ok_iff a v g x).mp hx).2.2
    have := ((loadSyncedAmt_ok_iff a v g' y).mp hy).2.2
    omega

theorem loadSyncedAmt_ok_mono {a : Int} {ui : Option Int} {g g' : Int} (ha : 0 ≤ a) (hui : ∀ v, ui = some v → 0 < v)
    (h : g ≤ g') {x : Int} (hx : loadSyncedAmt a ui (some g) = .ok x) :
    ∃ y, loadSyncedAmt a ui (some g') = .ok y := by
  cases ui with
  | none => exact ⟨a, rfl⟩
  | some v =>
    have := interestQM_mono ha (hui v rfl) h
    obtain ⟨hv, hi, -⟩ := (loadSyncedAmt_ok_iff a v g x).mp hx
    exact ⟨_, (loadSyncedAmt_ok_iff a v g' _).mpr ⟨hv, by omega, rfl⟩⟩

theorem tquo_P_eq_zero (x : Int) (h1 : -P < x) (h2 : x < P) : tquo x P = 0 := by
  rw [tquo_pos_eq x P P_pos]
  by_cases hx : 0 ≤ x
  · rw [if_pos hx]; exact Int.ediv_eq_zero_of_lt hx h2
  · rw [if_neg hx, Int.ediv_eq_zero_of_lt (by omega) (by omega)]; rfl

/-- dividing a non-negative Dec by a factor in (0, 10^18] and multiplying by the same factor returns it to within
    less than 1.0 (10^18 units of the last place): the first rounding error is scaled by `g / 10^18 ≤ 10^18` -/
theorem mul_quo_self_near (x g : Int) (hx : 0 ≤ x) (hg : 0 < g) (hg2 : g ≤ P * P) :
    -P < ((Dec.quo ⟨x⟩ ⟨g⟩).mul ⟨g⟩).m - x ∧ ((Dec.quo ⟨x⟩ ⟨g⟩).mul ⟨g⟩).m - x < P := by
  unfold Dec.mul Dec.quo
  dsimp only
  have hA : 0 ≤ x * P * P := Int.mul_nonneg (Int.mul_nonneg hx (by decide)) (by decide)
  rw [tquo_nonneg_eq _ _ hA (by omega)]
  generalize ht : x * P * P / g = t
  have ht0 : 0 ≤ t := by rw [← ht]; exact Int.ediv_nonneg hA (by omega)
  have t1 : t * g ≤ x * P * P := by rw [← ht]; exact Int.ediv_mul_le _ (by omega)
  have t2 : x * P * P < t * g + g := by
    rw [← ht]; have := Int.lt_ediv_add_one_mul_self (x * P * P) hg; rw [Int.add_mul, Int.one_mul] at this; exact this
  rw [chopRound_nonneg_eq t ht0]
  have bq := chopRoundNonneg_bound t ht0
  generalize hq : chopRoundNonneg t = q at bq
  have hq0 : 0 ≤ q := by rw [← hq]; exact chopRoundNonneg_nonneg t ht0
  have hqg : 0 ≤ q * g := Int.mul_nonneg hq0 (by omega)
  rw [chopRound_nonneg_eq _ hqg]
  have br := chopRoundNonneg_bound (q * g) hqg
  generalize chopRoundNonneg (q * g) = r at br
  -- the only non-linear step: the rounding error of `q` is scaled by `g`; the rest is linear in `q * g`, `t * g`
  have e : (q * P - t) * g = P * (q * g) - t * g := by rw [Int.sub_mul, Int.mul_right_comm, Int.mul_comm]
  have h1 := Int.mul_le_mul_of_nonneg_right bq.1 (Int.le_of_lt hg)
  have h2 := Int.mul_le_mul_of_nonneg_right bq.2 (Int.le_of_lt hg)
  rw [Int.mul_assoc, e] at h1
  rw [Int.mul_assoc, ← Int.neg_sub (q * P) t, Int.neg_mul, e] at h2
  generalize q * g = qg at *
  generalize t * g = tg at *
  simp only [P_val] at *
  omega

theorem interestQM_self (a g : Int) (ha : 0 ≤ a) (hg : 0 < g) (hg2 : g ≤ P * P) : interestQM a g g = 0 := by
  have := mul_quo_self_near (a * P) g (Int.mul_nonneg ha (by decide)) hg hg2
  exact tquo_P_eq_zero _ this.1 this.2

/-- on the supply side (multiply first, then divide) the round trip is exact -/
theorem interestMQ_self (a g : Int) (hg : 0 < g) (ha : 0 ≤ a) : interestMQ a g g = 0 := by
  unfold interestMQ Dec.truncateInt chopTrunc Dec.sub Dec.mul Dec.quo Dec.ofInt
  simp only
  rw [Int.mul_right_comm a P g, chopRound_mul_P]
  have hP := P_pos
  have hnn : 0 ≤ a * g * P * P :=
    Int.mul_nonneg (Int.mul_nonneg (Int.mul_nonneg ha (by omega)) (by omega)) (by omega)
  have e2 : a * g * P * P = (a * P * P) * g := by rw [Int.mul_right_comm a g P, Int.mul_right_comm (a * P) g P]
  rw [tquo_nonneg_eq _ _ hnn (by omega), e2, Int.mul_ediv_cancel _ (by omega), chopRound_mul_P, Int.sub_self]
  decide

/-- re-syncing a record at the factor it carries: a sync that does not panic (the factor is not 0) leaves the amount -/
theorem syncBorAmt_self {a g : Int} (hnp : syncBorPanics a (some g) g = false) (ha : 0 ≤ a) (hg : 0 ≤ g)
    (hg2 : g ≤ P * P) : syncBorAmt a (some g) g = a := by
  have hg0 : g ≠ 0 := fun e0 => by simp [syncBorPanics, e0] at hnp
  unfold syncBorAmt
  simp only [interestQM_self a g ha (by omega) hg2, Int.add_zero]

theorem syncSupAmt_self {a g : Int} (hnp : syncSupPanics (some g) = false) (ha : 0 ≤ a) (hg : 0 ≤ g) :
    syncSupAmt a (some g) g = a := by
  have hg0 : g ≠ 0 := fun e0 => by simp [syncSupPanics, e0] at hnp
  unfold syncSupAmt
  simp only [interestMQ_self a g (by omega) ha, Int.lt_irrefl, ite_false]

/-! ### the two readings of a factor entry: missing = 1.0 (`getD P`, what `AccrueInterest` initialises it to) and
    missing = 0 (`getD 0`, what the syncs read) -/

theorem getD_nonneg (o : Option Int) (h : ∀ v, o = some v → 0 ≤ v) : 0 ≤ o.getD P := by
  cases o with
  | none => decide
  | some v => exact h v rfl

theorem getD_zero_nonneg (o : Option Int) (h : ∀ v, o = some v → 0 ≤ v) : 0 ≤ o.getD 0 := by
  cases o with
  | none => exact Int.le_refl _
  | some v => exact h v rfl

theorem getD_zero_bounds (o : Option Int) (h : ∀ v, o = some v → 0 ≤ v ∧ v ≤ P * P) :
    0 ≤ o.getD 0 ∧ o.getD 0 ≤ P * P := by
  cases o with
  | none => decide
  | some v => exact h v rfl

theorem getD_zero_le (o : Option Int) : o.getD 0 ≤ o.getD P := by
  cases o with
  | none => decide
  | some v => exact Int.le_refl v

/-- a factor of a denom that one accrual leaves alone, initialises to its reading `getD P`, or raises from that reading
    does not decrease under either reading -/
theorem getD_le_of_raised {o o' : Option Int} {v : Int} (hv : o.getD P ≤ v) (h : o' = o ∨ o' = some v) :
    o.getD P ≤ o'.getD P ∧ o.getD 0 ≤ o'.getD 0 := by
  rcases h with rfl | rfl
  · exact ⟨Int.le_refl _, Int.le_refl _⟩
  · have := getD_zero_le o
    exact ⟨hv, by simp only [Option.getD_some]; omega⟩

/-- the exits of `AccrueInterest`, with `i` the new interest and `r` the part of it that goes to the reserves:
    a panic only on a negative amount, no error, and a state that is unchanged / has the accrual time set /
    has both factors initialised / is fully updated -/
theorem accrue_cases {cfg : Cfg} {s : St} {d : Denom} {now : Int} {phi : Dec} {apyPos : Bool} {i r : Int} {res : Res St}
    (hi : i = (phi.mul (Dec.ofInt (s.borrowed d))).truncateInt - s.borrowed d)
    (hr : r = ((Dec.ofInt i).mul (cfg.mkt d).reserveFactor).truncateInt)
    (h : accrue cfg s d now phi apyPos = res) :
    match (generalizing := false) res with
    | .panic => i < 0 ∨ i - r < 0 ∨ r < 0
    | .err _ => False
    | .ok s' =>
      s' = s ∨ s' = { s with accr := upd s.accr d (some now) } ∨
      s' = { s with
        brwIdx := upd s.brwIdx d (some ((s.brwIdx d).getD P)), supIdx := upd s.supIdx d (some ((s.supIdx d).getD P)) } ∨
      (0 ≤ i - r ∧ s' = { s with
        brwIdx := upd s.brwIdx d (some (Dec.mul ⟨(s.brwIdx d).getD P⟩ phi).m)
        supIdx := upd s.supIdx d
          (some (Dec.mul ⟨(s.supIdx d).getD P⟩ (supplyFactor (i - r) (s.cash d) (s.borrowed d) (s.reserves d))).m)
        borrowed := upd s.borrowed d (s.borrowed d + i)
        supplied := upd s.supplied d (s.supplied d + (i - r))
        reserves := upd s.reserves d (s.reserves d + r)
        accr := upd s.accr d (some now) }) := by
  subst hr hi
  revert h
  fun_cases accrue cfg s d now phi apyPos <;> intro h <;> subst h
  · exact .inr (.inl rfl)
  · exact .inl rfl
  · exact .inr (.inl rfl)
  · exact .inr (.inr (.inl rfl))
  · assumption
  · rename_i hneg
    exact .inr (.inr (.inr ⟨Int.not_lt.mp fun hlt => hneg (.inr (.inl hlt)), rfl⟩))

structure AccrueFrame (d : Denom) (s s' : St) : Prop where
  dep : s'.dep = s.dep
  depIdx : s'.depIdx = s.depIdx
  bor : s'.bor = s.bor
  borIdx : s'.borIdx = s.borIdx
  cash : s'.cash = s.cash
  bal : s'.bal = s.bal
  aucs : s'.aucs = s.aucs
  brwIdx : ∀ e, e ≠ d → s'.brwIdx e = s.brwIdx e
  supIdx : ∀ e, e ≠ d → s'.supIdx e = s.supIdx e
  borrowed : ∀ e, e ≠ d → s'.borrowed e = s.borrowed e

theorem accrue_frame {cfg : Cfg} {s s' : St} {d : Denom} {now : Int} {phi : Dec} {apyPos : Bool}
    (h : accrue cfg s d now phi apyPos = .ok s') : AccrueFrame d s s' := by
  rcases accrue_cases rfl rfl h with rfl | rfl | rfl | ⟨-, rfl⟩ <;>
    exact ⟨rfl, rfl, rfl, rfl, rfl, rfl, rfl, fun e he => by simp only [upd_other he],
      fun e he => by simp only [upd_other he], fun e he => by simp only [upd_other he]⟩

theorem accrue_brwIdx {cfg : Cfg} {s s' : St} {d : Denom} {now : Int} {phi : Dec} {apyPos : Bool}
    (hphi : P ≤ phi.m) (h0 : ∀ v, s.brwIdx d = some v → 0 ≤ v)
    (h : accrue cfg s d now phi apyPos = .ok s') (e : Denom) :
    (s.brwIdx e).getD P ≤ (s'.brwIdx e).getD P ∧ (s.brwIdx e).getD 0 ≤ (s'.brwIdx e).getD 0 := by
  by_cases he : e = d
  · subst he
    have hge : (s.brwIdx e).getD P ≤ (Dec.mul ⟨(s.brwIdx e).getD P⟩ phi).m :=
      chopRound_mul_ge_of_one_le _ phi.m (getD_nonneg _ h0) hphi
    rcases accrue_cases rfl rfl h with rfl | rfl | rfl | ⟨-, rfl⟩
    · exact getD_le_of_raised hge (.inl rfl)
    · exact getD_le_of_raised hge (.inl rfl)
    · exact getD_le_of_raised (Int.le_refl _) (.inr (upd_same _ _ _))
    · exact getD_le_of_raised hge (.inr (upd_same _ _ _))
  · rw [(accrue_frame h).brwIdx e he]
    exact ⟨Int.le_refl _, Int.le_refl _⟩

theorem supplyFactor_ge_one (newInterest cash borrows reserves : Int) (hi : 0 ≤ newInterest) :
    P ≤ (supplyFactor newInterest cash borrows reserves).m := by
  unfold supplyFactor
  simp only
  split
  · simp [Dec.one]
  · rename_i hne
    have ht : 0 < (((Dec.ofInt cash).add (Dec.ofInt borrows)).sub (Dec.ofInt reserves)).m := by omega
    have hq := quo_nonneg (Dec.ofInt newInterest) _ (by unfold Dec.ofInt; exact Int.mul_nonneg hi (by decide)) ht
    have hadd : ∀ x : Dec, (x.add Dec.one).m = x.m + P := fun x => rfl
    rw [hadd]; omega

/-- `AccrueInterest` does not lower the supply index of any denom: a successful accrual has a non-negative supply
    share, so the factor applied is ≥ 1 -/
theorem accrue_supIdx {cfg : Cfg} {s s' : St} {d : Denom} {now : Int} {phi : Dec} {apyPos : Bool}
    (h0 : ∀ v, s.supIdx d = some v → 0 ≤ v)
    (h : accrue cfg s d now phi apyPos = .ok s') (e : Denom) :
    (s.supIdx e).getD P ≤ (s'.supIdx e).getD P ∧ (s.supIdx e).getD 0 ≤ (s'.supIdx e).getD 0 := by
  by_cases he : e = d
  · subst he
    rcases accrue_cases rfl rfl h with rfl | rfl | rfl | ⟨hn, rfl⟩
    · exact ⟨Int.le_refl _, Int.le_refl _⟩
    · exact ⟨Int.le_refl _, Int.le_refl _⟩
    · exact getD_le_of_raised (Int.le_refl _) (.inr (upd_same _ _ _))
    · exact getD_le_of_raised
        (chopRound_mul_ge_of_one_le _ _ (getD_nonneg _ h0) (supplyFactor_ge_one _ _ _ _ hn)) (.inr (upd_same _ _ _))
  · rw [(accrue_frame h).supIdx e he]
    exact ⟨Int.le_refl _, Int.le_refl _⟩

theorem interest_nonneg (phi : Dec) (b : Int) (hphi : P ≤ phi.m) (hb : 0 ≤ b) :
    0 ≤ (phi.mul (Dec.ofInt b)).truncateInt - b := by
  have h1 : b * P ≤ (phi.mul (Dec.ofInt b)).m := by
    unfold Dec.mul Dec.ofInt
    simp only
    rw [Int.mul_comm phi.m (b * P)]
    exact chopRound_mul_ge_of_one_le (b * P) phi.m (Int.mul_nonneg hb (by decide)) hphi
  have h2 := le_tquo_P h1
  unfold Dec.truncateInt chopTrunc
  omega

theorem reservesNew_bounds (i : Int) (rf : Dec) (hi : 0 ≤ i) (h0 : 0 ≤ rf.m) (h1 : rf.m ≤ P) :
    0 ≤ ((Dec.ofInt i).mul rf).truncateInt ∧ ((Dec.ofInt i).mul rf).truncateInt ≤ i := by
  have hiP : 0 ≤ i * P := Int.mul_nonneg hi (by decide)
  have hlo : 0 ≤ ((Dec.ofInt i).mul rf).m := by
    unfold Dec.mul Dec.ofInt; simp only
    exact chopRound_nonneg _ (Int.mul_nonneg hiP h0)
  have hhi : ((Dec.ofInt i).mul rf).m ≤ i * P := by
    unfold Dec.mul Dec.ofInt; simp only
    have := chopRound_mono _ _ (Int.mul_le_mul_of_nonneg_left h1 hiP)
    rw [chopRound_mul_P] at this; exact this
  exact ⟨tquo_P_nonneg _ hlo, tquo_P_le hhi⟩

theorem accrue_no_panic (cfg : Cfg) (s : St) (d : Denom) (now : Int) (phi : Dec) (apyPos : Bool)
    (hphi : P ≤ phi.m) (hb : 0 ≤ s.borrowed d) (hrf0 : 0 ≤ (cfg.mkt d).reserveFactor.m)
    (hrf1 : (cfg.mkt d).reserveFactor.m ≤ P) :
    accrue cfg s d now phi apyPos ≠ .panic := by
  intro h
  have hi := interest_nonneg phi (s.borrowed d) hphi hb
  have hr := reservesNew_bounds _ (cfg.mkt d).reserveFactor hi hrf0 hrf1
  have hneg := accrue_cases rfl rfl h
  dsimp only at hneg
  omega

theorem accrue_ne_err (cfg : Cfg) (s : St) (d : Denom) (now : Int) (phi : Dec) (apyPos : Bool) (e : Err) :
    accrue cfg s d now phi apyPos ≠ .err e :=
  fun h => accrue_cases rfl rfl h

/-! ### witnesses for the interest counterexamples -/
namespace W

/-- denom 0 after bad debt: nothing in cash, 10 still borrowed, reserves 100 (> cash + borrows) -/
def stF4 : St :=
  { st with borrowed := fun d => if d = 0 then 10 else 0, cash := zeroC,
            reserves := fun d => if d = 0 then 100 else 0, brwIdx := fun _ => some P }

/-- cash + borrows = reserves with borrows > 0 -/
def stDiv0 : St :=
  { st with borrowed := fun d => if d = 0 then 1 else 0, cash := zeroC,
            reserves := fun d => if d = 0 then 1 else 0, brwIdx := fun _ => some P }

end W

/-- decidable reading of "the supply index did not decrease" for one accrual -/
def supplyIdxKept (cfg : Cfg) (s : St) (d : Denom) (now : Int) (phi : Dec) (apyPos : Bool) : Bool :=
  match accrue cfg s d now phi apyPos with
  | .ok s' => decide ((s.supIdx d).getD P ≤ (s'.supIdx d).getD P)
  | _ => true

def isPanic {α : Type} : Res α → Bool
  | .panic => true
  | _ => false

end KV.Hard
