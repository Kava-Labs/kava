/-
  Lemmas for C10, part 3: the params lookups on a bijective pair list, progress lemmas (when a return
  conversion succeeds), the refusals, and the ledger-sum invariant (totalSupply = Σ balances). Core Lean only.
-/
import KavaVerif.Proofs.EvmutilInv

namespace KV.EU

theorem M_ne_Z : M ≠ Z := by decide

theorem findByDenom_of_mem {l : List Pair} {p : Pair} (h : p ∈ l) : ∃ q, findByDenom l p.2 = some q := by
  generalize hd : p.2 = d
  fun_induction findByDenom l d with
  | case1 => cases h
  | case2 x xs => exact ⟨x, rfl⟩
  | case3 x xs d hx ih =>
    cases h with
    | head => exact absurd hd hx
    | tail _ h' => exact ih h' hd

theorem findByContract_of_mem {l : List Pair} {p : Pair} (h : p ∈ l) : ∃ q, findByContract l p.1 = some q := by
  generalize hc : p.1 = c
  fun_induction findByContract l c with
  | case1 => cases h
  | case2 x xs => exact ⟨x, rfl⟩
  | case3 x xs c hx ih =>
    cases h with
    | head => exact absurd hc hx
    | tail _ h' => exact ih h' hc

theorem findByDenom_of_contract {U : List Pair} (hU : UWf U) {l : List Pair} (hsub : ∀ p ∈ l, p ∈ U)
    {c : Contract} {d : Denom} (h : findByContract l c = some (c, d)) : findByDenom l d = some (c, d) := by
  have hm : (c, d) ∈ l := (findByContract_some h).2
  obtain ⟨q, hq⟩ := findByDenom_of_mem hm
  obtain ⟨hq2, hql⟩ := findByDenom_some hq
  have : q = (c, d) := (hU q (hsub q hql) (c, d) (hsub _ hm)).2 hq2
  rw [← this]; exact hq

theorem findByDenom_none {l : List Pair} {d : Denom} (h : ∀ p ∈ l, p.2 ≠ d) : findByDenom l d = none :=
  Option.eq_none_iff_forall_ne_some.mpr fun p hf => h p (findByDenom_some hf).2 (findByDenom_some hf).1

theorem findByContract_none {l : List Pair} {c : Contract} (h : ∀ p ∈ l, p.1 ≠ c) : findByContract l c = none :=
  Option.eq_none_iff_forall_ne_some.mpr fun p hf => h p (findByContract_some hf).2 (findByContract_some hf).1

theorem coinToErc_ok {s : St} {ini rcv : Addr} {d : Denom} {amt : Int} {c : Contract}
    (hp : findByDenom s.pairs d = some (c, d)) (hpos : 0 < amt) (hf : amt ≤ s.bank.bal d ini)
    (hM : 0 ≤ s.bank.bal d M) (hini : ini ≠ M) (hz : rcv ≠ Z) (hrm : rcv ≠ M)
    (hl : amt * scale d ≤ s.erc.bal c M) : ∃ s', coinToErc s ini rcv d amt = .ok s' := by
  have hf2 : amt ≤ (bankAdd (bankAdd s.bank d ini (-amt)) d M amt).bal d M := by
    rw [bankAdd_bal, bankAdd_bal, if_neg (fun e => hini e.2.symm), if_pos ⟨rfl, rfl⟩, Int.add_zero]
    exact Int.le_add_of_nonneg_left hM
  unfold coinToErc
  rw [if_neg (Int.not_le.mpr hpos), hp]
  simp only [bankSub_eq_some.mpr ⟨hf, rfl⟩, bankSub_eq_some.mpr ⟨hf2, rfl⟩, (bep3_amounts d amt).1,
    ercTransfer_eq_some.mpr ⟨M_ne_Z, hz, hl, rfl⟩]
  -- the receiver's balance grew by exactly the amount unlocked
  rw [if_neg (fun x => x (by rw [ercAdd_bal, ercAdd_bal, if_neg (fun e => hrm e.2), if_pos ⟨rfl, rfl⟩, Int.add_zero]))]
  exact ⟨_, rfl⟩

theorem cosmosFromErc_ok {blocked : Addr → Bool} {s : St} {ini rcv : Addr} {d : Denom} {amt : Int} {k : Nat}
    (hk : s.reg d = some k) (hpos : 0 < amt) (hf : amt ≤ s.erc.bal (.dep k) ini) (hz : ini ≠ Z)
    (hbl : blocked rcv = false) (hm : amt ≤ s.bank.bal d M) :
    ∃ s', cosmosFromErc blocked s ini rcv d amt = .ok s' := by
  unfold cosmosFromErc
  rw [if_neg (Int.not_le.mpr hpos), hk]
  simp only [if_neg (Int.not_lt.mpr hf), ercBurn_eq_some.mpr ⟨hz, hf, rfl⟩, hbl, Bool.false_eq_true, if_false,
    bankSub_eq_some.mpr ⟨hm, rfl⟩]
  exact ⟨_, rfl⟩

/-! Refusals: a conversion whose guard cannot have been passed did not succeed. -/

theorem coinToErc_disabled {s : St} {ini rcv : Addr} {d : Denom} {amt : Int}
    (h : ∀ p ∈ s.pairs, p.2 ≠ d) : coinToErc s ini rcv d amt = .err :=
  eq_err_of_not_ok fun _ hok => by
    obtain ⟨_, hs⟩ := coinToErc_spec hok
    exact nomatch (findByDenom_none h).symm.trans hs.pair

theorem ercToCoin_disabled {blocked : Addr → Bool} {s : St} {ini rcv : Addr} {c : Contract} {amt : Int}
    (h : ∀ p ∈ s.pairs, p.1 ≠ c) : ercToCoin blocked s ini rcv c amt = .err :=
  eq_err_of_not_ok fun _ hok => by
    obtain ⟨_, _, hs⟩ := ercToCoin_spec hok
    exact nomatch (findByContract_none h).symm.trans hs.pair

theorem cosmosToErc_disabled {s : St} {ini rcv : Addr} {d : Denom} {amt : Int}
    (h : ¬ d ∈ s.allowed) : cosmosToErc s ini rcv d amt = .err :=
  eq_err_of_not_ok fun _ hok => by
    obtain ⟨_, hs⟩ := cosmosToErc_spec hok
    exact h hs.listed

theorem cosmosFromErc_unregistered {blocked : Addr → Bool} {s : St} {ini rcv : Addr} {d : Denom} {amt : Int}
    (h : s.reg d = none) : cosmosFromErc blocked s ini rcv d amt = .err :=
  eq_err_of_not_ok fun _ hok => by
    obtain ⟨_, hs⟩ := cosmosFromErc_spec hok
    exact nomatch h.symm.trans hs.registered

def sumOver (l : List Addr) (f : Addr → Int) : Int := (l.map f).foldr (· + ·) 0

theorem sumOver_cons (x : Addr) (xs : List Addr) (f : Addr → Int) : sumOver (x :: xs) f = f x + sumOver xs f := rfl

theorem sumOver_congr {l : List Addr} {f g : Addr → Int} (h : ∀ a ∈ l, f a = g a) : sumOver l f = sumOver l g := by
  induction l with
  | nil => rfl
  | cons x xs ih =>
    rw [sumOver_cons, sumOver_cons, h x List.mem_cons_self, ih fun a ha => h a (List.mem_cons_of_mem _ ha)]

theorem sumOver_add (l : List Addr) (f g : Addr → Int) :
    sumOver l (fun a => f a + g a) = sumOver l f + sumOver l g := by
  induction l with
  | nil => rfl
  | cons x xs ih => simp only [sumOver_cons, ih]; omega

theorem sumOver_zero (l : List Addr) : sumOver l (fun _ => 0) = 0 := by
  induction l with
  | nil => rfl
  | cons x xs ih => rw [sumOver_cons, ih]; rfl

theorem sumOver_ind_notin {l : List Addr} {x : Addr} {n : Int} (h : x ∉ l) :
    sumOver l (fun a => if a = x then n else 0) = 0 := by
  rw [sumOver_congr fun a ha => if_neg fun (e : a = x) => h (e ▸ ha), sumOver_zero]

theorem sumOver_ind {l : List Addr} {x : Addr} {n : Int} (hn : l.Nodup) (h : x ∈ l) :
    sumOver l (fun a => if a = x then n else 0) = n := by
  induction l with
  | nil => cases h
  | cons y ys ih =>
    have hnd := List.nodup_cons.mp hn
    simp only [sumOver_cons]
    by_cases hy : y = x
    · rw [if_pos hy, sumOver_ind_notin (hy ▸ hnd.1), Int.add_zero]
    · rw [if_neg hy, ih hnd.2 (List.mem_of_ne_of_mem (Ne.symm hy) h), Int.zero_add]

theorem sumOver_ind2 {l : List Addr} {x : Addr} {n : Int} (hn : l.Nodup) (h : x ∈ l) (c' c : Contract) :
    sumOver l (fun a => if c' = c ∧ a = x then n else 0) = if c' = c then n else 0 := by
  by_cases hc : c' = c
  · simp only [hc, true_and, ite_true]; exact sumOver_ind hn h
  · simp only [hc, false_and, ite_false]; exact sumOver_zero l

/-- the ledger invariant of the trusted ERC20 semantics: totalSupply = Σ balances over `accts`
    (a duplicate-free list of every address that ever holds tokens) -/
def LedgerSum (accts : List Addr) (s : St) : Prop := ∀ c, s.erc.total c = sumOver accts (s.erc.bal c)

/-- the addresses an operation names -/
def opAddrs : Op → List Addr
  | .coinToErc i r _ _ => [i, r]
  | .ercToCoin i r _ _ => [i, r]
  | .cosmosToErc i r _ _ => [i, r]
  | .cosmosFromErc i r _ _ => [i, r]
  | .transfer _ f t _ => [f, t]
  | .send _ f t _ => [f, t]
  | .extMint _ t _ => [t]
  | .setPairs _ => []
  | .setAllowed _ => []

theorem ledger_bal_transfer {accts : List Addr} (hn : accts.Nodup) {s s' : St} {c : Contract} {f t : Addr} {n : Int}
    (hf : f ∈ accts) (ht : t ∈ accts) (hL : LedgerSum accts s)
    (he : ∀ c' a, s'.erc.bal c' a = s.erc.bal c' a + (if c' = c ∧ a = f then -n else 0) + (if c' = c ∧ a = t then n else 0))
    (htot : s'.erc.total = s.erc.total) : LedgerSum accts s' := by
  intro c'
  rw [htot, hL c', sumOver_congr (fun a _ => he c' a), sumOver_add, sumOver_add, sumOver_ind2 hn hf,
    sumOver_ind2 hn ht, add_ite_cancel (Int.add_left_neg n)]

theorem ledger_bal_mint {accts : List Addr} (hn : accts.Nodup) {s s' : St} {c : Contract} {t : Addr} {n : Int}
    (ht : t ∈ accts) (hL : LedgerSum accts s)
    (he : ∀ c' a, s'.erc.bal c' a = s.erc.bal c' a + (if c' = c ∧ a = t then n else 0))
    (htot : ∀ c', s'.erc.total c' = s.erc.total c' + (if c' = c then n else 0)) : LedgerSum accts s' := by
  intro c'
  rw [htot, hL c', sumOver_congr (fun a _ => he c' a), sumOver_add, sumOver_ind2 hn ht]

theorem ledger_step {accts : List Addr} (hn : accts.Nodup) (hM : M ∈ accts) {blocked : Addr → Bool}
    {s s' : St} {op : Op} (hop : ∀ a ∈ opAddrs op, a ∈ accts) (hL : LedgerSum accts s)
    (h : step blocked s op = .ok s') : LedgerSum accts s' := by
  cases op with
  | coinToErc i r d a =>
    obtain ⟨c, h⟩ := coinToErc_spec h
    exact ledger_bal_transfer hn hM (hop r (.tail _ (.head _))) hL h.erc h.total
  | ercToCoin i r c a =>
    obtain ⟨d, m, h⟩ := ercToCoin_spec h
    exact ledger_bal_transfer hn (hop i (.head _)) hM hL h.erc h.total
  | cosmosToErc i r d a =>
    obtain ⟨k, h⟩ := cosmosToErc_spec h
    exact ledger_bal_mint hn (hop r (.tail _ (.head _))) hL h.erc h.total
  | cosmosFromErc i r d a =>
    obtain ⟨k, h⟩ := cosmosFromErc_spec h
    exact ledger_bal_mint hn (hop i (.head _)) hL h.erc h.total
  | transfer c f t a =>
    replace h := envTransfer_spec h
    exact ledger_bal_transfer hn (hop f (.head _)) (hop t (.tail _ (.head _))) hL h.erc h.total
  | send d f t a =>
    intro c'; rw [(envSend_spec h).erc]; exact hL c'
  | extMint c t a =>
    replace h := extMint_spec h
    exact ledger_bal_mint hn (hop t (.head _)) hL h.erc h.total
  | setPairs l => cases h; exact hL
  | setAllowed l => cases h; exact hL

theorem ledger_run {accts : List Addr} (hn : accts.Nodup) (hM : M ∈ accts) {blocked : Addr → Bool}
    {ops : List Op} {s : St} (hop : ∀ op ∈ ops, ∀ a ∈ opAddrs op, a ∈ accts) (hL : LedgerSum accts s) :
    LedgerSum accts (run blocked s ops) :=
  run_induction (Q := fun op => ∀ a ∈ opAddrs op, a ∈ accts) (ledger_step hn hM) hop hL

end KV.EU
