/-
  Source tie ("tie 1b") for x/precisebank/keeper/send.go: the Lean definitions REGENERATED from the Go source on every run
  (Generated/FnPrecisebank.lean, tools/extract/fn*.go) equal the hand-written model functions the C03 theorems are
  about.  An edit of a Go function changes the generated definition and its equality proof stops checking.
-/
import KavaVerif.Generated.FnPrecisebank
import KavaVerif.Model.Precisebank
import KavaVerif.Proofs.TieFnBase

namespace KV.TieFn
open KV KV.Go

/-- `subFromFractionalBalance` = (`subFrac`, borrow flag) on the domain the Go function accepts (both operands below the
    conversion factor; otherwise it panics, and the model only applies `subFrac` to stored fractional balances and
    `amt % C`) -/
theorem precisebank_subFromFractionalBalance (cur amt : Int) (h1 : cur < KV.PB.C) (h2 : amt < KV.PB.C) :
    GoFn.Precisebank.subFromFractionalBalance_translated = true ∧
    GoFn.Precisebank.subFromFractionalBalance cur amt = R.ok (KV.PB.subFrac cur amt, decide (cur - amt < 0)) := by
  refine ⟨rfl, ?_⟩
  have h1' : ¬ (1000000000000 : Int) ≤ cur := Int.not_le.mpr h1
  have h2' : ¬ (1000000000000 : Int) ≤ amt := Int.not_le.mpr h2
  simp only [GoFn.Precisebank.subFromFractionalBalance, GoFn.Precisebank.ConversionFactor, KV.PB.subFrac]
  unfold KV.PB.C KV.Gen.pbConversionFactor
  tie_norm
  rw [if_neg h1', if_neg h2']
  split <;> rfl

/-- `addToFractionalBalance` = (`addFrac`, carry flag), same domain -/
theorem precisebank_addToFractionalBalance (cur amt : Int) (h1 : cur < KV.PB.C) (h2 : amt < KV.PB.C) :
    GoFn.Precisebank.addToFractionalBalance_translated = true ∧
    GoFn.Precisebank.addToFractionalBalance cur amt = R.ok (KV.PB.addFrac cur amt, decide (cur + amt ≥ KV.PB.C)) := by
  refine ⟨rfl, ?_⟩
  have h1' : ¬ (1000000000000 : Int) ≤ cur := Int.not_le.mpr h1
  have h2' : ¬ (1000000000000 : Int) ≤ amt := Int.not_le.mpr h2
  simp only [GoFn.Precisebank.addToFractionalBalance, GoFn.Precisebank.ConversionFactor, KV.PB.addFrac]
  unfold KV.PB.C KV.Gen.pbConversionFactor
  tie_norm
  rw [if_neg h1', if_neg h2']
  split <;> rfl

end KV.TieFn
