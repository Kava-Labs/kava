/-
  Helper lemmas for C08 (x/hard): point updates, sums over denominations, exactness and rounding bounds of the
  valuation `amount / conversionFactor * price`, the two LTV routines.  The property statements are in
  KavaVerif/Props/C08.lean.
-/
import KavaVerif.Model.Hard
set_option linter.unusedVariables false
namespace KV.Hard
open KV

theorem P_val : P = 1000000000000000000 := by decide
theorem P_pos : 0 < P := by decide

theorem upd_same {α : Type} (f : Nat → α) (k : Nat) (v : α) : upd f k v k = v := by unfold upd; simp
theorem upd_other {α : Type} {f : Nat → α} {k x : Nat} {v : α} (h : x ≠ k) : upd f k v x = f x := by
  unfold upd; simp [h]

theorem upd_self {α : Type} (f : Nat → α) (k : Nat) : upd f k (f k) = f := by
  funext x; unfold upd; split
  · rename_i h; rw [h]
  · rfl

theorem sumD_filter (p : Denom → Bool) (g : Denom → Int) (l : List Denom) :
    sumD (l.filter p) g = sumD l (fun d => if p d then g d else 0) := by
  induction l with
  | nil => rfl
  | cons d t ih =>
    by_cases h : p d
    · simp only [List.filter_cons_of_pos h, sumD, h, ite_true, ih]
    · simp only [List.filter_cons_of_neg h, sumD, h, ite_false, ih, Bool.false_eq_true]; omega

theorem sumD_add (f g : Denom → Int) (l : List Denom) :
    sumD l (fun d => f d + g d) = sumD l f + sumD l g := by
  induction l with
  | nil => rfl
  | cons d t ih => simp only [sumD, ih]; omega

theorem sumD_le (f g : Denom → Int) (l : List Denom) (h : ∀ d ∈ l, f d ≤ g d) : sumD l f ≤ sumD l g := by
  induction l with
  | nil => exact Int.le_refl _
  | cons d t ih =>
    simp only [sumD]
    have h1 := h d (List.mem_cons_self)
    have h2 := ih (fun e he => h e (List.mem_cons_of_mem _ he))
    omega

theorem sumD_congr (f g : Denom → Int) (l : List Denom) (h : ∀ d ∈ l, f d = g d) : sumD l f = sumD l g := by
  induction l with
  | nil => rfl
  | cons d t ih =>
    simp only [sumD]
    rw [h d (List.mem_cons_self), ih (fun e he => h e (List.mem_cons_of_mem _ he))]

theorem sumD_nonneg (f : Denom → Int) (l : List Denom) (h : ∀ d ∈ l, 0 ≤ f d) : 0 ≤ sumD l f := by
  induction l with
  | nil => exact Int.le_refl _
  | cons d t ih =>
    simp only [sumD]
    have h1 := h d (List.mem_cons_self)
    have h2 := ih (fun e he => h e (List.mem_cons_of_mem _ he))
    omega

theorem sumD_indicator_eq_length (p : Denom → Bool) (l : List Denom) :
    sumD l (fun d => if p d then 1 else 0) = ((l.filter p).length : Int) := by
  induction l with
  | nil => rfl
  | cons d t ih =>
    by_cases h : p d
    · simp only [sumD, h, ite_true, List.filter_cons_of_pos h, List.length_cons, ih]; omega
    · simp only [sumD, h, ite_false, List.filter_cons_of_neg h, ih, Bool.false_eq_true]; omega

/-- value of the coin of denom `d` in `c` (0 when absent) -/
def valD (cfg : Cfg) (c : Coins) (d : Denom) : Int := if 0 < c d then (usdValue (cfg.mkt d) (c d)).m else 0

theorem valueOf_eq (cfg : Cfg) (c : Coins) : valueOf cfg c = sumD cfg.ds (valD cfg c) := by
  unfold valueOf supp
  rw [sumD_filter]
  apply sumD_congr
  intro d _
  unfold valD
  by_cases h : 0 < c d <;> simp [h]

theorem chopRound_nonneg_eq (x : Int) (h : 0 ≤ x) : chopRound x = chopRoundNonneg x := by
  unfold chopRound; simp [Int.not_lt.mpr h]

theorem chopRound_add_near (x y : Int) (hx : 0 ≤ x) (hy : 0 ≤ y) :
    chopRound (x + y) ≤ chopRound x + chopRound y + 1 ∧ chopRound x + chopRound y ≤ chopRound (x + y) + 1 := by
  rw [chopRound_nonneg_eq x hx, chopRound_nonneg_eq y hy, chopRound_nonneg_eq (x + y) (by omega)]
  have b1 := chopRoundNonneg_bound x hx
  have b2 := chopRoundNonneg_bound y hy
  have b3 := chopRoundNonneg_bound (x + y) (by omega)
  simp only [P_val] at *
  omega

theorem chopRound_add_ge (x y : Int) (hx : 0 ≤ x) (hy : 0 ≤ y) :
    chopRound x + chopRound y ≤ chopRound (x + y) + 1 :=
  (chopRound_add_near x y hx hy).2

/-- `NewDecFromInt(a).Quo(NewDecFromInt(cf))` is exact when the conversion factor divides 10^18 -/
theorem quo_ofInt_exact (a cf : Int) (ha : 0 ≤ a) (hcf : 0 < cf) (hdiv : P % cf = 0) :
    ((Dec.ofInt a).quo (Dec.ofInt cf)).m = a * (P / cf) := by
  have hk : P = cf * (P / cf) := by
    have := Int.emod_add_mul_ediv P cf; omega
  generalize hkk : P / cf = k at hk
  have hk0 : 0 ≤ k := by
    by_cases h : k < 0
    · have : cf * k < 0 := Int.mul_neg_of_pos_of_neg hcf h
      have := P_pos; omega
    · omega
  unfold Dec.quo Dec.ofInt
  simp only
  have e : a * P * P * P = (a * k * P) * (cf * P) := by
    have : a * P * P * P = a * (cf * k) * P * P := by rw [← hk]
    rw [this]; simp only [Int.mul_comm, Int.mul_left_comm]
  have hpos : 0 < cf * P := Int.mul_pos hcf P_pos
  have hnn : 0 ≤ a * P * P * P := by
    have := P_pos
    exact Int.mul_nonneg (Int.mul_nonneg (Int.mul_nonneg ha (by omega)) (by omega)) (by omega)
  rw [tquo_nonneg_eq _ _ hnn (by omega), e, Int.mul_ediv_cancel _ (by omega), chopRound_mul_P]

theorem usdValue_exact (m : Market) (a : Int) (ha : 0 ≤ a) (hcf : 0 < m.cf) (hdiv : P % m.cf = 0) :
    (usdValue m a).m = chopRound (a * (P / m.cf) * m.price.m) := by
  unfold usdValue Dec.mul
  simp only
  rw [quo_ofInt_exact a m.cf ha hcf hdiv]

theorem usdValue_add_le (m : Market) (a b : Int) (ha : 0 ≤ a) (hb : 0 ≤ b) (hcf : 0 < m.cf) (hdiv : P % m.cf = 0)
    (hp : 0 ≤ m.price.m) :
    (usdValue m (a + b)).m ≤ (usdValue m a).m + (usdValue m b).m + 1 := by
  rw [usdValue_exact m a ha hcf hdiv, usdValue_exact m b hb hcf hdiv, usdValue_exact m (a + b) (by omega) hcf hdiv]
  have hk : 0 ≤ P / m.cf := Int.ediv_nonneg (by decide) (by omega)
  have e : (a + b) * (P / m.cf) * m.price.m = a * (P / m.cf) * m.price.m + b * (P / m.cf) * m.price.m := by
    rw [Int.add_mul, Int.add_mul]
  rw [e]
  exact (chopRound_add_near _ _ (Int.mul_nonneg (Int.mul_nonneg ha hk) hp) (Int.mul_nonneg (Int.mul_nonneg hb hk) hp)).1

theorem usdValue_zero (m : Market) : (usdValue m 0).m = 0 := by
  have h0 : chopRound 0 = 0 := by decide
  unfold usdValue Dec.mul Dec.quo Dec.ofInt tquo
  simp [h0]

theorem mem_supp {ds : List Denom} {c : Coins} {d : Denom} : d ∈ supp ds c ↔ d ∈ ds ∧ 0 < c d := by
  unfold supp; simp [List.mem_filter]

theorem pricesOk_iff (cfg : Cfg) (c : Coins) :
    pricesOk cfg c = true ↔ ∀ d ∈ cfg.ds, 0 < c d → (cfg.mkt d).price.m ≠ 0 := by
  unfold pricesOk
  rw [List.all_eq_true]
  constructor
  · intro h d hd hc
    have := h d (mem_supp.mpr ⟨hd, hc⟩)
    simpa using this
  · intro h d hd
    have := mem_supp.mp hd
    simpa using h d this.1 this.2

/-- a merged coin is positive only if one of its parts is -/
theorem pricesOk_addC (cfg : Cfg) (a b : Coins) (h1 : pricesOk cfg a = true) (h2 : pricesOk cfg b = true) :
    pricesOk cfg (addC a b) = true := by
  rw [pricesOk_iff] at *
  intro d hd hc
  unfold addC at hc
  by_cases h : 0 < a d
  · exact h1 d hd h
  · exact h2 d hd (by omega)

theorem pricesOk_add' (cfg : Cfg) (a b : Coins) (ha : ∀ d ∈ cfg.ds, 0 ≤ a d) (hb : ∀ d ∈ cfg.ds, 0 ≤ b d)
    (h1 : pricesOk cfg a = true) (h2 : pricesOk cfg b = true) : pricesOk cfg (addC a b) = true :=
  pricesOk_addC cfg a b h1 h2

theorem pricesOk_add (cfg : Cfg) (a b : Coins) (ha : ∀ d, 0 ≤ a d) (hb : ∀ d, 0 ≤ b d)
    (h1 : pricesOk cfg a = true) (h2 : pricesOk cfg b = true) : pricesOk cfg (addC a b) = true :=
  pricesOk_addC cfg a b h1 h2

theorem proposedLoop_ok (cfg : Cfg) (totB new : Coins) (l : List Denom) (acc v : Int)
    (h : proposedLoop cfg totB new l acc = .ok v) :
    v = acc + sumD l (fun d => (usdValue (cfg.mkt d) (new d)).m) ∧ ∀ d ∈ l, (cfg.mkt d).price.m ≠ 0 := by
  fun_induction proposedLoop cfg totB new l acc with
  | case1 acc => cases h; exact ⟨by simp [sumD], by simp⟩
  | case2 => cases h
  | case3 => cases h
  | case4 d t acc hp _ ih =>
    obtain ⟨e, hall⟩ := ih h
    refine ⟨by rw [e]; simp only [sumD]; omega, fun x hx => ?_⟩
    rcases List.mem_cons.mp hx with rfl | hx
    · exact hp
    · exact hall x hx

/-- what `ValidateBorrow` has checked when it accepts the coins `new` against the records `dep`, `bor` -/
structure BorrowValid (cfg : Cfg) (dep bor new : Coins) : Prop where
  depPrices : pricesOk cfg dep = true
  borPrices : pricesOk cfg bor = true
  newPrices : pricesOk cfg new = true
  ltv : valueOf cfg new + valueOf cfg bor ≤ borrowable cfg dep
  minBorrow : cfg.minBorrow.m ≤ valueOf cfg new + valueOf cfg bor
  nonempty : (supp cfg.ds new).isEmpty = false
  within : isWithinLtv cfg dep (addC bor new) = .ok true

theorem validateBorrow_ok {cfg : Cfg} {cash reserves totB dep bor new : Coins}
    (h : validateBorrow cfg cash reserves totB dep bor new = .ok ()) : BorrowValid cfg dep bor new := by
  revert h
  fun_cases validateBorrow cfg cash reserves totB dep bor new <;> intro h <;> cases h
  rename_i hne _ _ proposed hp _ hpd hpb hmin hltv hw
  obtain ⟨e, hall⟩ := proposedLoop_ok _ _ _ (supp cfg.ds new) _ _ hp
  have hv : proposed = valueOf cfg new := by rw [e]; unfold valueOf; omega
  refine ⟨by simpa using hpd, by simpa using hpb, ?_, by omega, by omega, Bool.eq_false_iff.mpr hne, hw⟩
  rw [pricesOk_iff]
  intro d hd hc
  exact hall d (mem_supp.mpr ⟨hd, hc⟩)

/-- markets whose conversion factor divides 10^18 (all powers of ten up to 10^18) and whose price is not negative -/
def ExactCf (cfg : Cfg) : Prop := ∀ d ∈ cfg.ds, 0 < (cfg.mkt d).cf ∧ P % (cfg.mkt d).cf = 0 ∧ 0 ≤ (cfg.mkt d).price.m

theorem valueOf_add_disjoint' (cfg : Cfg) (a b : Coins) (hdis : ∀ d ∈ cfg.ds, a d = 0 ∨ b d = 0) :
    valueOf cfg (addC a b) = valueOf cfg a + valueOf cfg b := by
  rw [valueOf_eq, valueOf_eq, valueOf_eq, ← sumD_add]
  apply sumD_congr
  intro d hd
  unfold valD addC
  rcases hdis d hd with h | h <;> simp [h]

theorem valueOf_add_disjoint (cfg : Cfg) (a b : Coins) (ha : ∀ d, 0 ≤ a d) (hb : ∀ d, 0 ≤ b d)
    (hdis : ∀ d, a d = 0 ∨ b d = 0) : valueOf cfg (addC a b) = valueOf cfg a + valueOf cfg b :=
  valueOf_add_disjoint' cfg a b (fun d _ => hdis d)

theorem valD_add_le (cfg : Cfg) (hx : ExactCf cfg) (a b : Coins) (d : Denom) (hd : d ∈ cfg.ds)
    (ha : 0 ≤ a d) (hb : 0 ≤ b d) :
    valD cfg (addC a b) d ≤ valD cfg a d + valD cfg b d + (if (decide (0 < a d) && decide (0 < b d)) then 1 else 0) := by
  obtain ⟨hcf, hdiv, hp⟩ := hx d hd
  unfold valD addC
  by_cases h2 : 0 < b d
  · by_cases h1 : 0 < a d
    · rw [if_pos (show 0 < a d + b d by omega), if_pos h1, if_pos h2, if_pos (by simp [h1, h2])]
      exact usdValue_add_le (cfg.mkt d) (a d) (b d) ha hb hcf hdiv hp
    · have e : a d = 0 := by omega
      simp [e, h2]
  · have e : b d = 0 := by omega
    simp [e]

theorem valueOf_add_le' (cfg : Cfg) (hx : ExactCf cfg) (a b : Coins) (ha : ∀ d ∈ cfg.ds, 0 ≤ a d) (hb : ∀ d ∈ cfg.ds, 0 ≤ b d) :
    valueOf cfg (addC a b) ≤ valueOf cfg a + valueOf cfg b +
      ((cfg.ds.filter (fun d => decide (0 < a d) && decide (0 < b d))).length : Int) := by
  rw [valueOf_eq, valueOf_eq, valueOf_eq, ← sumD_add, ← sumD_indicator_eq_length, ← sumD_add]
  exact sumD_le _ _ _ fun d hd => valD_add_le cfg hx a b d hd (ha d hd) (hb d hd)

theorem isWithinLtv_ok_true (cfg : Cfg) (dep bor : Coins) (hp1 : pricesOk cfg bor = true) (hp2 : pricesOk cfg dep = true)
    (h : valueOf cfg bor ≤ borrowable cfg dep) : isWithinLtv cfg dep bor = .ok true := by
  unfold isWithinLtv; simp [hp1, hp2, h]

/-! ### witnesses (literal states used by counterexamples and non-vacuity examples) -/
namespace W

/-- denom 0: collateral, price 1.0; denom 1: price 1.000000000000000001; both conversion factor 10^6, LTV 0.5 -/
def mA : Market := ⟨1000000, ⟨P⟩, ⟨P / 2⟩, ⟨0⟩, ⟨P / 20⟩, false, ⟨0⟩⟩
def mB : Market := ⟨1000000, ⟨P + 1⟩, ⟨P / 2⟩, ⟨0⟩, ⟨P / 20⟩, false, ⟨0⟩⟩
def cfg : Cfg := ⟨[0, 1], fun d => if d = 0 then mA else mB, ⟨0⟩⟩
/-- deposit worth 2.0 → borrowing power exactly 1.0 -/
def dep : Coins := fun d => if d = 0 then 2000000 else 0
/-- 500000 of denom 1: value 0.5·1.000000000000000001 = 0.5000000000000000005 → half-even → 0.5 -/
def half : Coins := fun d => if d = 1 then 500000 else 0
def big : Coins := fun _ => 1000000000000
def one0 : Coins := fun d => if d = 0 then 1 else 0
/-- a smaller second borrow that stays inside the range -/
def small : Coins := fun d => if d = 1 then 400000 else 0
/-- the collateral (denom 0) has fallen to 0.4: borrowing power 0.4 < 0.5 borrowed -/
def cfgLow : Cfg := ⟨[0, 1], fun d => if d = 0 then { mA with price := ⟨4 * (P / 10)⟩ } else mB, ⟨0⟩⟩

/-- user 0 after depositing `dep` and borrowing `half` once; user 1 is a lender of denom 1 -/
def st : St :=
  { dep := fun u => if u = 0 then dep else if u = 1 then (fun d => if d = 1 then 1000000000 else 0) else zeroC
    depIdx := fun u d => if (u = 0 ∧ d = 0) ∨ (u = 1 ∧ d = 1) then some P else none
    bor := fun u => if u = 0 then half else zeroC
    borIdx := fun u d => if u = 0 ∧ d = 1 then some P else none
    supIdx := fun _ => some P
    brwIdx := fun d => if d = 1 then some P else none
    supplied := fun d => if d = 0 then 2000000 else if d = 1 then 1000000000 else 0
    borrowed := fun d => if d = 1 then 500000 else 0
    reserves := zeroC
    cash := fun d => if d = 0 then 2000000 else if d = 1 then 999500000 else 0
    bal := fun _ => big
    accr := fun _ => some 0
    aucs := [] }

end W

/-- hypotheses of `C08_within_ltv_not_liquidatable` as a decidable check (for the non-vacuity example) -/
def syncedWithin (cfg : Cfg) (s : St) (u : User) : Bool :=
  match syncBorrow cfg s u with
  | .ok s1 => (match syncSupply cfg s1 u with
    | .ok s2 => (match isWithinLtv cfg (s2.dep u) (s2.bor u) with | .ok true => true | _ => false)
    | _ => false)
  | _ => false

/-- the state-level reading of "a successful borrow leaves the position within range as liquidation computes it" -/
def borrowKeepsWithin (cfg : Cfg) (s : St) (u : User) (coins : Coins) : Bool :=
  match borrow cfg s u coins with
  | .ok s' => (match isWithinLtv cfg (s'.dep u) (s'.bor u) with | .ok true => true | _ => false)
  | _ => true

end KV.Hard
