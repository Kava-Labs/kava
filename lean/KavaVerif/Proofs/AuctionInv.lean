/-
  Helper lemmas for C06, part 4: every operation of the keeper preserves the invariant
  (well-formed store ∧ custody ∧ exact index). Core Lean only.
-/
import KavaVerif.Proofs.AuctionKeeper

namespace KV.Auc

theorem modCoins_surplus (a : Auction) (d : Denom) (h : a.kind = .surplus) :
    modCoins a d = ind (a.lotD = d) a.lot := by unfold modCoins ind; rw [h]
theorem modCoins_debt (a : Auction) (d : Denom) (h : a.kind = .debt) :
    modCoins a d = ind (a.debtD = d) a.debt := by unfold modCoins ind; rw [h]
theorem modCoins_collateral (a : Auction) (d : Denom) (h : a.kind = .collateral) :
    modCoins a d = ind (a.lotD = d) a.lot + ind (a.debtD = d) a.debt := by unfold modCoins ind; rw [h]

/-- `GetModuleAccountCoins` in one formula: a debt auction holds no lot, a surplus auction no debt -/
theorem modCoins_eq (a : Auction) (d : Denom) :
    modCoins a d = ind (a.lotD = d) (if a.kind = .debt then 0 else a.lot)
      + ind (a.debtD = d) (if a.kind = .surplus then 0 else a.debt) := by
  unfold modCoins ind; cases a.kind <;> simp

/-- a refund never lands in the module account: whenever anything is refunded, the recipient is an
    unblocked address -/
theorem ind_M_refund {env : Env} (hE : EnvOk env) {c q : Prop} [Decidable c] [Decidable q] {x : Addr} {n : Int}
    (h : c → env.blocked x = false) : ind (env.M = x ∧ q) (if c then n else 0) = 0 := by
  by_cases hc : c
  · exact ind_neg _ fun hh => hE.ne_M (h hc) hh.1.symm
  · rw [if_neg hc, ind_zero]

theorem mem_of_getD_nonneg (ns : List Int) (h : ∀ i, i < ns.length → 0 ≤ ns.getD i 0) :
    ∀ n, n ∈ ns → 0 ≤ n := by
  intro n hn
  obtain ⟨i, hi, rfl⟩ := List.mem_iff_getElem.mp hn
  have := h i hi
  rwa [List.getD_eq_getElem?_getD, List.getElem?_eq_getElem hi] at this

theorem weightsValid_len (addrs : List Addr) (ws : List Int) (h : weightsValid addrs ws = true) :
    addrs.length = ws.length := by
  unfold weightsValid at h
  simp only [Bool.and_eq_true, decide_eq_true_eq] at h
  exact h.1.1.2

theorem paid_split {addrs : List Addr} {ws parts : List Int} {n : Int} (hw : weightsValid addrs ws = true)
    (hsp : lrSplit n ws = some parts) : paid addrs parts = n := by
  obtain ⟨⟨ha, hws, hW⟩, hlr⟩ := lrSplit_some hsp
  have hlen := ((isLRSplit_iff _ _ _).mp hlr).1
  rw [paid_eq_sum _ _ (by rw [weightsValid_len _ _ hw, hlen])
    (mem_of_getD_nonneg _ fun i hi => lr_part_nonneg ha hws hW hlr i (hlen ▸ hi))]
  exact lr_sum hlr

section
variable {env : Env} {p : Params} {now : Int} {s s' : St} {b b' : Bal} {a a' : Auction} {id : Nat}
  {bidder seller buyer : Addr} {denom lotD bidD debtD : Denom} {amt lot bid debt maxBid : Int}
  {addrs : List Addr} {ws : List Int}

theorem bidDispatch_inv (hE : EnvOk env) (hA : AWF env a) (hbM : bidder ≠ env.M)
    (h : bidDispatch env p now b a bidder denom amt = .ok b' a') :
    AWF env a' ∧ (∀ d, b' env.M d = b env.M d + modCoins a' d - modCoins a d) := by
  obtain ⟨hlot, hbid, hdebt, hend, hini, hcol⟩ := hA
  have hMb : ¬ (env.M = bidder) := fun h => hbM h.symm
  have hMi : ¬ (env.M = a.initiator) := fun h => hini h.symm
  rcases bidDispatch_cases h with ⟨hk, h⟩ | ⟨hk, h⟩ | ⟨hk, hph, h⟩ | ⟨hk, hph, h⟩
  · obtain ⟨rfl, ⟨_, hmin⟩, hblk, hflow⟩ := bidSurplus_spec h
    have h0 : 0 ≤ amt := by have := incOf_pos a.bid p.incS; unfold minBidSurplus at hmin; omega
    refine ⟨⟨hlot, h0, hdebt, touch_end_le _ _ _ _, hini, fun hc => nomatch hk.symm.trans hc⟩, fun d => ?_⟩
    have hf := hflow env.M d
    simp only [touch_modCoins, modCoins_surplus, hk]
    rw [ind_left_false hMb, ind_M_refund hE hblk, ind_left_false hMb] at hf
    omega
  · obtain ⟨rfl, ⟨_, _, hnn⟩, hblk, hflow⟩ := bidDebt_spec h
    have hret := debtReturn_bounds a hbid hdebt
    refine ⟨⟨hnn, hbid, Int.sub_nonneg_of_le hret.2, touch_end_le _ _ _ _, hini,
      fun hc => nomatch hk.symm.trans hc⟩, fun d => ?_⟩
    have hf := hflow env.M d
    simp only [touch_modCoins, modCoins_debt, hk]
    simp only [ind_left_false hMb, ind_left_false hMi, ind_true_and] at hf
    rw [ind_sub]
    by_cases hi : a.bidder = a.initiator
    · rw [ind_left_false (hi ▸ hMi)] at hf; omega
    · rw [ind_M_refund hE fun hc => hblk hc hi] at hf; omega
  · obtain ⟨rfl, ⟨_, _, hmin, hmaxb⟩, hblk, hflow⟩ := bidCollateralFwd_spec h
    obtain ⟨hle, hwv⟩ := hcol hk
    have hamt : a.bid < amt := by
      have := incOf_pos a.bid p.incC; have := minBidCollateral_le hmin; omega
    have hret := fwdDebtReturn_bounds a amt hamt hdebt
    refine ⟨⟨hlot, Int.le_trans hbid (Int.le_of_lt hamt), Int.sub_nonneg_of_le hret.2,
      touch_end_le _ _ _ _, hini, fun _ => ⟨hmaxb, hwv⟩⟩, fun d => ?_⟩
    have hf := hflow env.M d
    simp only [touch_modCoins, modCoins_collateral, hk]
    simp only [ind_left_false hMb, ind_left_false hMi, ind_true_and, ind_M_refund hE hblk] at hf
    rw [ind_sub]
    omega
  · obtain ⟨_, _, _, hnn, rfl, hblk, parts, hsp, ⟨b1, hpay⟩, hflow⟩ :=
      bidCollateralRev_spec env hE p now b b' a a' bidder denom amt h
    refine ⟨⟨hnn, hbid, hdebt, touch_end_le _ _ _ _, hini, fun _ => hcol hk⟩, fun d => ?_⟩
    have hf := hflow env.M d
    simp only [touch_modCoins, modCoins_collateral, hk]
    simp only [ind_left_false hMb, ind_true_and, payAll_credit_blocked hpay hE,
      ind_zero, paid_split (hcol hk).2 hsp] at hf
    rw [ind_sub, ind_M_refund hE hblk] at hf
    omega

theorem placeBid_inv (hE : EnvOk env) (hI : Inv env s) (hbM : bidder ≠ env.M)
    (h : placeBid env p now s id bidder denom amt = .ok s') : Inv env s' := by
  obtain ⟨hwf, hcu, hix⟩ := hI
  obtain ⟨a, a', b, hex, _, hb, rfl⟩ := placeBid_spec h
  obtain ⟨haid, hlt, hawf⟩ := hwf id a hex
  obtain ⟨hawf', hdelta⟩ := bidDispatch_inv hE hawf hbM hb
  have hkey : a'.id = id := (bidDispatch_id hE hb).trans haid
  refine ⟨fun i x hx => ?_, fun d => ?_, setAuction_index _ _ (fun ex hx => ?_) hix⟩
  · rw [setAuction_auc] at hx
    unfold updA at hx
    split at hx
    · next hi => cases hx; exact ⟨hi.symm, hi ▸ hkey ▸ hlt, hawf'⟩
    · exact hwf i x hx
  · rw [setAuction_bal, totalCoins_set _ _ (hkey ▸ hlt)]
    show b env.M d = totalCoins s d - modCoinsO (s.auc a'.id) d + modCoins a' d
    rw [hkey, hex, hdelta d, hcu d]
    show _ = _ - modCoins a d + _; omega
  · rw [hkey] at hx ⊢; exact (hwf id ex hx).1

theorem newAuction_inv (b : Bal) (a : Auction) (hI : Inv env s) (ha : AWF env a)
    (hb : ∀ d, b env.M d = s.bal env.M d + modCoins a d) : Inv env (storeNew { s with bal := b } a) := by
  obtain ⟨hwf, hcu, hix⟩ := hI
  have hnone : s.auc s.nextId = none := by
    cases h : s.auc s.nextId with
    | none => rfl
    | some x => exact absurd (hwf _ _ h).2.1 (Nat.lt_irrefl _)
  refine ⟨fun i x hx => ?_, fun d => ?_, setAuction_index { s with bal := b } _ (fun ex hex => ?_) hix⟩
  · change (if i = s.nextId then _ else s.auc i) = some x at hx
    split at hx
    · next hi => cases hx; exact ⟨hi.symm, hi ▸ Nat.lt_succ_self _, ha⟩
    · exact ⟨(hwf i x hx).1, Nat.lt_succ_of_lt (hwf i x hx).2.1, (hwf i x hx).2.2⟩
  · rw [totalCoins_storeNew]
    show b env.M d = totalCoins s d + modCoins a d
    rw [hb d, hcu d]
  · rw [show s.auc s.nextId = none from hnone] at hex; cases hex

theorem send_to_M {M x : Addr} {dD : Denom} {n : Int} (hx : x ≠ M) (h : send b x M dD n = some b') (d : Denom) :
    b' M d = b M d + ind (dD = d) n := by
  rw [send_eff h, ind_left_false fun h => hx h.symm, ind_self_and]; omega

theorem startSurplus_inv (hI : Inv env s) (hs : seller ≠ env.M)
    (h : startSurplus env s seller lotD lot bidD = .ok s') : Inv env s' := by
  obtain ⟨hl, b, h1, rfl⟩ := startSurplus_spec h
  refine newAuction_inv b _ hI ⟨hl, Int.le_refl _, Int.le_refl _, Int.le_refl _, hs, fun hc => by cases hc⟩
    fun d => ?_
  rw [send_to_M hs h1, modCoins_surplus _ _ rfl]; rfl

theorem startDebt_inv (hI : Inv env s) (hs : buyer ≠ env.M) (hbid : 0 ≤ bid) (hlot : 0 ≤ lot)
    (h : startDebt env s buyer bidD bid lotD lot debtD debt = .ok s') : Inv env s' := by
  obtain ⟨hl, b, h1, rfl⟩ := startDebt_spec h
  refine newAuction_inv b _ hI ⟨hlot, hbid, hl, Int.le_refl _, hs, fun hc => by cases hc⟩ fun d => ?_
  rw [send_to_M hs h1, modCoins_debt _ _ rfl]; rfl

theorem startCollateral_inv (hI : Inv env s) (hs : seller ≠ env.M) (hmb : 0 ≤ maxBid)
    (h : startCollateral env s seller lotD lot bidD maxBid addrs ws debtD debt = .ok s') : Inv env s' := by
  obtain ⟨hw, hl, hd, b1, b2, h1, h2, rfl⟩ := startCollateral_spec h
  refine newAuction_inv b2 _ hI ⟨hl, Int.le_refl _, hd, Int.le_refl _, hs, fun _ => ⟨hmb, hw⟩⟩ fun d => ?_
  rw [send_to_M hs h2, send_to_M hs h1, modCoins_collateral _ _ rfl]
  exact Int.add_assoc _ _ _

/-- the tail shared by the debt and collateral payouts: the remaining corresponding debt goes back
    to the initiator -/
theorem debtBack_eff {b1 : Bal} {M i : Addr} {dD : Denom} {n : Int} (hn : 0 ≤ n)
    (h : (if ¬ (0 < n) then some (some b1) else some (send b1 M i dD n)) = some (some b')) (z : Addr) (e : Denom) :
    b' z e = b1 z e - ind (z = M ∧ e = dD) n + ind (z = i ∧ e = dD) n := by
  split at h
  · cases h; rw [show n = 0 by omega, ind_zero, ind_zero]; omega
  · exact send_eff (Option.some.inj h) z e

theorem payout_spec (hd : 0 ≤ a.debt) (h : payout env b a = some (some b')) :
    env.blocked a.bidder = false ∧ (a.kind = .debt → env.minter a.initiator = true) ∧
    ∀ z e, b' z e = b z e
      - ind (z = env.M ∧ e = a.lotD) (if a.kind = .debt then 0 else a.lot)
      + ind (z = a.bidder ∧ e = a.lotD) a.lot
      - ind (z = env.M ∧ e = a.debtD) (if a.kind = .surplus then 0 else a.debt)
      + ind (z = a.initiator ∧ e = a.debtD) (if a.kind = .surplus then 0 else a.debt) := by
  unfold payout at h
  cases hk : a.kind with
  | surplus =>
    rw [hk] at h
    obtain ⟨hb, e1⟩ := sendM2A_eff (Option.some.inj h)
    refine ⟨hb, (fun hc => by cases hc), fun z e => ?_⟩
    simp only [ite_true, ite_false, reduceCtorEq, ind_zero, Int.sub_zero, Int.add_zero]
    exact e1 z e
  | debt =>
    rw [hk] at h
    obtain ⟨hm, h⟩ := of_guard h nofun
    obtain ⟨b2, h1, h⟩ := of_bank h nofun
    obtain ⟨hb, e1⟩ := sendM2A_eff h1
    refine ⟨hb, fun _ => Decidable.not_not.mp hm, fun z e => ?_⟩
    simp only [ite_true, ite_false, reduceCtorEq, ind_zero, Int.sub_zero]
    rw [debtBack_eff hd h, e1, mint_eff, Int.add_sub_cancel]
  | collateral =>
    rw [hk] at h
    obtain ⟨b1, h1, h⟩ := of_bank h nofun
    obtain ⟨hb, e1⟩ := sendM2A_eff h1
    refine ⟨hb, (fun hc => by cases hc), fun z e => ?_⟩
    simp only [ite_false, reduceCtorEq]
    rw [debtBack_eff hd h, e1]

theorem payout_custody (hE : EnvOk env) (hA : AWF env a) (h : payout env b a = some (some b')) (d : Denom) :
    b' env.M d = b env.M d - modCoins a d := by
  obtain ⟨hb, _, hf⟩ := payout_spec hA.debt_nonneg h
  have hMi : ¬ (env.M = a.initiator) := fun h => hA.initiator_ne h.symm
  have hMo : ¬ (env.M = a.bidder) := Ne.symm (hE.ne_M hb)
  have := hf env.M d
  rw [ind_left_false hMi, ind_left_false hMo, ind_self_and, ind_self_and] at this
  rw [modCoins_eq]; omega

theorem closeAuction_inv (hE : EnvOk env) (hI : Inv env s) (h : closeAuction env now s id = .ok s') :
    Inv env s' := by
  obtain ⟨hwf, hcu, hix⟩ := hI
  obtain ⟨a, b, hex, _, hp, rfl⟩ := closeAuction_spec h
  obtain ⟨haid, hlt, hawf⟩ := hwf id a hex
  refine ⟨fun i x hx => ?_, fun d => ?_, deleteAuction_index _ _ hix⟩
  · rw [deleteAuction_auc] at hx
    unfold updA at hx
    split at hx
    · cases hx
    · exact hwf i x hx
  · rw [deleteAuction_bal, totalCoins_delete { s with bal := b } id hlt]
    show b env.M d = totalCoins s d - modCoinsO (s.auc id) d
    rw [hex, payout_custody hE hawf hp d, hcu d]
    rfl

theorem closeAll_inv (hE : EnvOk env) {ids : List Nat} (hI : Inv env s)
    (h : closeAll env now s ids = .ok s') : Inv env s' := by
  fun_induction closeAll env now s ids
  · cases h; exact hI
  · next hc ih => exact ih (closeAuction_inv hE hI hc) h
  · next ih => exact ih hI h
  · cases h
  · cases h

theorem beginBlock_inv (hE : EnvOk env) (hI : Inv env s) (h : beginBlock env now s = .ok s') : Inv env s' :=
  closeAll_inv hE hI (beginBlock_spec h)

end

/-- side conditions on an operation that the keeper does not check itself but every caller meets:
    the auction module account is never a seller or a bidder (it cannot sign and no module starts an
    auction in its name), and the starting bid / lot / max bid handed in by cdp and hard are not negative -/
def OpOk (env : Env) : Op → Prop
  | .startSurplus seller _ _ _ => seller ≠ env.M
  | .startDebt buyer _ bid _ lot _ _ => buyer ≠ env.M ∧ 0 ≤ bid ∧ 0 ≤ lot
  | .startCollateral seller _ _ _ maxBid _ _ _ _ => seller ≠ env.M ∧ 0 ≤ maxBid
  | .placeBid _ bidder _ _ => bidder ≠ env.M
  | _ => True

theorem step_inv {env : Env} (hE : EnvOk env) {p : Params} {now : Int} {s s' : St} {op : Op}
    (hI : Inv env s) (hop : OpOk env op) (h : step env p now s op = .ok s') : Inv env s' := by
  cases op with
  | startSurplus seller lotD lot bidD => exact startSurplus_inv hI hop h
  | startDebt buyer bidD bid lotD lot debtD debt => exact startDebt_inv hI hop.1 hop.2.1 hop.2.2 h
  | startCollateral seller lotD lot bidD maxBid addrs ws debtD debt =>
    exact startCollateral_inv hI hop.1 hop.2 h
  | placeBid id bidder denom amt => exact placeBid_inv hE hI hop h
  | close id => exact closeAuction_inv hE hI h
  | beginBlock => exact beginBlock_inv hE hI h
  | xfer frm to d n =>
    obtain ⟨h1, h2, b, hb, rfl⟩ := xfer_spec h
    refine ⟨hI.1, fun d' => ?_, hI.2.2⟩
    have := send_eff hb env.M d'
    rw [ind_left_false fun hx => h1 hx.symm, ind_left_false fun hx => h2 hx.symm] at this
    show b env.M d' = totalCoins s d'
    rw [← hI.2.1 d']; omega

theorem runP_induct {env : Env} {P : St → Prop}
    (hstep : ∀ p now op s s', OpOk env op → P s → step env p now s op = .ok s' → P s')
    (ops : List (Params × Int × Op)) (s : St) (h0 : P s) (hops : ∀ x, x ∈ ops → OpOk env x.2.2) :
    P (runP env s ops) := by
  fun_induction runP env s ops
  · exact h0
  · next s p now op rest s1 hs ih =>
    exact ih (hstep p now op s s1 (hops _ List.mem_cons_self) h0 hs) fun y hy => hops y (List.mem_cons_of_mem _ hy)
  · next ih => exact ih h0 fun y hy => hops y (List.mem_cons_of_mem _ hy)

/-- the invariant over histories whose parameters change between operations -/
theorem runP_inv (env : Env) (hE : EnvOk env) (ops : List (Params × Int × Op)) (s : St) (hI : Inv env s)
    (hops : ∀ x, x ∈ ops → OpOk env x.2.2) : Inv env (runP env s ops) :=
  runP_induct (fun _ _ _ _ _ hop hI h => step_inv hE hI hop h) ops s hI hops

theorem run_eq_runP (env : Env) (p : Params) (s : St) (ops : List (Int × Op)) :
    run env p s ops = runP env s (ops.map fun x => (p, x.1, x.2)) := by
  induction ops generalizing s with
  | nil => rfl
  | cons x rest ih =>
    rw [run, List.map, runP]
    cases step env p x.1 s x.2 <;> exact ih _

theorem run_inv (env : Env) (hE : EnvOk env) (p : Params) (ops : List (Int × Op)) (s : St) (hI : Inv env s)
    (hops : ∀ x, x ∈ ops → OpOk env x.2) : Inv env (run env p s ops) := by
  rw [run_eq_runP]
  refine runP_inv env hE _ s hI fun x hx => ?_
  obtain ⟨y, hy, rfl⟩ := List.mem_map.mp hx
  exact hops y hy

/-- the empty module: no auction, nothing held -/
def emptySt (nextId : Nat) (bal : Bal) : St := { auc := fun _ => none, nextId := nextId, index := [], bal := bal }

theorem empty_inv (env : Env) (nextId : Nat) (bal : Bal) (h : ∀ d, bal env.M d = 0) :
    Inv env (emptySt nextId bal) :=
  ⟨(fun _ _ ha => nomatch ha), fun d => (h d).trans (sumTo_zero nextId).symm,
    List.Pairwise.nil, fun _ _ => ⟨(fun hm => nomatch hm), fun ⟨_, ha, _⟩ => nomatch ha⟩⟩

end KV.Auc
