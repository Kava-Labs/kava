/-
  Helper lemmas for C18, part 1: sorting, permutation invariance and the rank characterisation of
  `CalculateMedianPrice`.  Core Lean only (`List.Perm`, `List.Pairwise` are in core).
-/
import KavaVerif.Model.Pricefeed
set_option linter.unusedSimpArgs false
set_option linter.unusedVariables false
namespace KV.PF
open List

def Sorted (l : List Int) : Prop := l.Pairwise (· ≤ ·)

theorem ins_perm (x : Int) (l : List Int) : ins x l ~ x :: l := by
  fun_induction ins x l with
  | case1 | case2 => exact Perm.refl _
  | case3 y t _ ih => exact (Perm.cons y ih).trans (Perm.swap x y t)

theorem isort_perm (l : List Int) : isort l ~ l := by
  induction l with
  | nil => exact Perm.refl _
  | cons x t ih =>
    unfold isort
    exact (ins_perm x (isort t)).trans (Perm.cons x ih)

theorem ins_sorted (x : Int) (l : List Int) (h : Sorted l) : Sorted (ins x l) := by
  fun_induction ins x l with
  | case1 => exact pairwise_singleton _ _
  | case2 y t hxy =>
    refine pairwise_cons.2 ⟨fun a ha => ?_, h⟩
    rcases mem_cons.1 ha with rfl | ha
    · exact hxy
    · exact Int.le_trans hxy (rel_of_pairwise_cons h ha)
  | case3 y t hxy ih =>
    refine pairwise_cons.2 ⟨fun a ha => ?_, ih (Pairwise.tail h)⟩
    rcases mem_cons.1 ((ins_perm x t).subset ha) with rfl | ha'
    · omega
    · exact rel_of_pairwise_cons h ha'

theorem isort_sorted (l : List Int) : Sorted (isort l) := by
  induction l with
  | nil => exact Pairwise.nil
  | cons x t ih => unfold isort; exact ins_sorted x _ ih

theorem isort_of_sorted {s l : List Int} (hs : Sorted s) (h : s ~ l) : isort l = s :=
  Perm.eq_of_pairwise (le := (· ≤ ·)) (fun a b _ _ h1 h2 => Int.le_antisymm h1 h2) (isort_sorted l) hs
    ((isort_perm l).trans h.symm)

theorem isort_eq_of_perm {l1 l2 : List Int} (h : l1 ~ l2) : isort l1 = isort l2 :=
  isort_of_sorted (isort_sorted l2) ((isort_perm l2).trans h.symm)

theorem isort_length (l : List Int) : (isort l).length = l.length := (isort_perm l).length_eq

/-- `median` in terms of the sorted input: the form `C18_median_is_middle` and `specMedian` have
    (the length-1 shortcut of the code agrees with it) -/
theorem median_eq (l : List Int) : median l =
    if l.length % 2 = 0 then mean ((isort l).getD (l.length / 2 - 1) 0) ((isort l).getD (l.length / 2) 0)
    else (isort l).getD (l.length / 2) 0 := by
  unfold median
  by_cases h1 : l.length = 1
  · rw [if_pos h1, h1, if_neg (by decide)]
    match l, h1 with
    | [a], _ => rfl
  · exact if_neg h1

theorem getD_mem {s : List Int} {k : Nat} {d : Int} (hk : k < s.length) : s.getD k d ∈ s := by
  rw [getD_eq_getElem?_getD, getElem?_eq_getElem hk]; exact getElem_mem hk

theorem getD_isort_mem {l : List Int} {k : Nat} (hk : k < l.length) : (isort l).getD k 0 ∈ l :=
  (isort_perm l).subset (getD_mem (by rw [isort_length]; exact hk))

theorem isKth_iff {l : List Int} {k : Nat} {x : Int} : isKth l k x = true ↔
    l.countP (fun y => decide (y < x)) ≤ k ∧ l.countP (fun y => decide (x < y)) + k + 1 ≤ l.length := by
  unfold isKth; simp only [Bool.and_eq_true, decide_eq_true_eq]

theorem isKth_sorted {s : List Int} (hs : Sorted s) {k : Nat} (hk : k < s.length) :
    isKth s k (s.getD k 0) = true := by
  induction s generalizing k with
  | nil => exact absurd hk (Nat.not_lt_zero _)
  | cons y t ih =>
    have hy : ∀ a, a ∈ t → y ≤ a := fun a ha => rel_of_pairwise_cons hs ha
    have dn : ∀ {a b : Int}, ¬ a < b → ¬ decide (a < b) = true := fun h => by rwa [decide_eq_true_eq]
    rw [isKth_iff]
    cases k with
    | zero =>
      have h1 : t.countP (fun a => decide (a < y)) = 0 :=
        countP_eq_zero.2 fun a ha => dn (Int.not_lt.2 (hy a ha))
      rw [getD_cons_zero, countP_cons, countP_cons, if_neg (dn (Int.lt_irrefl y)), h1]
      exact ⟨Nat.le_refl 0, Nat.succ_le_succ countP_le_length⟩
    | succ k =>
      have hk' : k < t.length := Nat.lt_of_succ_lt_succ hk
      obtain ⟨h1, h2⟩ := isKth_iff.1 (ih hs.of_cons hk')
      rw [getD_cons_succ, countP_cons, countP_cons, if_neg (dn (Int.not_lt.2 (hy _ (getD_mem hk')))),
        length_cons]
      constructor
      · split <;> omega
      · omega

/-- two elements of rank `k` are equal; no sorting is needed: the at least `k + 1` elements `≤ x` are all
    below any `x' > x`, which then has more than `k` elements below it -/
theorem isKth_not_lt {l : List Int} {k : Nat} {x x' : Int} (h : isKth l k x = true)
    (h' : isKth l k x' = true) : ¬ x < x' := by
  intro hlt
  rw [isKth_iff] at h h'
  have h1 := length_eq_countP_add_countP (fun y => decide (x < y)) (l := l)
  have h2 : l.countP (fun y => decide ¬ decide (x < y) = true) ≤ l.countP (fun y => decide (y < x')) :=
    countP_mono_left fun y _ hy => by simp only [decide_eq_true_eq] at hy ⊢; omega
  omega

theorem isKth_perm {l1 l2 : List Int} (h : l1 ~ l2) (k : Nat) (x : Int) :
    isKth l1 k x = isKth l2 k x := by
  unfold isKth
  rw [h.countP_eq, h.countP_eq, h.length_eq]

theorem isKth_isort {l : List Int} {k : Nat} (hk : k < l.length) :
    isKth l k ((isort l).getD k 0) = true := by
  rw [← isKth_perm (isort_perm l)]
  exact isKth_sorted (isort_sorted l) (by rw [isort_length]; exact hk)

theorem kth_eq {l : List Int} {k : Nat} (hk : k < l.length) : kth l k = (isort l).getD k 0 := by
  have hv := isKth_isort hk
  have hm := getD_isort_mem hk
  unfold kth
  cases hf : l.find? (isKth l k) with
  | none => exact absurd hv (find?_eq_none.1 hf _ hm)
  | some x =>
    have hx := find?_some hf
    have := isKth_not_lt hx hv
    have := isKth_not_lt hv hx
    simp only [Option.getD_some]; omega

end KV.PF
