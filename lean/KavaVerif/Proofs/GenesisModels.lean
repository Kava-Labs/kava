/-
  Helper lemmas for C14 (genesis round trips of the simple modules). Core Lean only.
-/
import KavaVerif.Model.GenesisModels
set_option linter.unusedSimpArgs false
set_option linter.unusedVariables false

namespace KV.Gx
open List

theorem set_append_of_lt {V : Type} (acc : List (Nat × V)) (k : Nat) (v : V)
    (h : ∀ x ∈ acc, x.1 < k) : set acc k v = acc ++ [(k, v)] := by
  induction acc with
  | nil => rfl
  | cons a r ih =>
    have hk : a.1 < k := h a List.mem_cons_self
    rw [set, if_neg (by omega), if_neg (by omega), ih fun x hx => h x (List.mem_cons_of_mem _ hx)]; rfl

theorem foldl_set_sorted {V : Type} (l acc : List (Nat × V)) (h : Sorted (acc ++ l)) :
    l.foldl (fun st kv => set st kv.1 kv.2) acc = acc ++ l := by
  induction l generalizing acc with
  | nil => simp
  | cons x xs ih =>
    have hlt : ∀ y ∈ acc, y.1 < x.1 := fun y hy => (List.pairwise_append.mp h).2.2 y hy x List.mem_cons_self
    rw [List.foldl_cons, set_append_of_lt acc x.1 x.2 hlt, ih _ (by simpa using h)]; simp

theorem fromList_sorted {V : Type} (l : List (Nat × V)) (h : Sorted l) : fromList l = l :=
  foldl_set_sorted l [] h

theorem noDup_iff (l : List Nat) : noDup l = true ↔ l.Nodup := by
  induction l with
  | nil => simp [noDup]
  | cons x xs ih => simp [noDup, ih]

theorem noDup_of_sorted {V : Type} {l : List (Nat × V)} (h : Sorted l) : noDup (keys l) = true := by
  rw [noDup_iff]
  unfold keys Sorted at *
  rw [List.nodup_iff_pairwise_ne, List.pairwise_map]
  exact h.imp (fun hab => by omega)

/-- The `InitGenesis` models that validate first are `if !validate g then none else rest`: a round trip is
    "validation accepts the export" and "the rest rebuilds the state". -/
theorem init_roundtrip {S : Type} {v : Bool} {rest : Option S} {s : S} (hv : v = true) (hr : rest = some s) :
    v = true ∧ (if !v then none else rest) = some s := by
  subst hv hr; exact ⟨rfl, rfl⟩

end KV.Gx
