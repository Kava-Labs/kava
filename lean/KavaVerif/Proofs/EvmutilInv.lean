/-
  Lemmas for C10, part 2: the backing invariant and its preservation by every operation. The registry
  and cosmos-backing fields only read the registry, the deployment counter, the module account's bank
  balances and the totals of module-deployed contracts: an operation that leaves these alone keeps them
  (`inv_frame`); the two cosmos conversions move one denom's module balance and its contract's total by
  the same amount (`inv_cosmos_shift`). Core Lean only.
-/
import KavaVerif.Proofs.Evmutil

namespace KV.EU

/-- The pair universe is a partial bijection: a denom is paired with at most one contract and a
    contract with at most one denom. (Assumption on governance: a denom is never re-paired; enabled
    pairs are always drawn from `U`.) -/
def UWf (U : List Pair) : Prop :=
  ∀ p ∈ U, ∀ q ∈ U, (p.1 = q.1 → p = q) ∧ (p.2 = q.2 → p = q)

/-- The state invariant of C10. `U` = every pair governance ever enables (enabled or disabled now). -/
structure Inv (U : List Pair) (s : St) : Prop where
  bankNN : ∀ d a, 0 ≤ s.bank.bal d a
  ercNN : ∀ c a, 0 ≤ s.erc.bal c a
  regLt : ∀ d k, s.reg d = some k → k < s.nextC
  regInj : ∀ d1 d2 k, s.reg d1 = some k → s.reg d2 = some k → d1 = d2
  fresh : ∀ k, s.nextC ≤ k → s.erc.total (.dep k) = 0
  /-- every registered cosmos denom: ERC20 totalSupply = module bank balance -/
  cosmos : ∀ d k, s.reg d = some k → s.erc.total (.dep k) = s.bank.bal d M
  unreg : ∀ d, s.reg d = none → s.bank.bal d M = 0
  /-- every pair: sdk supply · scale ≤ ERC20 locked in the module's EVM account -/
  native : ∀ p ∈ U, s.bank.supply p.2 * scale p.2 ≤ s.erc.bal p.1 M
  sub : ∀ p ∈ s.pairs, p ∈ U

/-- What the environment cannot do: nobody holds a key for the module account / module EVM address,
    and governance only enables pairs of the universe. -/
def Admissible (U : List Pair) : Op → Prop
  | .coinToErc i _ _ _ => i ≠ M
  | .ercToCoin i _ _ _ => i ≠ M
  | .cosmosToErc i _ _ _ => i ≠ M
  | .cosmosFromErc i _ _ _ => i ≠ M
  | .transfer _ f _ _ => f ≠ M
  | .send _ f _ _ => f ≠ M
  | .extMint _ _ _ => True
  | .setPairs l => ∀ p ∈ l, p ∈ U
  | .setAllowed _ => True

theorem inv_init (U : List Pair) : Inv U init where
  bankNN := fun _ _ => Int.le_refl 0
  ercNN := fun _ _ => Int.le_refl 0
  regLt := fun _ _ h => by cases h
  regInj := fun _ _ _ h => by cases h
  fresh := fun _ _ => rfl
  cosmos := fun _ _ h => by cases h
  unreg := fun _ _ => rfl
  native := fun p _ => Int.le_of_eq (Int.zero_mul (scale p.2))
  sub := fun _ h => by cases h

theorem inv_frame {U : List Pair} {s s' : St} (hI : Inv U s) (hp : SameParams s s')
    (hM : ∀ d, s'.bank.bal d M = s.bank.bal d M) (ht : ∀ k, s'.erc.total (.dep k) = s.erc.total (.dep k))
    (hb : ∀ d a, 0 ≤ s'.bank.bal d a) (he : ∀ c a, 0 ≤ s'.erc.bal c a)
    (hnat : ∀ p ∈ U, s'.bank.supply p.2 * scale p.2 ≤ s'.erc.bal p.1 M) : Inv U s' where
  bankNN := hb
  ercNN := he
  regLt := by rw [hp.reg, hp.nextC]; exact hI.regLt
  regInj := by rw [hp.reg]; exact hI.regInj
  fresh := fun k hk => by rw [ht]; exact hI.fresh k (hp.nextC ▸ hk)
  cosmos := fun d k hk => by rw [ht, hM]; exact hI.cosmos d k (hp.reg ▸ hk)
  unreg := fun d hk => by rw [hM]; exact hI.unreg d (hp.reg ▸ hk)
  native := hnat
  sub := by rw [hp.pairs]; exact hI.sub

theorem inv_cosmos_shift {U : List Pair} {s s' : St} (hI : Inv U s) {d : Denom} {k : Nat} (hk : s.reg d = some k)
    {n : Int} (hp : SameParams s s')
    (hM : ∀ d', s'.bank.bal d' M = s.bank.bal d' M + (if d' = d then n else 0))
    (ht : ∀ c, s'.erc.total c = s.erc.total c + (if c = .dep k then n else 0))
    (hb : ∀ d a, 0 ≤ s'.bank.bal d a) (he : ∀ c a, 0 ≤ s'.erc.bal c a)
    (hnat : ∀ p ∈ U, s'.bank.supply p.2 * scale p.2 ≤ s'.erc.bal p.1 M) : Inv U s' where
  bankNN := hb
  ercNN := he
  regLt := by rw [hp.reg, hp.nextC]; exact hI.regLt
  regInj := by rw [hp.reg]; exact hI.regInj
  fresh := fun k' hk' => by
    rw [hp.nextC] at hk'
    have hlt := hI.regLt d k hk
    rw [ht, if_neg (fun e => by cases e; omega), Int.add_zero]
    exact hI.fresh k' hk'
  cosmos := fun d' k' hk' => by
    rw [hp.reg] at hk'
    rw [ht, hM, hI.cosmos d' k' hk']
    -- `dep k'` is the contract of `d` exactly when `d' = d`: the registry is injective
    by_cases hd : d' = d
    · obtain rfl : k = k' := Option.some.inj (hk.symm.trans (hd ▸ hk'))
      rw [if_pos rfl, if_pos hd]
    · rw [if_neg hd, if_neg (fun (e : Contract.dep k' = .dep k) => hd (hI.regInj d' d k' hk' (Contract.dep.inj e ▸ hk)))]
  unreg := fun d' hk' => by
    rw [hp.reg] at hk'
    rw [hM, if_neg (fun e => by rw [e, hk] at hk'; cases hk'), Int.add_zero]
    exact hI.unreg d' hk'
  native := hnat
  sub := by rw [hp.pairs]; exact hI.sub

/-- deploying the contract for a denom that has none keeps the invariant: the new contract is empty and
    so is the module account's balance of the denom -/
theorem inv_register {U : List Pair} {s : St} {d : Denom} (hI : Inv U s) (hk : s.reg d = none) :
    Inv U (register s d) :=
  { hI with
    regLt := fun d' k' h' => by
      rcases register_reg_some h' with ⟨_, rfl⟩ | h'
      · exact Nat.lt_succ_self _
      · exact Nat.lt_succ_of_lt (hI.regLt d' k' h')
    regInj := fun d1 d2 k' h1 h2 => by
      -- an old entry lies below the counter, so it is not the new one
      replace h1 := register_reg_some h1
      replace h2 := register_reg_some h2
      rcases h1 with ⟨e1, rfl⟩ | h1 <;> rcases h2 with ⟨e2, e⟩ | h2
      · rw [e1, e2]
      · exact absurd (hI.regLt d2 _ h2) (Nat.lt_irrefl _)
      · exact absurd e (Nat.ne_of_lt (hI.regLt d1 _ h1))
      · exact hI.regInj d1 d2 k' h1 h2
    fresh := fun k' hk' => hI.fresh k' (Nat.le_of_succ_le hk')
    cosmos := fun d' k' h' => by
      show s.erc.total (.dep k') = s.bank.bal d' M
      rcases register_reg_some h' with ⟨rfl, rfl⟩ | h'
      · rw [hI.fresh s.nextC (Nat.le_refl _), hI.unreg d' hk]
      · exact hI.cosmos d' k' h'
    unreg := fun d' h' => by
      rw [register_reg] at h'
      split at h'
      · cases h'
      · exact hI.unreg d' h' }

theorem uwf_eq_or_ne {U : List Pair} (hU : UWf U) {p : Pair} (hp : p ∈ U) {c : Contract} {d : Denom}
    (hcd : (c, d) ∈ U) : (p.1 = c ∧ p.2 = d) ∨ (p.1 ≠ c ∧ p.2 ≠ d) := by
  by_cases hpd : p.2 = d
  · exact .inl ⟨congrArg Prod.fst ((hU p hp _ hcd).2 hpd), hpd⟩
  · exact .inr ⟨fun e => hpd (congrArg Prod.snd ((hU p hp _ hcd).1 e)), hpd⟩

/-- issuing `n` sdk units of pair `(c, d)` against `n·scale d` more ERC20 locked (`n < 0`: burning against
    releasing) touches the backing of no other pair: none shares the denom or the contract -/
theorem native_shift {U : List Pair} (hU : UWf U) {c : Contract} {d : Denom} (hcd : (c, d) ∈ U) {n : Int}
    {s s' : St} (hnat : ∀ p ∈ U, s.bank.supply p.2 * scale p.2 ≤ s.erc.bal p.1 M)
    (hs : ∀ d', s'.bank.supply d' = s.bank.supply d' + (if d' = d then n else 0))
    (hM : ∀ c', s'.erc.bal c' M = s.erc.bal c' M + (if c' = c then n * scale d else 0)) :
    ∀ p ∈ U, s'.bank.supply p.2 * scale p.2 ≤ s'.erc.bal p.1 M := by
  intro p hp
  have := hnat p hp
  rw [hs, hM]
  rcases uwf_eq_or_ne hU hp hcd with ⟨hpc, hpd⟩ | ⟨hpc, hpd⟩
  · rw [if_pos hpd, if_pos hpc, Int.add_mul, ← hpd]; exact Int.add_le_add_right this _
  · rw [if_neg hpd, if_neg hpc, Int.add_zero, Int.add_zero]; exact this

theorem inv_coinToErc {U : List Pair} (hU : UWf U) {s s' : St} {ini rcv : Addr} {d : Denom} {amt : Int}
    (hini : ini ≠ M) (hI : Inv U s) (h : coinToErc s ini rcv d amt = .ok s') : Inv U s' := by
  obtain ⟨c, h⟩ := coinToErc_spec h
  have hv : 0 ≤ amt * scale d := Int.le_of_lt (Int.mul_pos h.pos (scale_pos d))
  refine inv_frame hI h.toSameParams (fun d' => ?_) (fun k => by rw [h.total])
    (nonneg_add_ite hI.bankNN h.bal (Int.sub_nonneg_of_le h.funds)) (nonneg_transfer hI.ercNN h.erc hv h.locked)
    (native_shift hU (hI.sub _ (findByDenom_some h.pair).2) hI.native h.supply fun c' => ?_)
  · rw [h.bal, if_neg (fun e => hini e.2.symm), Int.add_zero]
  · rw [h.erc, ite_and_self, if_neg (c := c' = c ∧ M = rcv) (fun e => h.rcvM e.2.symm), Int.add_zero, Int.neg_mul]

theorem inv_ercToCoin {U : List Pair} (hU : UWf U) {blocked : Addr → Bool} (hB : blocked M = true)
    {s s' : St} {ini rcv : Addr} {c : Contract} {amt : Int}
    (hI : Inv U s) (h : ercToCoin blocked s ini rcv c amt = .ok s') : Inv U s' := by
  obtain ⟨d, m, h⟩ := ercToCoin_spec h
  have hv : 0 ≤ m * scale d := Int.le_of_lt (Int.mul_pos h.mpos (scale_pos d))
  refine inv_frame hI h.toSameParams (fun d' => ?_) (fun k => by rw [h.total])
    (nonneg_add_ite hI.bankNN h.bal (Int.add_nonneg (hI.bankNN d rcv) (Int.le_of_lt h.mpos)))
    (nonneg_transfer hI.ercNN h.erc hv h.funds)
    (native_shift hU (hI.sub _ (findByContract_some h.pair).2) hI.native h.supply fun c' => ?_)
  · rw [h.bal, if_neg (fun e => ne_of_blocked h.unblocked hB e.2.symm), Int.add_zero]
  · rw [h.erc, if_neg (fun e => h.iniM e.2.symm), Int.add_zero, ite_and_self]

theorem inv_cosmosToErc {U : List Pair} {s s' : St} {ini rcv : Addr} {d : Denom} {amt : Int}
    (hini : ini ≠ M) (hI : Inv U s) (h : cosmosToErc s ini rcv d amt = .ok s') : Inv U s' := by
  -- enough to convert a registered denom: otherwise register it first
  have reg : ∀ {s : St} {k : Nat}, Inv U s → s.reg d = some k → cosmosToErc s ini rcv d amt = .ok s' → Inv U s' := by
    intro s k hI hk h
    obtain ⟨h, hp⟩ := cosmosToErc_spec_reg hk h
    have hpos := Int.le_of_lt h.pos
    refine inv_cosmos_shift hI hk hp (fun d' => ?_) h.total (nonneg_transfer hI.bankNN h.bal hpos h.funds)
      (nonneg_add_ite hI.ercNN h.erc (Int.add_nonneg (hI.ercNN _ rcv) hpos)) (fun p hpU => ?_)
    · rw [h.bal, if_neg (fun e => hini e.2.symm), Int.add_zero, ite_and_self]
    · rw [h.supply, h.erc]; exact le_add_ite (hI.native p hpU) hpos
  cases hk : s.reg d with
  | some k => exact reg hI hk h
  | none => exact reg (inv_register hI hk) (register_self s d) (cosmosToErc_register hk ▸ h)

theorem inv_cosmosFromErc {U : List Pair} {blocked : Addr → Bool} (hB : blocked M = true)
    {s s' : St} {ini rcv : Addr} {d : Denom} {amt : Int}
    (hini : ini ≠ M) (hI : Inv U s) (h : cosmosFromErc blocked s ini rcv d amt = .ok s') : Inv U s' := by
  obtain ⟨k, h⟩ := cosmosFromErc_spec h
  refine inv_cosmos_shift hI h.registered h.toSameParams (fun d' => ?_) h.total
    (nonneg_transfer hI.bankNN h.bal (Int.le_of_lt h.pos) h.held)
    (nonneg_add_ite hI.ercNN h.erc (Int.sub_nonneg_of_le h.funds)) (fun p hpU => ?_)
  · rw [h.bal, ite_and_self, if_neg (c := d' = d ∧ M = rcv) (fun e => ne_of_blocked h.unblocked hB e.2.symm),
      Int.add_zero]
  · rw [h.supply, h.erc, if_neg (fun e => hini e.2.symm), Int.add_zero]; exact hI.native p hpU

theorem inv_envTransfer {U : List Pair} {s s' : St} {c : Contract} {f t : Addr} {amt : Int}
    (hf : f ≠ M) (hI : Inv U s) (h : envTransfer s c f t amt = .ok s') : Inv U s' := by
  replace h := envTransfer_spec h
  refine inv_frame hI h.toSameParams (fun d => by rw [h.bank]) (fun k => by rw [h.total])
    (fun d a => by rw [h.bank]; exact hI.bankNN d a) (nonneg_transfer hI.ercNN h.erc h.nonneg h.funds) (fun p hpU => ?_)
  rw [h.bank, h.erc, if_neg (fun e => hf e.2.symm), Int.add_zero]; exact le_add_ite (hI.native p hpU) h.nonneg

theorem inv_envSend {U : List Pair} {blocked : Addr → Bool} (hB : blocked M = true)
    {s s' : St} {d : Denom} {f t : Addr} {amt : Int}
    (hf : f ≠ M) (hI : Inv U s) (h : envSend blocked s d f t amt = .ok s') : Inv U s' := by
  replace h := envSend_spec h
  refine inv_frame hI h.toSameParams (fun d' => ?_) (fun k => by rw [h.erc])
    (nonneg_transfer hI.bankNN h.bal (Int.le_of_lt h.pos) h.funds)
    (fun c a => by rw [h.erc]; exact hI.ercNN c a) (fun p hpU => by rw [h.supply, h.erc]; exact hI.native p hpU)
  rw [h.bal, if_neg (fun e => hf e.2.symm), if_neg (fun e => ne_of_blocked h.unblocked hB e.2.symm), Int.add_zero,
    Int.add_zero]

theorem inv_extMint {U : List Pair} {s s' : St} {c : Contract} {t : Addr} {amt : Int}
    (hI : Inv U s) (h : extMint s c t amt = .ok s') : Inv U s' := by
  replace h := extMint_spec h
  obtain ⟨n, rfl⟩ := h.ext
  refine inv_frame hI h.toSameParams (fun d => by rw [h.bank]) (fun k => ?_)
    (fun d a => by rw [h.bank]; exact hI.bankNN d a) (nonneg_add_ite hI.ercNN h.erc (Int.add_nonneg (hI.ercNN _ t) h.nonneg))
    (fun p hpU => ?_)
  · rw [h.total, if_neg (fun e => by cases e), Int.add_zero]
  · rw [h.bank, h.erc]; exact le_add_ite (hI.native p hpU) h.nonneg

/-- only successful steps need looking at: a failed operation leaves the state as it was -/
theorem run_induction {blocked : Addr → Bool} {P : St → Prop} {Q : Op → Prop}
    (hstep : ∀ {s s' : St} {op : Op}, Q op → P s → step blocked s op = .ok s' → P s') {ops : List Op} {s : St}
    (hQ : ∀ op ∈ ops, Q op) (hP : P s) : P (run blocked s ops) := by
  induction ops generalizing s with
  | nil => exact hP
  | cons op ops ih =>
    refine ih (s := apply blocked s op) (fun o ho => hQ o (List.mem_cons_of_mem _ ho)) ?_
    fun_cases apply blocked s op
    · exact hstep (hQ op List.mem_cons_self) hP ‹_›
    · exact hP

theorem inv_step {U : List Pair} (hU : UWf U) {blocked : Addr → Bool} (hB : blocked M = true)
    {s s' : St} {op : Op} (hadm : Admissible U op) (hI : Inv U s) (h : step blocked s op = .ok s') :
    Inv U s' := by
  cases op with
  | coinToErc i r d a => exact inv_coinToErc hU hadm hI h
  | ercToCoin i r c a => exact inv_ercToCoin hU hB hI h
  | cosmosToErc i r d a => exact inv_cosmosToErc hadm hI h
  | cosmosFromErc i r d a => exact inv_cosmosFromErc hB hadm hI h
  | transfer c f t a => exact inv_envTransfer hadm hI h
  | send d f t a => exact inv_envSend hB hadm hI h
  | extMint c t a => exact inv_extMint hI h
  | setPairs l => cases h; exact { hI with sub := hadm }
  | setAllowed l => cases h; exact { hI with }

theorem inv_run {U : List Pair} (hU : UWf U) {blocked : Addr → Bool} (hB : blocked M = true)
    {ops : List Op} {s : St} (hadm : ∀ op ∈ ops, Admissible U op) (hI : Inv U s) : Inv U (run blocked s ops) :=
  run_induction (inv_step hU hB) hadm hI

end KV.EU
