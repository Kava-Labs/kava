/-
  Lemmas for C10 (x/evmutil conversions), part 1: what the bank / ERC20 ledger primitives do, and per
  operation one inversion lemma `*_spec` into a structure `*Ok`: the guards a successful call passed and how
  the state after it differs from the state before. Differences are written pointwise, as sums of point
  masses `if x = a ∧ y = b then δ else 0` with signed `δ`, and read by `mass_read*`. Core Lean only.
-/
import KavaVerif.Model.Evmutil
namespace KV.EU

theorem F_pos : (0:Int) < F := by decide

theorem scale_cases (d : Denom) : (isBep3 d = true ∧ scale d = F) ∨ (isBep3 d = false ∧ scale d = 1) := by
  unfold scale; cases h : isBep3 d <;> simp

theorem scale_pos (d : Denom) : 0 < scale d := by
  rcases scale_cases d with ⟨_, h⟩ | ⟨_, h⟩ <;> rw [h] <;> decide

/-- the bep3 amounts of conversion_evm_native_bep3.go, uniformly via `scale` -/
theorem bep3_amounts (d : Denom) (amt : Int) :
    (if isBep3 d = true then amt * F else amt) = amt * scale d ∧
    (if isBep3 d = true then amt / F else amt) = amt / scale d ∧
    (if isBep3 d = true then amt / F * F else amt) = amt / scale d * scale d ∧
    (¬ (isBep3 d = true ∧ amt / F = 0) → 0 < amt → 0 < amt / scale d) := by
  rcases scale_cases d with ⟨h1, h2⟩ | ⟨h1, h2⟩
  · rw [h2, if_pos h1, if_pos h1, if_pos h1]
    exact ⟨rfl, rfl, rfl, fun hd hpos =>
      Int.lt_iff_le_and_ne.mpr ⟨Int.ediv_nonneg (Int.le_of_lt hpos) (Int.le_of_lt F_pos), fun e => hd ⟨h1, e.symm⟩⟩⟩
  · have h1' : ¬ isBep3 d = true := by rw [h1]; decide
    rw [h2, if_neg h1', if_neg h1', if_neg h1', Int.ediv_one, Int.mul_one]
    exact ⟨rfl, rfl, rfl, fun _ hpos => hpos⟩

theorem upd2_at {α β : Type} [DecidableEq α] [DecidableEq β] (f : α → β → Int) (a : α) (b : β) (v : Int) (x : α) (y : β) :
    upd2 f a b v x y = if x = a ∧ y = b then v else f x y := rfl

theorem upd_at {α : Type} [DecidableEq α] {β : Type} (f : α → β) (a : α) (v : β) (x : α) :
    upd f a v x = if x = a then v else f x := rfl

theorem upd2_add {α β : Type} [DecidableEq α] [DecidableEq β] (f : α → β → Int) (a : α) (b : β) (n : Int)
    (x : α) (y : β) : upd2 f a b (f a b + n) x y = f x y + (if x = a ∧ y = b then n else 0) := by
  rw [upd2_at]
  split
  · rename_i h; rw [h.1, h.2]
  · rw [Int.add_zero]

theorem upd_add {α : Type} [DecidableEq α] (f : α → Int) (a : α) (n : Int) (x : α) :
    upd f a (f a + n) x = f x + (if x = a then n else 0) := by
  rw [upd_at]
  split
  · rename_i h; rw [h]
  · rw [Int.add_zero]

theorem nonneg_add_ite {α β : Type} [DecidableEq α] [DecidableEq β] {f g : α → β → Int} (hf : ∀ x y, 0 ≤ f x y)
    {a : α} {b : β} {n : Int} (h : ∀ x y, g x y = f x y + (if x = a ∧ y = b then n else 0))
    (hn : 0 ≤ f a b + n) (x : α) (y : β) : 0 ≤ g x y := by
  rw [h]
  split
  · rename_i e; rw [e.1, e.2]; exact hn
  · rw [Int.add_zero]; exact hf x y

theorem le_add_ite {x y n : Int} {p : Prop} [Decidable p] (h : x ≤ y) (hn : 0 ≤ n) :
    x ≤ y + (if p then n else 0) := by
  split
  · exact Int.le_trans h (Int.le_add_of_nonneg_right hn)
  · rw [Int.add_zero]; exact h

/-- `b = b'` included -/
theorem nonneg_transfer {α β : Type} [DecidableEq α] [DecidableEq β] {f g : α → β → Int} (hf : ∀ x y, 0 ≤ f x y)
    {a : α} {b b' : β} {n : Int}
    (h : ∀ x y, g x y = f x y + (if x = a ∧ y = b then -n else 0) + (if x = a ∧ y = b' then n else 0))
    (h0 : 0 ≤ n) (hn : n ≤ f a b) (x : α) (y : β) : 0 ≤ g x y := by
  rw [h]
  exact le_add_ite (nonneg_add_ite hf (fun _ _ => rfl) (Int.sub_nonneg_of_le hn) x y) h0

theorem add_ite_cancel {x n m : Int} (h : n + m = 0) {p : Prop} [Decidable p] :
    x + (if p then n else 0) + (if p then m else 0) = x := by
  split
  · rw [Int.add_assoc, h, Int.add_zero]
  · rw [Int.add_zero, Int.add_zero]

/-- a transfer followed by the opposite transfer -/
theorem add_ite_cancel₂ {x n : Int} {p q : Prop} [Decidable p] [Decidable q] :
    x + (if p then -n else 0) + (if q then n else 0) + (if q then -n else 0) + (if p then n else 0) = x := by
  rw [add_ite_cancel (Int.add_right_neg n), add_ite_cancel (Int.add_left_neg n)]

theorem ite_and_self {α β : Type} [DecidableEq α] [DecidableEq β] (x a : α) (b : β) (n : Int) :
    (if x = a ∧ b = b then n else 0) = if x = a then n else 0 :=
  ite_cond_congr (propext (and_iff_left rfl))

/-- a function that differs from `f` by one point mass, read at the point and off it -/
theorem mass_read {α β : Type} [DecidableEq α] [DecidableEq β] {f g : α → β → Int} {a : α} {b : β} {n : Int}
    (h : ∀ x y, g x y = f x y + (if x = a ∧ y = b then n else 0)) :
    g a b = f a b + n ∧ ∀ x y, ¬ (x = a ∧ y = b) → g x y = f x y :=
  ⟨by rw [h, if_pos ⟨rfl, rfl⟩], fun x y hc => by rw [h, if_neg hc, Int.add_zero]⟩

theorem mass_read₁ {α : Type} [DecidableEq α] {f g : α → Int} {a : α} {n : Int}
    (h : ∀ x, g x = f x + (if x = a then n else 0)) : g a = f a + n ∧ ∀ x, x ≠ a → g x = f x :=
  ⟨by rw [h, if_pos rfl], fun x hc => by rw [h, if_neg hc, Int.add_zero]⟩

theorem mass_read₂ {α β : Type} [DecidableEq α] [DecidableEq β] {f g : α → β → Int} {a : α} {b b' : β} {n m : Int}
    (hne : b ≠ b')
    (h : ∀ x y, g x y = f x y + (if x = a ∧ y = b then n else 0) + (if x = a ∧ y = b' then m else 0)) :
    g a b = f a b + n ∧ g a b' = f a b' + m ∧ ∀ x y, ¬ (x = a ∧ (y = b ∨ y = b')) → g x y = f x y :=
  ⟨by rw [h, if_pos ⟨rfl, rfl⟩, if_neg (fun e => hne e.2), Int.add_zero],
   by rw [h, if_neg (fun e => hne e.2.symm), if_pos ⟨rfl, rfl⟩, Int.add_zero],
   fun x y hc => by rw [h, if_neg (fun e => hc ⟨e.1, .inl e.2⟩), if_neg (fun e => hc ⟨e.1, .inr e.2⟩), Int.add_zero,
     Int.add_zero]⟩

theorem bankAdd_bal (b : Bank) (d : Denom) (a : Addr) (n : Int) (d' : Denom) (a' : Addr) :
    (bankAdd b d a n).bal d' a' = b.bal d' a' + (if d' = d ∧ a' = a then n else 0) :=
  upd2_add b.bal d a n d' a'

theorem bankAdd_supply (b : Bank) (d : Denom) (a : Addr) (n : Int) : (bankAdd b d a n).supply = b.supply := rfl

theorem supplyAdd_bal (b : Bank) (d : Denom) (n : Int) : (supplyAdd b d n).bal = b.bal := rfl

theorem supplyAdd_supply (b : Bank) (d : Denom) (n : Int) (d' : Denom) :
    (supplyAdd b d n).supply d' = b.supply d' + (if d' = d then n else 0) :=
  upd_add b.supply d n d'

/-- `subUnlockedCoins` is `addCoins` of the negated amount, guarded by the funds check -/
theorem bankSub_eq_some {b b' : Bank} {d : Denom} {a : Addr} {n : Int} :
    bankSub b d a n = some b' ↔ n ≤ b.bal d a ∧ b' = bankAdd b d a (-n) := by
  fun_cases bankSub b d a n
  · exact ⟨nofun, fun h => absurd ‹_› (Int.not_lt.mpr h.1)⟩
  · exact ⟨fun h => ⟨Int.not_lt.mp ‹_›, (Option.some.inj h).symm⟩, fun h => by rw [h.2]; rfl⟩

/-- coins sent to an account and taken from it again (the module account, in mint and burn) leave
    every balance as it was -/
theorem bankAdd_cancel_bal (b : Bank) (d : Denom) (a : Addr) (n : Int) :
    (bankAdd (bankAdd b d a n) d a (-n)).bal = b.bal := by
  funext d' a'
  rw [bankAdd_bal, bankAdd_bal]
  exact add_ite_cancel (Int.add_right_neg n)

theorem ercAdd_bal (e : Ledger) (c : Contract) (a : Addr) (n : Int) (c' : Contract) (a' : Addr) :
    (ercAdd e c a n).bal c' a' = e.bal c' a' + (if c' = c ∧ a' = a then n else 0) :=
  upd2_add e.bal c a n c' a'

theorem ercAdd_total (e : Ledger) (c : Contract) (a : Addr) (n : Int) : (ercAdd e c a n).total = e.total := rfl

theorem totalAdd_bal (e : Ledger) (c : Contract) (n : Int) : (totalAdd e c n).bal = e.bal := rfl

theorem totalAdd_total (e : Ledger) (c : Contract) (n : Int) (c' : Contract) :
    (totalAdd e c n).total c' = e.total c' + (if c' = c then n else 0) :=
  upd_add e.total c n c'

theorem ercSub_eq_some {e e' : Ledger} {c : Contract} {a : Addr} {n : Int} :
    ercSub e c a n = some e' ↔ n ≤ e.bal c a ∧ e' = ercAdd e c a (-n) := by
  fun_cases ercSub e c a n
  · exact ⟨nofun, fun h => absurd ‹_› (Int.not_lt.mpr h.1)⟩
  · exact ⟨fun h => ⟨Int.not_lt.mp ‹_›, (Option.some.inj h).symm⟩, fun h => by rw [h.2]; rfl⟩

theorem ercTransfer_eq_some {e e' : Ledger} {c : Contract} {f t : Addr} {n : Int} :
    ercTransfer e c f t n = some e' ↔
      f ≠ Z ∧ t ≠ Z ∧ n ≤ e.bal c f ∧ e' = ercAdd (ercAdd e c f (-n)) c t n := by
  fun_cases ercTransfer e c f t n
  · rename_i hz; exact ⟨nofun, fun h => (hz.elim h.1 h.2.1).elim⟩
  · rename_i hz hs
    refine ⟨nofun, fun h => ?_⟩
    rw [ercSub_eq_some.mpr ⟨h.2.2.1, rfl⟩] at hs; cases hs
  · rename_i hz e1 hs
    obtain ⟨hn, rfl⟩ := ercSub_eq_some.mp hs
    exact ⟨fun h => by cases h; exact ⟨fun x => hz (.inl x), fun x => hz (.inr x), hn, rfl⟩,
      fun h => by rw [h.2.2.2]⟩

/-- a transfer from an account to itself leaves its balance as it was: the keeper's balance-delta check, on
    the receiver or on the sender, then refuses a positive amount -/
theorem ercTransfer_checked {e e1 : Ledger} {c : Contract} {f t : Addr} {v : Int} (hv : 0 < v)
    (h : ercTransfer e c f t v = some e1) (hchk : e.bal c t + v = e1.bal c t ∨ e.bal c f - v = e1.bal c f) :
    f ≠ t := by
  obtain ⟨_, _, _, rfl⟩ := ercTransfer_eq_some.mp h
  intro e'
  rw [e', ercAdd_bal, ercAdd_bal, add_ite_cancel (Int.add_left_neg v)] at hchk
  omega

theorem ercMint_eq_some {e e' : Ledger} {c : Contract} {t : Addr} {n : Int} :
    ercMint e c t n = some e' ↔ t ≠ Z ∧ e' = ercAdd (totalAdd e c n) c t n := by
  fun_cases ercMint e c t n
  · rename_i hz; exact ⟨nofun, fun h => (h.1 hz).elim⟩
  · rename_i hz; exact ⟨fun h => by cases h; exact ⟨hz, rfl⟩, fun h => by rw [h.2]⟩

theorem ercBurn_eq_some {e e' : Ledger} {c : Contract} {f : Addr} {n : Int} :
    ercBurn e c f n = some e' ↔ f ≠ Z ∧ n ≤ e.bal c f ∧ e' = totalAdd (ercAdd e c f (-n)) c (-n) := by
  fun_cases ercBurn e c f n
  · rename_i hz; exact ⟨nofun, fun h => (h.1 hz).elim⟩
  · rename_i hz hs
    refine ⟨nofun, fun h => ?_⟩
    rw [ercSub_eq_some.mpr ⟨h.2.1, rfl⟩] at hs; cases hs
  · rename_i hz e1 hs
    obtain ⟨hn, rfl⟩ := ercSub_eq_some.mp hs
    exact ⟨fun h => by cases h; exact ⟨hz, hn, rfl⟩, fun h => by rw [h.2.2]⟩

theorem findByDenom_some {l : List Pair} {d : Denom} {p : Pair} (h : findByDenom l d = some p) : p.2 = d ∧ p ∈ l := by
  fun_induction findByDenom l d with
  | case1 => cases h
  | case2 q qs => cases h; exact ⟨rfl, List.mem_cons_self⟩
  | case3 q qs d hq ih => exact ⟨(ih h).1, List.mem_cons_of_mem _ (ih h).2⟩

theorem findByContract_some {l : List Pair} {c : Contract} {p : Pair} (h : findByContract l c = some p) : p.1 = c ∧ p ∈ l := by
  fun_induction findByContract l c with
  | case1 => cases h
  | case2 q qs => cases h; exact ⟨rfl, List.mem_cons_self⟩
  | case3 q qs c hq ih => exact ⟨(ih h).1, List.mem_cons_of_mem _ (ih h).2⟩

/-! Each inversion lemma goes by the case principle of its operation: one case per way through the guard
  chain, the guards passed as hypotheses. Every failing way ends in `.err = .ok s'`; what is left is the one
  successful way (two for `cosmosToErc`: contract registered or not). -/

theorem eq_err_of_not_ok {r : Res} (h : ∀ s', r ≠ .ok s') : r = .err := by
  cases r with
  | err => rfl
  | ok s' => exact absurd rfl (h s')

theorem ne_of_blocked {blocked : Addr → Bool} {a b : Addr} (ha : blocked a = false) (hb : blocked b = true) : a ≠ b :=
  fun e => by rw [e, hb] at ha; cases ha

structure SameParams (s s' : St) : Prop where
  reg : s'.reg = s.reg
  nextC : s'.nextC = s.nextC
  pairs : s'.pairs = s.pairs
  allowed : s'.allowed = s.allowed

/-- the guards a successful MsgConvertCoinToERC20 passed and what it did; `c` = the pair's contract -/
structure CoinToErcOk (s s' : St) (ini rcv : Addr) (d : Denom) (amt : Int) (c : Contract) : Prop
    extends SameParams s s' where
  pair : findByDenom s.pairs d = some (c, d)
  pos : 0 < amt
  funds : amt ≤ s.bank.bal d ini
  rcvZ : rcv ≠ Z
  rcvM : rcv ≠ M
  locked : amt * scale d ≤ s.erc.bal c M
  bal : ∀ d' a, s'.bank.bal d' a = s.bank.bal d' a + (if d' = d ∧ a = ini then -amt else 0)
  supply : ∀ d', s'.bank.supply d' = s.bank.supply d' + (if d' = d then -amt else 0)
  erc : ∀ c' a, s'.erc.bal c' a = s.erc.bal c' a + (if c' = c ∧ a = M then -(amt * scale d) else 0)
          + (if c' = c ∧ a = rcv then amt * scale d else 0)
  total : s'.erc.total = s.erc.total

theorem coinToErc_spec {s s' : St} {ini rcv : Addr} {d : Denom} {amt : Int} :
    coinToErc s ini rcv d amt = .ok s' → ∃ c, CoinToErcOk s s' ini rcv d amt c := by
  fun_cases coinToErc s ini rcv d amt <;> intro h <;> cases h
  rename_i hpos p hp b1 h1 b2 h2 unlock e1 h3 hchk
  obtain rfl : p.2 = d := (findByDenom_some hp).1
  obtain ⟨hf, rfl⟩ := bankSub_eq_some.mp h1
  obtain ⟨_, rfl⟩ := bankSub_eq_some.mp h2
  rw [show unlock = _ from (bep3_amounts p.2 amt).1] at h3 hchk
  obtain ⟨_, hz, hl, rfl⟩ := ercTransfer_eq_some.mp h3
  have hpos := Int.not_le.mp hpos
  have hrm := ercTransfer_checked (Int.mul_pos hpos (scale_pos p.2)) h3 (.inl (Decidable.not_not.mp hchk))
  refine ⟨p.1, ⟨rfl, rfl, rfl, rfl⟩, hp, hpos, hf, hz, hrm.symm, hl, fun d' a => ?_, fun d' => ?_, fun c' a => ?_, rfl⟩
  · rw [supplyAdd_bal, bankAdd_cancel_bal, bankAdd_bal]
  · exact supplyAdd_supply _ p.2 (-amt) d'
  · rw [ercAdd_bal, ercAdd_bal]

/-- `d` = the pair's denom, `m` = coins minted, `m·scale` = ERC20 locked -/
structure ErcToCoinOk (blocked : Addr → Bool) (s s' : St) (ini rcv : Addr) (c : Contract) (amt : Int)
    (d : Denom) (m : Int) : Prop extends SameParams s s' where
  pair : findByContract s.pairs c = some (c, d)
  pos : 0 < amt
  mint : m = amt / scale d
  mpos : 0 < m
  funds : m * scale d ≤ s.erc.bal c ini
  iniZ : ini ≠ Z
  iniM : ini ≠ M
  unblocked : blocked rcv = false
  bal : ∀ d' a, s'.bank.bal d' a = s.bank.bal d' a + (if d' = d ∧ a = rcv then m else 0)
  supply : ∀ d', s'.bank.supply d' = s.bank.supply d' + (if d' = d then m else 0)
  erc : ∀ c' a, s'.erc.bal c' a = s.erc.bal c' a + (if c' = c ∧ a = ini then -(m * scale d) else 0)
          + (if c' = c ∧ a = M then m * scale d else 0)
  total : s'.erc.total = s.erc.total

theorem ercToCoin_spec {blocked : Addr → Bool} {s s' : St} {ini rcv : Addr} {c : Contract} {amt : Int} :
    ercToCoin blocked s ini rcv c amt = .ok s' → ∃ d m, ErcToCoinOk blocked s s' ini rcv c amt d m := by
  fun_cases ercToCoin blocked s ini rcv c amt <;> intro h <;> cases h
  rename_i hpos p hp mint lock hd e1 h1 hchk hbl b1 h2
  obtain rfl : p.1 = c := (findByContract_some hp).1
  obtain ⟨_, hm, hl, hdust⟩ := bep3_amounts p.2 amt
  rw [show lock = _ from hl] at h1 hchk
  rw [show mint = _ from hm] at h2 ⊢
  obtain ⟨hiz, _, hfunds, rfl⟩ := ercTransfer_eq_some.mp h1
  obtain ⟨_, rfl⟩ := bankSub_eq_some.mp h2
  have hpos := Int.not_le.mp hpos
  have hmpos := hdust hd hpos
  have him := ercTransfer_checked (Int.mul_pos hmpos (scale_pos p.2)) h1 (.inr (Decidable.not_not.mp hchk))
  refine ⟨p.2, amt / scale p.2, ⟨rfl, rfl, rfl, rfl⟩, hp, hpos, rfl, hmpos, hfunds, hiz, him, eq_false_of_ne_true hbl,
    fun d' a => ?_, fun d' => ?_, fun c' a => ?_, rfl⟩
  · rw [bankAdd_bal, bankAdd_cancel_bal, supplyAdd_bal]
  · exact supplyAdd_supply s.bank p.2 _ d'
  · rw [ercAdd_bal, ercAdd_bal]

/-- `GetOrDeployCosmosCoinERC20Contract` on a denom without a contract: the next contract index is
    registered for it -/
def register (s : St) (d : Denom) : St :=
  { s with reg := upd s.reg d (some s.nextC), nextC := s.nextC + 1 }

theorem register_reg (s : St) (d d' : Denom) :
    (register s d).reg d' = if d' = d then some s.nextC else s.reg d' := rfl

theorem register_self (s : St) (d : Denom) : (register s d).reg d = some s.nextC := if_pos rfl

theorem register_reg_some {s : St} {d d' : Denom} {k : Nat} (h : (register s d).reg d' = some k) :
    d' = d ∧ k = s.nextC ∨ s.reg d' = some k := by
  rw [register_reg] at h
  split at h
  · exact .inl ⟨‹_›, (Option.some.inj h).symm⟩
  · exact .inr h

/-- the first conversion of a denom is its registration followed by a conversion of a registered denom -/
theorem cosmosToErc_register {s : St} {ini rcv : Addr} {d : Denom} {amt : Int} (hk : s.reg d = none) :
    cosmosToErc s ini rcv d amt = cosmosToErc (register s d) ini rcv d amt := by
  unfold cosmosToErc
  rw [hk, register_self]
  rfl

/-- `k` = index of the wrapped-coin contract, deployed by this message if the denom had none -/
structure CosmosToErcOk (s s' : St) (ini rcv : Addr) (d : Denom) (amt : Int) (k : Nat) : Prop where
  registered : s'.reg d = some k
  pos : 0 < amt
  listed : d ∈ s.allowed
  funds : amt ≤ s.bank.bal d ini
  rcvZ : rcv ≠ Z
  bal : ∀ d' a, s'.bank.bal d' a = s.bank.bal d' a + (if d' = d ∧ a = ini then -amt else 0)
          + (if d' = d ∧ a = M then amt else 0)
  supply : s'.bank.supply = s.bank.supply
  erc : ∀ c' a, s'.erc.bal c' a = s.erc.bal c' a + (if c' = .dep k ∧ a = rcv then amt else 0)
  total : ∀ c', s'.erc.total c' = s.erc.total c' + (if c' = .dep k then amt else 0)
  pairs : s'.pairs = s.pairs
  allowed : s'.allowed = s.allowed

theorem cosmosToErc_spec_reg {s s' : St} {ini rcv : Addr} {d : Denom} {amt : Int} {k : Nat}
    (hk : s.reg d = some k) :
    cosmosToErc s ini rcv d amt = .ok s' → CosmosToErcOk s s' ini rcv d amt k ∧ SameParams s s' := by
  fun_cases cosmosToErc s ini rcv d amt <;> intro h <;> cases h
  · rename_i hpos hal b1 h1 k' hk' e1 h2
    cases hk.symm.trans hk'
    obtain ⟨hf, rfl⟩ := bankSub_eq_some.mp h1
    obtain ⟨hz, rfl⟩ := ercMint_eq_some.mp h2
    refine ⟨⟨hk, Int.not_le.mp hpos, Decidable.not_not.mp hal, hf, hz, fun d' a => ?_, rfl, fun c' a => ?_,
      fun c' => ?_, rfl, rfl⟩, rfl, rfl, rfl, rfl⟩
    · rw [bankAdd_bal, bankAdd_bal]
    · exact ercAdd_bal _ _ rcv amt c' a
    · exact totalAdd_total s.erc _ amt c'
  · rename_i hk' _ _
    cases hk.symm.trans hk'

theorem cosmosToErc_spec {s s' : St} {ini rcv : Addr} {d : Denom} {amt : Int}
    (h : cosmosToErc s ini rcv d amt = .ok s') : ∃ k, CosmosToErcOk s s' ini rcv d amt k := by
  cases hk : s.reg d with
  | some k => exact ⟨k, (cosmosToErc_spec_reg hk h).1⟩
  | none =>
    -- the fields read only what registration leaves alone
    exact ⟨s.nextC, { (cosmosToErc_spec_reg (register_self s d) (cosmosToErc_register hk ▸ h)).1 with }⟩

structure CosmosFromErcOk (blocked : Addr → Bool) (s s' : St) (ini rcv : Addr) (d : Denom) (amt : Int)
    (k : Nat) : Prop extends SameParams s s' where
  pos : 0 < amt
  registered : s.reg d = some k
  funds : amt ≤ s.erc.bal (.dep k) ini
  iniZ : ini ≠ Z
  unblocked : blocked rcv = false
  held : amt ≤ s.bank.bal d M
  bal : ∀ d' a, s'.bank.bal d' a = s.bank.bal d' a + (if d' = d ∧ a = M then -amt else 0)
          + (if d' = d ∧ a = rcv then amt else 0)
  supply : s'.bank.supply = s.bank.supply
  erc : ∀ c' a, s'.erc.bal c' a = s.erc.bal c' a + (if c' = .dep k ∧ a = ini then -amt else 0)
  total : ∀ c', s'.erc.total c' = s.erc.total c' + (if c' = .dep k then -amt else 0)

theorem cosmosFromErc_spec {blocked : Addr → Bool} {s s' : St} {ini rcv : Addr} {d : Denom} {amt : Int} :
    cosmosFromErc blocked s ini rcv d amt = .ok s' → ∃ k, CosmosFromErcOk blocked s s' ini rcv d amt k := by
  fun_cases cosmosFromErc blocked s ini rcv d amt <;> intro h <;> cases h
  rename_i hpos k hk _ e1 h1 hbl b1 h2
  obtain ⟨hz, hf, rfl⟩ := ercBurn_eq_some.mp h1
  obtain ⟨hfm, rfl⟩ := bankSub_eq_some.mp h2
  refine ⟨k, ⟨rfl, rfl, rfl, rfl⟩, Int.not_le.mp hpos, hk, hf, hz, eq_false_of_ne_true hbl, hfm, fun d' a => ?_, rfl,
    fun c' a => ?_, fun c' => ?_⟩
  · rw [bankAdd_bal, bankAdd_bal]
  · exact ercAdd_bal s.erc _ ini (-amt) c' a
  · exact totalAdd_total _ _ (-amt) c'

structure TransferOk (s s' : St) (c : Contract) (f t : Addr) (amt : Int) : Prop extends SameParams s s' where
  nonneg : 0 ≤ amt
  fromZ : f ≠ Z
  toZ : t ≠ Z
  funds : amt ≤ s.erc.bal c f
  erc : ∀ c' a, s'.erc.bal c' a = s.erc.bal c' a + (if c' = c ∧ a = f then -amt else 0)
          + (if c' = c ∧ a = t then amt else 0)
  total : s'.erc.total = s.erc.total
  bank : s'.bank = s.bank

theorem envTransfer_spec {s s' : St} {c : Contract} {f t : Addr} {amt : Int} :
    envTransfer s c f t amt = .ok s' → TransferOk s s' c f t amt := by
  fun_cases envTransfer s c f t amt <;> intro h <;> cases h
  rename_i hpos e1 h1
  obtain ⟨hz1, hz2, hf, rfl⟩ := ercTransfer_eq_some.mp h1
  exact ⟨⟨rfl, rfl, rfl, rfl⟩, Int.not_lt.mp hpos, hz1, hz2, hf, fun c' a => by rw [ercAdd_bal, ercAdd_bal], rfl, rfl⟩

structure SendOk (blocked : Addr → Bool) (s s' : St) (d : Denom) (f t : Addr) (amt : Int) : Prop
    extends SameParams s s' where
  pos : 0 < amt
  unblocked : blocked t = false
  funds : amt ≤ s.bank.bal d f
  bal : ∀ d' a, s'.bank.bal d' a = s.bank.bal d' a + (if d' = d ∧ a = f then -amt else 0)
          + (if d' = d ∧ a = t then amt else 0)
  supply : s'.bank.supply = s.bank.supply
  erc : s'.erc = s.erc

theorem envSend_spec {blocked : Addr → Bool} {s s' : St} {d : Denom} {f t : Addr} {amt : Int} :
    envSend blocked s d f t amt = .ok s' → SendOk blocked s s' d f t amt := by
  fun_cases envSend blocked s d f t amt <;> intro h <;> cases h
  rename_i hpos hbl b1 h1
  obtain ⟨hf, rfl⟩ := bankSub_eq_some.mp h1
  exact ⟨⟨rfl, rfl, rfl, rfl⟩, Int.not_le.mp hpos, eq_false_of_ne_true hbl, hf,
    fun d' a => by rw [bankAdd_bal, bankAdd_bal], rfl, rfl⟩

structure ExtMintOk (s s' : St) (c : Contract) (t : Addr) (amt : Int) : Prop extends SameParams s s' where
  ext : ∃ n, c = .ext n
  nonneg : 0 ≤ amt
  toZ : t ≠ Z
  erc : ∀ c' a, s'.erc.bal c' a = s.erc.bal c' a + (if c' = c ∧ a = t then amt else 0)
  total : ∀ c', s'.erc.total c' = s.erc.total c' + (if c' = c then amt else 0)
  bank : s'.bank = s.bank

theorem extMint_spec {s s' : St} {c : Contract} {t : Addr} {amt : Int} :
    extMint s c t amt = .ok s' → ExtMintOk s s' c t amt := by
  fun_cases extMint s c t amt <;> intro h
  -- the body's `match` on `ercMint` names `c`, not `.ext n`, and is left standing in `h`
  case case4 n hpos e1 h1 =>
    rw [h1] at h; cases h
    obtain ⟨hz, rfl⟩ := ercMint_eq_some.mp h1
    exact ⟨⟨rfl, rfl, rfl, rfl⟩, ⟨n, rfl⟩, Int.not_lt.mp hpos, hz, ercAdd_bal _ _ t amt, totalAdd_total s.erc _ amt, rfl⟩
  case case3 h1 => rw [h1] at h; cases h
  all_goals cases h

end KV.EU
