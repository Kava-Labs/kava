/-
  A concrete configuration and history used by the non-vacuity examples of Props/C13.lean.
-/
import KavaVerif.Proofs.Bep3Trace
set_option linter.unusedSimpArgs false
set_option linter.unusedVariables false

namespace KV.Bep3

def exCfg : Cfg := { module := 0, macc := fun a => a == 0 || a == 6, blocked := fun a => a == 0 || a == 6 }
def exHs : Hashes := { H := fun rn ts => rn * 7 + ts.toNat % 1000, sid := fun h a o => h * 100 + a * 10 + o }
def exAsset : Asset :=
  { deputy := 1, limit := 1000, timeLimited := true, period := 3600000000000, tbl := 500, active := true,
    fee := 1, minAmt := 1, maxAmt := 400, minLock := 2, maxLock := 5 }
def exGenesis : St :=
  { height := 1, time := 1700000000000000000, prevTime := 1700000000000000000, assets := [(0, exAsset)],
    supply := fun _ => ⟨0, 0, 0, 0, 0⟩, swaps := [], byBlock := [], longterm := [],
    bal := fun _ _ => 0, bankSupply := fun _ => 0 }
/-- deputy → user 3, 100 coins, secret 42 -/
def exOp1 : Op := .create (exHs.H 42 1700000000) 1700000000 3 1 3 7 [(0, 100)]
def exId1 : Id := exHs.sid (exHs.H 42 1700000000) 1 7
/-- anyone (party 5) claims with the right secret -/
def exOp2 : Op := .claim 5 exId1 42
/-- user 3 → deputy, 50 coins -/
def exOp3 : Op := .create (exHs.H 43 1700000000) 1700000000 2 3 1 7 [(0, 50)]
def exId3 : Id := exHs.sid (exHs.H 43 1700000000) 3 7
/-- two blocks later the outgoing swap has expired -/
def exOp4 : Op := .beginBlock 2 5000000000
def exOp5 : Op := .refund 4 exId3


theorem exAssets (d : Denom) (a : Asset) (ha : getAsset exGenesis.assets d = some a) : a = exAsset := by
  have : getAsset exGenesis.assets d = if 0 = d then some exAsset else none := rfl
  rw [this] at ha
  split at ha
  · cases ha; rfl
  · cases ha

end KV.Bep3
