/-
  Helper lemmas for C08 (x/hard): histories (any interleaving of deposit / withdraw / borrow / repay / liquidate /
  accrue, each with its own configuration, failed messages rolled back) and the effect of every operation on the two
  global indexes; a position whose records carry the current factors is not changed by re-syncing, hence one just
  stored by `Withdraw` or `Borrow` cannot be liquidated in the same block.
-/
import KavaVerif.Proofs.HardLiq
namespace KV.Hard
open KV

inductive Op where
  | deposit (u : User) (c : Coins)
  | withdraw (u : User) (c : Coins)
  | borrow (u : User) (c : Coins)
  | repay (sender owner : User) (c : Coins)
  | liquidate (keeper borrower : User)
  | accrue (d : Denom) (now : Int) (phi : Dec) (apyPos : Bool)

def step (cfg : Cfg) (s : St) : Op → Res St
  | .deposit u c => deposit cfg s u c
  | .withdraw u c => withdraw cfg s u c
  | .borrow u c => borrow cfg s u c
  | .repay a b c => repay cfg s a b c
  | .liquidate k b => liquidate cfg s k b
  | .accrue d now phi apyPos => accrue cfg s d now phi apyPos

/-- baseapp: a message that fails leaves no change (configuration — parameters and prices — may differ per step) -/
def applyOp (s : St) (x : Cfg × Op) : St :=
  match step x.1 s x.2 with
  | .ok s' => s'
  | _ => s

def run (s : St) (h : List (Cfg × Op)) : St := h.foldl applyOp s

/-- the two global indexes read the same in both states (a factor first set to 1.0 reads as before) and any stored
    factor is either an old one or 1.0 -/
def IdxSame (s s' : St) : Prop :=
  (∀ d, (s'.brwIdx d).getD P = (s.brwIdx d).getD P) ∧ (∀ d, (s'.supIdx d).getD P = (s.supIdx d).getD P) ∧
  (∀ d v, s'.brwIdx d = some v → v = P ∨ s.brwIdx d = some v) ∧
  (∀ d v, s'.supIdx d = some v → v = P ∨ s.supIdx d = some v)

theorem IdxSame_of_eq (s s' : St) (h1 : s'.brwIdx = s.brwIdx) (h2 : s'.supIdx = s.supIdx) : IdxSame s s' := by
  refine ⟨fun d => by rw [h1], fun d => by rw [h2], fun d v hv => Or.inr (by rw [← h1]; exact hv),
    fun d v hv => Or.inr (by rw [← h2]; exact hv)⟩

/-- `Deposit` / `Borrow` first set a missing global factor of each coin's denom to 1.0 -/
theorem initIdx_getD (p : Prop) [Decidable p] (o : Option Int) :
    (if p ∧ o.isNone then some P else o).getD P = o.getD P := by
  split
  · rename_i h; cases o with
    | none => rfl
    | some v => cases h.2
  · rfl

theorem initIdx_some {p : Prop} [Decidable p] {o : Option Int} {v : Int}
    (h : (if p ∧ o.isNone then some P else o) = some v) : v = P ∨ o = some v := by
  split at h
  · cases h; exact Or.inl rfl
  · exact Or.inr h

/-- the monitored assumption on the interest-factor parameter of every accrual of a history -/
def OpOk : Op → Prop
  | .accrue _ _ phi _ => P ≤ phi.m
  | _ => True

theorem step_idxSame (cfg : Cfg) (s s' : St) (op : Op) (hna : ∀ d now phi a, op ≠ .accrue d now phi a)
    (h : step cfg s op = .ok s') : IdxSame s s' := by
  cases op with
  | deposit u c =>
    obtain ⟨s2, h2, rfl⟩ := deposit_ok h
    obtain ⟨c', ci, rfl, -⟩ := syncSupply_ok h2
    exact ⟨fun _ => rfl, fun _ => initIdx_getD _ _, fun _ _ hv => Or.inr hv, fun _ _ => initIdx_some⟩
  | withdraw u c =>
    obtain ⟨s1, s2, h1, h2, -, rfl⟩ := withdraw_ok h
    obtain ⟨c', ci, rfl, -⟩ := syncSupply_ok h2
    obtain ⟨b, bi, rfl, -⟩ := syncBorrow_ok h1
    exact IdxSame_of_eq _ _ rfl rfl
  | borrow u c =>
    obtain ⟨s1, s2, h1, h2, -, rfl⟩ := borrow_ok h
    obtain ⟨b, bi, rfl, -⟩ := syncBorrow_ok h2
    obtain ⟨c', ci, rfl, -⟩ := syncSupply_ok h1
    exact ⟨fun _ => initIdx_getD _ _, fun _ => rfl, fun _ _ => initIdx_some, fun _ _ hv => Or.inr hv⟩
  | repay a b c =>
    obtain ⟨s1, h1, rfl⟩ := repay_ok h
    obtain ⟨b', bi, rfl, -⟩ := syncBorrow_ok h1
    exact IdxSame_of_eq _ _ rfl rfl
  | liquidate k b =>
    obtain ⟨s1, s2, z, h1, h2, -, -, rfl⟩ := liquidate_ok h
    obtain ⟨c', ci, rfl, -⟩ := syncSupply_ok h2
    obtain ⟨b', bi, rfl, -⟩ := syncBorrow_ok h1
    exact IdxSame_of_eq _ _ rfl rfl
  | accrue d now phi a => exact absurd rfl (hna d now phi a)

theorem step_brw (cfg : Cfg) (s s' : St) (op : Op) (hop : OpOk op) (hn : ∀ d v, s.brwIdx d = some v → 0 ≤ v)
    (h : step cfg s op = .ok s') (d : Denom) : (s.brwIdx d).getD P ≤ (s'.brwIdx d).getD P := by
  cases op with
  | accrue e now phi a => exact (accrue_brwIdx hop (hn e) h d).1
  | _ => exact Int.le_of_eq ((step_idxSame cfg s s' _ (fun _ _ _ _ e => Op.noConfusion e) h).1 d).symm

theorem step_sup (cfg : Cfg) (s s' : St) (op : Op) (hn : ∀ d v, s.supIdx d = some v → 0 ≤ v)
    (h : step cfg s op = .ok s') (d : Denom) : (s.supIdx d).getD P ≤ (s'.supIdx d).getD P := by
  cases op with
  | accrue e now phi a => exact (accrue_supIdx (hn e) h d).1
  | _ => exact Int.le_of_eq ((step_idxSame cfg s s' _ (fun _ _ _ _ e => Op.noConfusion e) h).2.1 d).symm

theorem nonneg_of_getD_le {f f' : Denom → Option Int} (hm : ∀ d, (f d).getD P ≤ (f' d).getD P)
    (hn : ∀ d v, f d = some v → 0 ≤ v) (d : Denom) (v : Int) (hv : f' d = some v) : 0 ≤ v := by
  have := hm d
  have := getD_nonneg _ (hn d)
  rw [hv] at *
  simp only [Option.getD_some] at *
  omega

/-- along a history an index `ix` that no successful step lowers (steps restricted by `ok`) never decreases -/
theorem run_getD_mono (ix : St → Denom → Option Int) (ok : Op → Prop)
    (hstep : ∀ cfg s s' op, ok op → (∀ d v, ix s d = some v → 0 ≤ v) → step cfg s op = .ok s' →
      ∀ d, (ix s d).getD P ≤ (ix s' d).getD P)
    (h : List (Cfg × Op)) (s : St) (hops : ∀ x ∈ h, ok x.2) (hn : ∀ d v, ix s d = some v → 0 ≤ v) (d : Denom) :
    (ix s d).getD P ≤ (ix (run s h) d).getD P := by
  induction h generalizing s with
  | nil => exact Int.le_refl _
  | cons x t ih =>
    have hops' := fun y hy => hops y (List.mem_cons_of_mem _ hy)
    show _ ≤ (ix (run (applyOp s x) t) d).getD P
    fun_cases applyOp s x
    · rename_i s' hs
      have m := hstep x.1 s s' x.2 (hops x List.mem_cons_self) hn hs
      exact Int.le_trans (m d) (ih s' hops' (nonneg_of_getD_le m hn))
    · exact ih s hops' hn

theorem supp_congr {ds : List Denom} {c c' : Coins} (h : ∀ d ∈ ds, c d = c' d) : supp ds c = supp ds c' := by
  unfold supp
  apply List.filter_congr
  intro d hd
  rw [h d hd]

theorem sumD_supp_congr {ds : List Denom} {c c' : Coins} (F : Denom → Int → Int) (h : ∀ d ∈ ds, c d = c' d) :
    sumD (supp ds c) (fun d => F d (c d)) = sumD (supp ds c') (fun d => F d (c' d)) := by
  rw [supp_congr h]
  exact sumD_congr _ _ _ fun d hm => by rw [h d (mem_supp.mp hm).1]

theorem isWithinLtv_congr (cfg : Cfg) (dep dep' bor bor' : Coins) (hd : ∀ d ∈ cfg.ds, dep d = dep' d)
    (hb : ∀ d ∈ cfg.ds, bor d = bor' d) : isWithinLtv cfg dep bor = isWithinLtv cfg dep' bor' := by
  unfold isWithinLtv valueOf borrowable pricesOk
  rw [sumD_supp_congr (fun d a => (usdValue (cfg.mkt d) a).m) hb,
    sumD_supp_congr (fun d a => ((usdValue (cfg.mkt d) a).mul (cfg.mkt d).ltv).m) hd,
    supp_congr hb, supp_congr hd]

/-- a position whose coins carry the current global factors (between 0 and 10^18) is left as it is by the syncs of a
    liquidation attempt: if it is within range, the attempt fails -/
theorem fresh_not_liquidatable {cfg : Cfg} {s : St} {u : User}
    (hbi : ∀ d ∈ cfg.ds, 0 < s.bor u d → s.borIdx u d = some ((s.brwIdx d).getD 0))
    (hdi : ∀ d ∈ cfg.ds, 0 < s.dep u d → s.depIdx u d = some ((s.supIdx d).getD 0))
    (hB : ∀ d ∈ cfg.ds, 0 ≤ (s.brwIdx d).getD 0 ∧ (s.brwIdx d).getD 0 ≤ P * P)
    (hS : ∀ d ∈ cfg.ds, 0 ≤ (s.supIdx d).getD 0)
    (hw : isWithinLtv cfg (s.dep u) (s.bor u) = .ok true) : ∀ keeper, (liquidate cfg s keeper u).isOk = false := by
  intro keeper
  cases hl : liquidate cfg s keeper u with
  | err e => rfl
  | panic => rfl
  | ok s'' =>
    exfalso
    obtain ⟨t1, t2, z, e1, e2, ew, -, -⟩ := liquidate_ok hl
    obtain ⟨c, ci, rfl, -, hc⟩ := syncSupply_ok e2
    obtain ⟨b, bi, rfl, hb⟩ := syncBorrow_ok e1
    have hbor : ∀ d ∈ cfg.ds, upd s.bor u b u d = s.bor u d := by
      intro d hd
      obtain ⟨hnp, -, e, -⟩ := hb d hd
      rw [upd_same, e]
      refine ite_eq_right_iff.mpr fun hpos => ?_
      have hnp := hnp hpos
      rw [hbi d hd hpos] at hnp ⊢
      exact syncBorAmt_self hnp (Int.le_of_lt hpos) (hB d hd).1 (hB d hd).2
    have hdep : ∀ d ∈ cfg.ds, upd s.dep u c u d = s.dep u d := by
      intro d hd
      obtain ⟨hnp, e, -⟩ := hc d hd
      dsimp only at hnp e
      rw [upd_same, e]
      refine ite_eq_right_iff.mpr fun hpos => ?_
      have hnp := hnp hpos
      rw [hdi d hd hpos] at hnp ⊢
      exact syncSupAmt_self hnp (Int.le_of_lt hpos) (hS d hd)
    dsimp only at ew
    rw [isWithinLtv_congr cfg _ _ _ _ hdep hbor, hw] at ew
    cases ew

theorem withdraw_fresh {cfg : Cfg} {s s' : St} {u : User} {coins : Coins} (h : withdraw cfg s u coins = .ok s') :
    s'.brwIdx = s.brwIdx ∧ s'.supIdx = s.supIdx ∧
    (∀ d ∈ cfg.ds, 0 < s'.bor u d → s'.borIdx u d = some ((s'.brwIdx d).getD 0)) ∧
    (∀ d ∈ cfg.ds, 0 < s'.dep u d → s'.depIdx u d = some ((s'.supIdx d).getD 0)) := by
  obtain ⟨s1, s2, h1, h2, -, rfl⟩ := withdraw_ok h
  have hbi := syncBorrow_idx h1
  have hdi := syncSupply_idx h2
  obtain ⟨c, ci, rfl, -⟩ := syncSupply_ok h2
  obtain ⟨b, bi, rfl, -⟩ := syncBorrow_ok h1
  refine ⟨rfl, rfl, hbi, fun d hd hpos => ?_⟩
  dsimp only at hpos hdi ⊢
  rw [upd_same] at hpos ⊢
  have hs2 : 0 < upd s.dep u c u d := by
    unfold subC capAmount at hpos
    split at hpos
    · split at hpos <;> omega
    · omega
  rw [if_neg (fun hc => by omega)]
  exact hdi d hd hs2

theorem borrow_fresh {cfg : Cfg} {s s' : St} {u : User} {coins : Coins} (h : borrow cfg s u coins = .ok s') :
    (∀ d, s'.brwIdx d = if 0 < coins d ∧ (s.brwIdx d).isNone then some P else s.brwIdx d) ∧
    s'.supIdx = s.supIdx ∧
    (∀ d ∈ cfg.ds, 0 < s'.bor u d → s'.borIdx u d = some ((s'.brwIdx d).getD 0)) ∧
    (∀ d ∈ cfg.ds, 0 < s'.dep u d → s'.depIdx u d = some ((s'.supIdx d).getD 0)) := by
  obtain ⟨s1, s2, h1, h2, -, rfl⟩ := borrow_ok h
  have hbi := syncBorrow_idx h2
  have hdi := syncSupply_idx h1
  obtain ⟨b, bi, rfl, -⟩ := syncBorrow_ok h2
  obtain ⟨c, ci, rfl, -⟩ := syncSupply_ok h1
  refine ⟨fun _ => rfl, rfl, fun d hd hpos => ?_, hdi⟩
  dsimp only at hpos hbi ⊢
  rw [upd_same] at hpos ⊢
  by_cases hcd : 0 < coins d
  · rw [if_pos hcd]
    cases s.brwIdx d <;> simp [hcd]
  · rw [if_neg hcd]
    refine hbi d hd ?_
    unfold addC at hpos
    omega

end KV.Hard
