/-
  Helper lemmas for C02 (block safety). Core Lean only.
-/
import KavaVerif.Model.BlockSafety
set_option linter.unusedSimpArgs false
set_option linter.unusedVariables false

namespace KV.Safe
open KV KV.Gen.C02

/-- One walk over the generated panic sites: every site is reviewed, and the only one whose review says
    "fires on a reachable state" is kavadist's `MintPeriodInflation`. The two facts are stated together
    because both look up `review s` for every site, and the kernel then evaluates each lookup once. -/
theorem sites_reviewed_and_findings :
    (∀ s ∈ panicSites, reviewed s = true) ∧ findingSites = [("x/kavadist", "k.MintPeriodInflation")] := by
  decide +kernel

theorem P_pos : 0 < P := by decide

theorem quo_self (d : Int) (hd : 0 < d) : Dec.quo (Dec.ofInt d) (Dec.ofInt d) = Dec.one := by
  have hdP : 0 < d * P := Int.mul_pos hd P_pos
  have ht : tquo (d * P * P * P) (d * P) = P * P := by
    rw [tquo_nonneg_eq _ _ (Int.le_of_lt (Int.mul_pos (Int.mul_pos hdP P_pos) P_pos)) (Int.le_of_lt hdP),
      Int.mul_assoc (d * P), Int.mul_ediv_cancel_left _ (Int.ne_of_gt hdP)]
  unfold Dec.quo Dec.ofInt Dec.one
  simp only
  rw [ht, chopRound_mul_P]

theorem mul_one_round (debt : Int) : Dec.roundInt (Dec.mul Dec.one (Dec.ofInt debt)) = debt := by
  unfold Dec.roundInt Dec.mul Dec.one Dec.ofInt
  simp only
  rw [Int.mul_comm P, chopRound_mul_P, chopRound_mul_P]

theorem sumInts_foldl (l : List Int) (a : Int) : l.foldl (· + ·) a = a + sumInts l := by
  unfold sumInts
  induction l generalizing a with
  | nil => simp
  | cons x xs ih => rw [List.foldl_cons, List.foldl_cons, ih, ih (0 + x)]; omega

theorem sumInts_cons (x : Int) (xs : List Int) : sumInts (x :: xs) = x + sumInts xs := by
  rw [sumInts, List.foldl_cons, sumInts_foldl]; omega

theorem sumInts_nonneg {l : List Int} (h : ∀ x ∈ l, 0 ≤ x) : 0 ≤ sumInts l := by
  induction l with
  | nil => decide
  | cons x xs ih =>
    have := h x List.mem_cons_self
    have := ih fun y hy => h y (List.mem_cons_of_mem _ hy)
    rw [sumInts_cons]; omega

/-- whatever the shares, capping each at the debt still unassigned and giving the last deposit the remainder
    makes them add up to the debt -/
theorem splitCapped_sum {total debt : Int} {l : List Int} {rem : Int} (h : l ≠ []) :
    sumInts (splitCapped total debt l rem) = rem := by
  induction l generalizing rem with
  | nil => exact absurd rfl h
  | cons d rest ih =>
    cases rest with
    | nil => simp [splitCapped, sumInts]
    | cons d2 r2 => rw [splitCapped, sumInts_cons, ih (List.cons_ne_nil _ _)]; omega

end KV.Safe
