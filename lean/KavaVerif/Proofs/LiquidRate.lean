/-
  Helper lemmas for C12: the value of a holder's stake across a conversion at ANY exchange rate.

  Two base units bound the change only while one share is worth at most one token: the fraction `f` of a share lost
  to the floor on the minted amount is then worth less than a token.  In general it is worth at most
  `X/S'' − T/S''` base units for any `X ≥ max(S'', T·10^18)` (`value_core_rate`, `conversion_value` in
  LiquidStep.lean), i.e. at most max(1, r') with r' the tokens-per-share rate after the operation: the bound is
  1 + max(1, r'), and a gain never exceeds two units.
-/
import KavaVerif.Proofs.LiquidStep
set_option linter.unusedSimpArgs false
set_option linter.unusedVariables false
namespace KV.Liquid
open KV

/-- the validator's tokens (0 when there is no validator) -/
def tokensOf (c : VSt) : Int := match c.val with | some v => v.tokens | none => 0

/-- |value' − value| ≤ 1 + max(1, r') base units, cross-multiplied: value = stakeNum / shares and
    r' = tokens' · 10^18 / shares' is the tokens-per-share rate after the operation, so that
    (1 + max(1, r')) · S · S' = S·S' + S · max(S', tokens'·10^18).  (What lean/Driver/C12.lean computes as
    `bound` for r' ≤ 1 and as `bound1r` for r' > 1.) -/
def ValueWithinOnePlusRate (c c' : VSt) (a : Addr) : Prop :=
  stakeNum c' a * sharesOf c - stakeNum c a * sharesOf c' ≤
    sharesOf c * sharesOf c' + sharesOf c * max (sharesOf c') (tokensOf c' * P) ∧
  stakeNum c a * sharesOf c' - stakeNum c' a * sharesOf c ≤
    sharesOf c * sharesOf c' + sharesOf c * max (sharesOf c') (tokensOf c' * P)
instance (c c' : VSt) (a : Addr) : Decidable (ValueWithinOnePlusRate c c' a) := by
  unfold ValueWithinOnePlusRate; exact inferInstance

/-- a gain of at most two base units, cross-multiplied -/
def GainWithinTwo (c c' : VSt) (a : Addr) : Prop :=
  stakeNum c' a * sharesOf c - stakeNum c a * sharesOf c' ≤ 2 * sharesOf c * sharesOf c'
instance (c c' : VSt) (a : Addr) : Decidable (GainWithinTwo c c' a) := by unfold GainWithinTwo; exact inferInstance

theorem valueWithinOnePlusRate_iff_two (c c' : VSt) (a : Addr) (h : tokensOf c' * P ≤ sharesOf c') :
    ValueWithinOnePlusRate c c' a ↔ ValueWithinTwo c c' a := by
  unfold ValueWithinOnePlusRate ValueWithinTwo
  have hm : max (sharesOf c') (tokensOf c' * P) = sharesOf c' := by omega
  rw [hm]
  have e : sharesOf c * sharesOf c' + sharesOf c * sharesOf c' = 2 * sharesOf c * sharesOf c' := by
    rw [Int.mul_assoc, Int.two_mul]
  rw [e]

theorem tokensOf_some {c : VSt} {v : Val} (h : c.val = some v) : tokensOf c = v.tokens := by
  unfold tokensOf; rw [h]

/-- value of the holder's stake across a mint that mints ⌊received shares⌋ (the repaired code), any rate -/
theorem mint_value_rate (accts : List Addr) (hn : accts.Nodup) (g : Cfg) (hg : g.mintReceived = true) (M : Addr)
    (c c' : VSt) (d : Addr) (amount der : Int) (hM : M ∈ accts) (hd : d ∈ accts) (hne : d ≠ M)
    (hwf : WF accts c) (hrate : SaneRate c) (hTpos : ∀ v, c.val = some v → 0 < v.tokens)
    (hbal : 0 ≤ c.bal d) (hH : dm c d + c.bal d * P ≤ sharesOf c)
    (h : mint g M c d true amount = .ok (c', der)) : ValueWithinOnePlusRate c c' d ∧ GainWithinTwo c c' d := by
  obtain ⟨-, shares, c1, r, -, ht, hder, hc'⟩ := mint_effect h
  rw [hg, if_pos rfl] at hder
  obtain ⟨v, v3, hv, hv3, t1, t2, hS, hsh, hshd, -, hr0, hT, hcase⟩ :=
    transfer_arith accts hn g c c1 d M shares r hd hne hwf hrate hTpos ht
  obtain ⟨hdm, u⟩ := transfer_frame hne ht
  have hd1 : dm c' d = dm c d - shares.m := by rw [hc']; exact (hdm d).trans (if_pos rfl)
  have hb1 : c'.bal d = c.bal d + der := by rw [hc', ← u.bal]; exact if_pos rfl
  have hv' : c'.val = some v3 := by rw [hc']; exact hv3
  -- the fraction of a share floored away is worth at most `max(S'', T·10^18) − T`
  obtain ⟨f0, f1⟩ := trunc_frac hr0
  rw [← hder] at f0 f1
  have hA : v.tokens * (r.m - der * P) ≤ max (v.shares.m - shares.m + r.m) (v.tokens * P) - v.tokens := by
    have := Int.mul_le_mul_of_nonneg_left f1 hT
    rw [Int.mul_sub _ P, Int.mul_one] at this
    exact Int.le_trans this (Int.sub_le_sub_right (Int.le_max_right ..) _)
  have h := conversion_value d shares.m r.m (r.m - der * P) _ hv hv' t1 t2
    (by rw [hd1, hb1, Int.add_mul]; omega) hS hsh hr0 hT hcase
    (Int.le_trans hshd (Int.le_add_of_nonneg_right (Int.mul_nonneg hbal (by decide)))) hH f0 (Int.le_max_left ..) hA
  unfold ValueWithinOnePlusRate GainWithinTwo
  rw [tokensOf_some hv', sharesOf_some hv', t1, t2]
  rw [sharesOf_some hv', t2] at h
  exact ⟨⟨h.2.2, h.1⟩, h.2.1⟩

/-- after a successful transfer one share-ulp is worth at most one token: tokens ≤ shares (mantissa).
    (In the notation of `value_core`: S' ≥ 2T' − 1 and r ≥ amt — `issued_ge_moved` — give S' + r ≥ T.) -/
theorem transfer_post_tokens_le_shares (accts : List Addr) (hn : accts.Nodup) (g : Cfg) (c c2 : VSt) (frm to : Addr)
    (sh r : Dec) (hf : frm ∈ accts) (hne : frm ≠ to) (hwf : WF accts c) (hrate : SaneRate c)
    (hTpos : ∀ v, c.val = some v → 0 < v.tokens)
    (h : transfer g c frm to sh = .ok (c2, r)) : ∀ v', c2.val = some v' → v'.tokens ≤ v'.shares.m := by
  obtain ⟨v, v3, hv, hv3, t1, t2, hS, hsh, hshd, hdS, hr0, hT, hcase⟩ :=
    transfer_arith accts hn g c c2 frm to sh r hf hne hwf hrate hTpos h
  intro v' hv'
  rw [hv3] at hv'; cases hv'
  rw [t1, t2]
  rcases hcase with ⟨es, er⟩ | ⟨amt, c1', c2', c3', c4', c5', c6', c7', c8'⟩
  · rw [es, er, Int.sub_self, Int.zero_add]
    exact Int.le_trans (Int.le_of_eq (Int.mul_one _).symm) (Int.mul_le_mul_of_nonneg_left (by decide) hT)
  · have hra : amt ≤ r.m := issued_ge_moved c3' c2' c8' c7'
    omega

/-- value of the holder's stake across a burn: within two base units at ANY rate (nothing is floored on a burn,
    and the token left behind by `RemoveDelShares` is the only loss) -/
theorem burn_value_any_rate (accts : List Addr) (hn : accts.Nodup) (g : Cfg) (M : Addr)
    (c c' : VSt) (d : Addr) (amount : Int) (r : Dec) (hM : M ∈ accts) (hd : d ∈ accts) (hne : d ≠ M)
    (hwf : WF accts c) (hrate : SaneRate c) (hTpos : ∀ v, c.val = some v → 0 < v.tokens)
    (hH : dm c d + c.bal d * P ≤ sharesOf c)
    (h : burn g M c d amount = .ok (c', r)) : ValueWithinTwo c c' d := by
  obtain ⟨hbal, ht⟩ := burn_effect h
  have hwf0 : WF accts { c with bal := updI c.bal d (c.bal d - amount), supply := c.supply - amount } := hwf
  have hrate0 : SaneRate { c with bal := updI c.bal d (c.bal d - amount), supply := c.supply - amount } := hrate
  exact burn_value accts hn g M c c' d amount r hM hd hne hwf hrate hTpos hH
    (transfer_post_tokens_le_shares accts hn g _ c' M d _ r hM (fun e => hne e.symm) hwf0 hrate0 hTpos ht) h

theorem valueWithinOnePlusRate_of_two {c c' : VSt} {a : Addr} (h0 : 0 ≤ sharesOf c) (h : ValueWithinTwo c c' a) :
    ValueWithinOnePlusRate c c' a := by
  unfold ValueWithinOnePlusRate
  unfold ValueWithinTwo at h
  have hm : sharesOf c * sharesOf c' ≤ sharesOf c * max (sharesOf c') (tokensOf c' * P) :=
    Int.mul_le_mul_of_nonneg_left (by omega) h0
  have e : 2 * sharesOf c * sharesOf c' = sharesOf c * sharesOf c' + sharesOf c * sharesOf c' := by
    rw [Int.mul_assoc, Int.two_mul]
  rw [e] at h
  exact ⟨by omega, by omega⟩

end KV.Liquid
