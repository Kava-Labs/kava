/-
  C04: the components of the invariant `Inv` as predicates on plain data
  (CDP table, index lists, deposit table, module balance) and their preservation by point updates.
  Core Lean only.
-/
import KavaVerif.Proofs.CdpBase

namespace KV.Cdp
open KV

/-- the ratio index *is* the image of the CDP table under `cdp ↦ (type, key(cdp), id)`:
    every CDP is indexed exactly once, under its current ratio, and the list is in store order -/
def IdxOk (E : Env) (cdp : Nat → Option Cdp) (idx : List Entry) : Prop :=
  (∀ e : Entry, e ∈ idx ↔ ∃ c, cdp e.2.2 = some c ∧ e.1 = c.ty ∧ e.2.1 = keyOf E c) ∧ idx.Nodup ∧ Sorted idx

theorem idx_new {E : Env} {cdp : Nat → Option Cdp} {idx : List Entry} {id : Nat} {c : Cdp}
    (h : IdxOk E cdp idx) (ho : cdp id = none) :
    IdxOk E (upd cdp id (some c)) (insertKey (c.ty, keyOf E c, id) idx) := by
  obtain ⟨hm, hn, hs⟩ := h
  refine ⟨fun e => ?_, nodup_insertKey _ _ hn, sorted_insertKey _ _ hs⟩
  rw [mem_insertKey, hm e]
  by_cases hid : e.2.2 = id
  · rw [hid, upd_same, ho]
    constructor
    · rintro (rfl | ⟨_, hc, -⟩)
      · exact ⟨c, rfl, rfl, rfl⟩
      · cases hc
    · rintro ⟨c', hc', h1, h2⟩
      cases hc'
      exact .inl ((entry_ext _ _).2 ⟨h1, h2, hid⟩)
  · rw [upd_other hid]
    exact ⟨fun h => h.resolve_left fun he => hid (congrArg (·.2.2) he), Or.inr⟩

theorem idx_delete {E : Env} {cdp : Nat → Option Cdp} {idx : List Entry} {id : Nat} {old : Cdp}
    (h : IdxOk E cdp idx) (ho : cdp id = some old) :
    IdxOk E (upd cdp id none) (removeKey (old.ty, keyOf E old, id) idx) := by
  obtain ⟨hm, hn, hs⟩ := h
  refine ⟨fun e => ?_, nodup_removeKey _ _ hn, sorted_removeKey _ _ hs⟩
  rw [mem_removeKey, hm e]
  by_cases hid : e.2.2 = id
  · rw [hid, upd_same, ho]
    constructor
    · rintro ⟨⟨c', hc', h1, h2⟩, hne⟩
      cases hc'
      exact absurd ((entry_ext _ _).2 ⟨h1, h2, hid⟩) hne
    · rintro ⟨_, hc, -⟩; cases hc
  · rw [upd_other hid]
    exact ⟨fun h => h.1, fun h => ⟨h, fun he => hid (congrArg (·.2.2) he)⟩⟩

theorem idx_update {E : Env} {cdp : Nat → Option Cdp} {idx : List Entry} {id : Nat} {old c : Cdp}
    (h : IdxOk E cdp idx) (ho : cdp id = some old) :
    IdxOk E (upd cdp id (some c)) (insertKey (c.ty, keyOf E c, id) (removeKey (old.ty, keyOf E old, id) idx)) :=
  upd_upd cdp id none (some c) ▸ idx_new (idx_delete h ho) (upd_same ..)

theorem idx_touch {E : Env} {cdp : Nat → Option Cdp} {idx : List Entry} {id : Nat} {old c : Cdp}
    (h : IdxOk E cdp idx) (ho : cdp id = some old) (hty : c.ty = old.ty) (hk : keyOf E c = keyOf E old) :
    IdxOk E (upd cdp id (some c)) idx := by
  obtain ⟨hm, hn, hs⟩ := h
  refine ⟨fun e => ?_, hn, hs⟩
  rw [hm e]
  by_cases hid : e.2.2 = id
  · rw [hid, upd_same, ho]
    constructor
    · rintro ⟨c', hc', h1, h2⟩; cases hc'; exact ⟨c, rfl, h1.trans hty.symm, h2.trans hk.symm⟩
    · rintro ⟨c', hc', h1, h2⟩; cases hc'; exact ⟨old, rfl, h1.trans hty, h2.trans hk⟩
  · rw [upd_other hid]

theorem idx_entry_of_cdp {E : Env} {cdp : Nat → Option Cdp} {idx : List Entry} {id : Nat} {c : Cdp}
    (h : IdxOk E cdp idx) (ho : cdp id = some c) : (c.ty, keyOf E c, id) ∈ idx :=
  (h.1 (c.ty, keyOf E c, id)).2 ⟨c, ho, rfl, rfl⟩

def OwnOk (cdp : Nat → Option Cdp) (own : Acct → List Nat) : Prop :=
  (∀ o id, id ∈ own o ↔ ∃ c, cdp id = some c ∧ c.owner = o) ∧ ∀ o, (own o).Nodup

theorem own_touch {cdp : Nat → Option Cdp} {own : Acct → List Nat} {id : Nat} {old c : Cdp}
    (h : OwnOk cdp own) (ho : cdp id = some old) (hown : c.owner = old.owner) :
    OwnOk (upd cdp id (some c)) own := by
  obtain ⟨hm, hn⟩ := h
  refine ⟨fun o j => ?_, hn⟩
  rw [hm o j]
  by_cases hj : j = id
  · rw [hj, upd_same, ho]
    constructor
    · rintro ⟨c', hc', h1⟩; cases hc'; exact ⟨c, rfl, hown.trans h1⟩
    · rintro ⟨c', hc', h1⟩; cases hc'; exact ⟨old, rfl, hown.symm.trans h1⟩
  · rw [upd_other hj]

theorem own_new {cdp : Nat → Option Cdp} {own : Acct → List Nat} {id : Nat} {c : Cdp}
    (h : OwnOk cdp own) (ho : cdp id = none) :
    OwnOk (upd cdp id (some c)) (upd own c.owner (addOwnerId id (own c.owner))) := by
  obtain ⟨hm, hn⟩ := h
  have hfresh : ∀ o, id ∉ own o := by
    intro o hin
    obtain ⟨c', hc', -⟩ := (hm o id).1 hin
    rw [ho] at hc'; cases hc'
  constructor
  · intro o j
    by_cases hoo : o = c.owner
    · subst hoo
      rw [upd_same]; unfold addOwnerId; rw [mem_insId]
      by_cases hj : j = id
      · subst hj; rw [upd_same]
        exact ⟨fun _ => ⟨c, rfl, rfl⟩, fun _ => Or.inl rfl⟩
      · rw [upd_other hj, ← hm]
        exact ⟨fun h => h.resolve_left hj, Or.inr⟩
    · rw [upd_other hoo]
      by_cases hj : j = id
      · subst hj; rw [upd_same]
        constructor
        · intro hin; exact absurd hin (hfresh o)
        · rintro ⟨c', hc', h1⟩; cases hc'; exact absurd h1.symm hoo
      · rw [upd_other hj]; exact hm o j
  · intro o
    by_cases hoo : o = c.owner
    · subst hoo; rw [upd_same]; exact nodup_insId _ _ (hfresh _) (hn _)
    · rw [upd_other hoo]; exact hn o

theorem own_delete {cdp : Nat → Option Cdp} {own : Acct → List Nat} {id : Nat} {old : Cdp}
    (h : OwnOk cdp own) (ho : cdp id = some old) :
    OwnOk (upd cdp id none) (upd own old.owner (removeOwnerId id (own old.owner))) := by
  obtain ⟨hm, hn⟩ := h
  constructor
  · intro o j
    by_cases hj : j = id
    · subst hj; rw [upd_same]
      constructor
      · intro hin
        by_cases hoo : o = old.owner
        · subst hoo; rw [upd_same, mem_removeOwnerId] at hin; exact absurd rfl hin.2
        · rw [upd_other hoo] at hin
          obtain ⟨c', hc', h1⟩ := (hm o j).1 hin
          rw [ho] at hc'; cases hc'; exact absurd h1.symm hoo
      · rintro ⟨c', hc', -⟩; cases hc'
    · rw [upd_other hj, ← hm o j]
      by_cases hoo : o = old.owner
      · subst hoo; rw [upd_same, mem_removeOwnerId]
        exact ⟨fun h => h.1, fun h => ⟨h, hj⟩⟩
      · rw [upd_other hoo]
  · intro o
    by_cases hoo : o = old.owner
    · subst hoo; rw [upd_same]; exact nodup_removeOwnerId _ _ (hn _)
    · rw [upd_other hoo]; exact hn o

def collOf (E : Env) (cdp : Nat → Option Cdp) (d : Denom) (id : Nat) : Int :=
  match cdp id with
  | some c => if denomOf E c.ty = d then c.coll else 0
  | none => 0

/-- (a) each CDP's collateral is the sum of its deposits, (b,c) there are no deposit records without a CDP or
    outside the account universe, (d) the cdp module account holds, per collateral denom, the sum of the
    collateral of all CDPs (hence of all deposits), (e) ids are allocated below `nextId` -/
def CollOk (E : Env) (cdp : Nat → Option Cdp) (dep : Nat → Acct → Int) (balC : Denom → Int) (nextId : Nat) : Prop :=
  (∀ id c, cdp id = some c → c.coll = sumAcc E.accts (dep id)) ∧
  (∀ id, cdp id = none → ∀ a, dep id a = 0) ∧
  (∀ id a, a ∉ E.accts → dep id a = 0) ∧
  (∀ d, 2 ≤ d → balC d = sumAcc (List.range nextId) (collOf E cdp d)) ∧
  (∀ id, nextId ≤ id → cdp id = none)

theorem collOf_upd (E : Env) (cdp : Nat → Option Cdp) (d : Denom) (id : Nat) (v : Option Cdp) :
    collOf E (upd cdp id v) d = upd (collOf E cdp d) id (collOf E (fun _ => v) d 0) := by
  funext x
  by_cases hx : x = id
  · subst hx; simp only [collOf, upd_same]
  · simp only [collOf, upd_other hx]

theorem lt_nextId {E : Env} {cdp : Nat → Option Cdp} {dep : Nat → Acct → Int} {balC : Denom → Int} {n id : Nat} {c : Cdp}
    (h : CollOk E cdp dep balC n) (ho : cdp id = some c) : id < n := by
  rcases Nat.lt_or_ge id n with h1 | h1
  · exact h1
  · have := h.2.2.2.2 id h1; rw [ho] at this; cases this

theorem upd2_row (dep : Nat → Acct → Int) (id : Nat) (a : Acct) (x : Int) :
    upd2 dep id a x = upd dep id (upd (dep id) a x) := by
  funext j b
  by_cases hj : j = id
  · subst hj; by_cases hb : b = a <;> simp [upd2, upd, hb]
  · simp [upd2, upd, hj]

/-- the custody clauses when table entry `id` becomes `v` and row `id` of the deposit table becomes `row` (an
    existing id, or the next free one): `v` and `row` must agree with each other, and the module balance moves by the
    change of that entry's collateral -/
theorem coll_upd {E : Env} {cdp : Nat → Option Cdp} {dep : Nat → Acct → Int} {balC balC' : Denom → Int} {n n' id : Nat}
    {v : Option Cdp} {row : Acct → Int} (h : CollOk E cdp dep balC n) (hid : id < n')
    (hn : n' = n ∨ n' = n + 1 ∧ id = n)
    (ha : ∀ c, v = some c → c.coll = sumAcc E.accts row) (hb : v = none → ∀ a, row a = 0)
    (hc : ∀ a, a ∉ E.accts → row a = 0)
    (hbal : ∀ d, 2 ≤ d → balC' d = balC d - collOf E cdp d id + collOf E (fun _ => v) d 0) :
    CollOk E (upd cdp id v) (upd dep id row) balC' n' := by
  obtain ⟨h1, h2, h3, h4, h5⟩ := h
  refine ⟨fun j c hj => ?_, fun j hj a => ?_, fun j a ha' => ?_, fun d hd => ?_, fun j hj => ?_⟩
  · by_cases hji : j = id
    · subst hji; rw [upd_same] at hj ⊢; exact ha c hj
    · rw [upd_other hji] at hj ⊢; exact h1 j c hj
  · by_cases hji : j = id
    · subst hji; rw [upd_same] at hj ⊢; exact hb hj a
    · rw [upd_other hji] at hj ⊢; exact h2 j hj a
  · by_cases hji : j = id
    · subst hji; rw [upd_same]; exact hc a ha'
    · rw [upd_other hji]; exact h3 j a ha'
  · have hr : sumAcc (List.range n') (collOf E cdp d) = sumAcc (List.range n) (collOf E cdp d) := by
      rcases hn with e | ⟨e, -⟩
      · rw [e]
      · rw [e, sumAcc_range_succ]; simp only [collOf, h5 n (Nat.le_refl n)]; omega
    rw [hbal d hd, h4 d hd, collOf_upd, sumAcc_upd List.nodup_range (List.mem_range.2 hid), hr]
  · rw [upd_other (by omega)]; exact h5 j (by omega)

theorem coll_touch {E : Env} {cdp : Nat → Option Cdp} {dep : Nat → Acct → Int} {balC : Denom → Int} {n id : Nat}
    {old c : Cdp} (h : CollOk E cdp dep balC n) (ho : cdp id = some old) (hty : c.ty = old.ty) (hc : c.coll = old.coll) :
    CollOk E (upd cdp id (some c)) dep balC n := by
  have := coll_upd (balC' := balC) (v := some c) (row := dep id) h (lt_nextId h ho) (.inl rfl)
    (fun c' e => by cases e; rw [hc]; exact h.1 id old ho) nofun (fun a => h.2.2.1 id a)
    (fun d _ => by simp only [collOf, ho, hty, hc]; omega)
  rwa [upd_self dep id _ rfl] at this

theorem coll_change {E : Env} {cdp : Nat → Option Cdp} {dep : Nat → Acct → Int} {balC balC' : Denom → Int} {n id : Nat}
    {old c : Cdp} {a : Acct} {δ : Int} (hnd : E.accts.Nodup) (ha : a ∈ E.accts)
    (h : CollOk E cdp dep balC n) (ho : cdp id = some old) (hty : c.ty = old.ty) (hc : c.coll = old.coll + δ)
    (hbal : ∀ d, 2 ≤ d → balC' d = balC d + (if denomOf E old.ty = d then δ else 0)) :
    CollOk E (upd cdp id (some c)) (upd2 dep id a (dep id a + δ)) balC' n := by
  rw [upd2_row]
  refine coll_upd h (lt_nextId h ho) (.inl rfl) (fun c' e => ?_) nofun (fun b hb => ?_) (fun d hd => ?_)
  · cases e; rw [sumAcc_upd hnd ha, hc, h.1 id old ho]; omega
  · rw [upd_other (fun e : b = a => hb (e ▸ ha))]; exact h.2.2.1 id b hb
  · rw [hbal d hd]; simp only [collOf, ho, hty, hc]; split <;> omega

theorem coll_new {E : Env} {cdp : Nat → Option Cdp} {dep : Nat → Acct → Int} {balC balC' : Denom → Int} {n : Nat}
    {c : Cdp} {a : Acct} (hnd : E.accts.Nodup) (ha : a ∈ E.accts)
    (h : CollOk E cdp dep balC n)
    (hbal : ∀ d, 2 ≤ d → balC' d = balC d + (if denomOf E c.ty = d then c.coll else 0)) :
    CollOk E (upd cdp n (some c)) (upd2 dep n a c.coll) balC' (n + 1) := by
  have hnone : cdp n = none := h.2.2.2.2 n (Nat.le_refl n)
  have h0 : ∀ b, dep n b = 0 := h.2.1 n hnone
  rw [upd2_row]
  refine coll_upd h (Nat.lt_succ_self n) (.inr ⟨rfl, rfl⟩) (fun c' e => ?_) nofun (fun b hb => ?_) (fun d hd => ?_)
  · cases e; rw [sumAcc_upd hnd ha, h0 a, sumAcc_zero _ _ (fun x _ => h0 x)]; omega
  · rw [upd_other (fun e : b = a => hb (e ▸ ha))]; exact h0 b
  · rw [hbal d hd]; simp only [collOf, hnone]; omega

theorem coll_delete {E : Env} {cdp : Nat → Option Cdp} {dep dep' : Nat → Acct → Int} {balC balC' : Denom → Int} {n id : Nat}
    {old : Cdp} (h : CollOk E cdp dep balC n) (ho : cdp id = some old)
    (hdep0 : ∀ a, dep' id a = 0) (hdep : ∀ j, j ≠ id → dep' j = dep j)
    (hbal : ∀ d, 2 ≤ d → balC' d = balC d - (if denomOf E old.ty = d then old.coll else 0)) :
    CollOk E (upd cdp id none) dep' balC' n := by
  have e : dep' = upd dep id (dep' id) := by
    funext j
    by_cases hj : j = id
    · subst hj; rw [upd_same]
    · rw [upd_other hj, hdep j hj]
  rw [e]
  exact coll_upd h (lt_nextId h ho) (.inl rfl) nofun (fun _ => hdep0) (fun a _ => hdep0 a)
    (fun d hd => by rw [hbal d hd]; simp only [collOf, ho]; omega)

/-- the custody clauses read the module balance in collateral denoms only -/
theorem coll_bal_eq {E : Env} {cdp : Nat → Option Cdp} {dep : Nat → Acct → Int} {balC balC' : Denom → Int} {n : Nat}
    (h : CollOk E cdp dep balC n) (hbal : ∀ d, 2 ≤ d → balC' d = balC d) : CollOk E cdp dep balC' n := by
  obtain ⟨h1, h2, h3, h4, h5⟩ := h
  exact ⟨h1, h2, h3, fun d hd => by rw [hbal d hd]; exact h4 d hd, h5⟩

def debtHeld (s : St) : Int := s.bal MCDP DEBT + s.bal MLIQ DEBT + s.bal MAUC DEBT

/-- usdx issued by the module (supply minus the genesis supply `g`) never exceeds the debt coins held by the
    cdp, liquidator and auction module accounts -/
def DebtOk (g : Int) (s : St) : Prop := s.supply USDX - g ≤ debtHeld s

/-- well-formed environment: accounts that can deposit are distinct user accounts; collateral denoms are
    neither usdx nor the debt coin -/
structure WF (E : Env) : Prop where
  nodup : E.accts.Nodup
  users : ∀ a, a ∈ E.accts → 3 ≤ a
  denoms : ∀ (ty : Nat) (cp : CollParam), E.P.colls[ty]? = some cp → 2 ≤ cp.denom

structure Inv (E : Env) (g : Int) (s : St) : Prop where
  idx : IdxOk E s.cdp s.idx
  own : OwnOk s.cdp s.own
  coll : CollOk E s.cdp s.dep (s.bal MCDP) s.nextId
  debt : DebtOk g s

end KV.Cdp
