/-
  Helper lemmas for C13 (x/bep3), part 5: operation sequences.  What one step does to the record of a
  given swap id and to the supply counters; the invariants along runs; the close count.
  Core Lean only.
-/
import KavaVerif.Proofs.Bep3Block
set_option linter.unusedSimpArgs false
set_option linter.unusedVariables false

namespace KV.Bep3

theorem findSwap_filterMap {l : List Swap} (hn : (ids l).Nodup) (f : Swap → Option Swap)
    (hf : ∀ x y, f x = some y → y.id = x.id) (id : Id) :
    findSwap (l.filterMap f) id = (findSwap l id).bind f := by
  induction l with
  | nil => rfl
  | cons x xs ih =>
    have hnd := nodup_ids_cons.mp hn
    have ih' := ih hnd.2
    simp only [List.filterMap_cons]
    cases hfx : f x with
    | none =>
      simp only []
      rw [ih', findSwap_cons]
      by_cases hx : x.id = id
      · simp only [hx, ite_true, Option.bind_some, hfx]
        have : findSwap xs id = none := by
          apply findSwap_none_iff.mpr
          intro sw hm he
          apply hnd.1
          rw [hx, ← he]; exact mem_ids hm
        rw [this]; rfl
      · simp only [hx, ite_false]
    | some y =>
      simp only []
      have hy := hf x y hfx
      rw [findSwap_cons, findSwap_cons, hy]
      by_cases hx : x.id = id
      · simp only [hx, ite_true, Option.bind_some, hfx]
      · simp only [hx, ite_false]
        exact ih'

theorem find_begin {cfg : Cfg} {hs : Hashes} {s : St} (h : Inv cfg hs s) (dh : Nat) (dt : Int) (x : Id) :
    findSwap (beginBlock hs s dh dt).swaps x = (findSwap s.swaps x).bind (blockFate (s.height + dh)) := by
  rw [(beginBlock_eq h dh dt).2]
  exact findSwap_filterMap h.nodup _ (fun _ _ hf => by rcases blockFate_some hf with rfl | rfl <;> rfl) x

/-- a failed operation keeps the state; a successful one yields its result -/
theorem step_eq (cfg : Cfg) (hs : Hashes) (s : St) (op : Op) :
    (step cfg hs s op = s ∧ (apply cfg hs s op).isOk = false) ∨
    ∃ s', apply cfg hs s op = .ok s' ∧ step cfg hs s op = s' := by
  unfold step
  cases apply cfg hs s op with
  | ok s' => exact Or.inr ⟨s', rfl, rfl⟩
  | err => exact Or.inl ⟨rfl, rfl⟩
  | panic => exact Or.inl ⟨rfl, rfl⟩

/-- operations a transaction can carry: the creator of a swap is never the module account -/
def OpOk (cfg : Cfg) : Op → Prop
  | .create _ _ _ sender _ _ _ => sender ≠ cfg.module
  | _ => True

theorem inv_step {cfg : Cfg} {hs : Hashes} {s : St} (hcfg : cfg.macc cfg.module = true) (h : Inv cfg hs s)
    (op : Op) (hop : OpOk cfg op) : Inv cfg hs (step cfg hs s op) := by
  rcases step_eq cfg hs s op with ⟨e, -⟩ | ⟨s', hok, e⟩ <;> rw [e]
  · exact h
  cases op with
  | create hash ts span sender rcp other coins => exact create_inv h hop hok
  | claim frm id rn => exact claim_inv h hcfg hok
  | refund frm id => exact refund_inv h hok
  | beginBlock dh dt => cases hok; exact (beginBlock_eq h dh dt).1
  | setLimit d l tl p tbl act => cases hok; exact setLimit_inv h d l tl p tbl act
  | setDeputy d dep => cases hok; exact setDeputy_inv h d dep

theorem run_induct {cfg : Cfg} {hs : Hashes} (hcfg : cfg.macc cfg.module = true) {P : St → Prop} {Q : Op → Prop}
    (hstep : ∀ s op, Inv cfg hs s → P s → Q op → P (step cfg hs s op)) :
    ∀ (ops : List Op) (s : St), Inv cfg hs s → P s → (∀ op ∈ ops, OpOk cfg op ∧ Q op) →
      Inv cfg hs (run cfg hs s ops) ∧ P (run cfg hs s ops) := by
  intro ops
  induction ops with
  | nil => intro s h hp _; exact ⟨h, hp⟩
  | cons op rest ih =>
    intro s h hp hops
    have ho := hops op List.mem_cons_self
    exact ih _ (inv_step hcfg h op ho.1) (hstep s op h hp ho.2) (fun o hm => hops o (List.mem_cons_of_mem _ hm))

/-- the operation is a claim or a refund of swap `x` -/
def closesId : Op → Id → Bool
  | .claim _ id _, x => id == x
  | .refund _ id, x => id == x
  | _, _ => false

/-- the operation is a create whose swap id is `x` -/
def createsId (hs : Hashes) : Op → Id → Prop
  | .create hash _ _ sender _ other _, x => hs.sid hash sender other = x
  | _, _ => False

/-- The changes one operation may make to the record stored under swap id `x`
    (`none` = no record).  Anything else is impossible (theorem `trans_step`). -/
inductive Trans (hs : Hashes) (s : St) (op : Op) (x : Id) : Option Swap → Option Swap → Prop
  /-- untouched -/
  | same (r : Option Swap) : Trans hs s op x r r
  /-- created open by a create whose swap id is `x`, only when no record existed -/
  | created (n : Swap) : createsId hs op x → n.status = .open → n.closed = 0 → Trans hs s op x none (some n)
  /-- open → completed, by a claim of `x` carrying a preimage of the hash -/
  | claimed (sw : Swap) (frm : Addr) (rn : Nat) : op = .claim frm x rn → sw.status = .open →
      hs.sid (hs.H rn sw.ts) sw.sender sw.other = hs.sid sw.hash sw.sender sw.other →
      Trans hs s op x (some sw) (some (done s.height sw))
  /-- expired → completed, by a refund of `x`, at or after the expire height -/
  | refunded (sw : Swap) (frm : Addr) : op = .refund frm x → sw.status = .expired → sw.expire ≤ s.height →
      Trans hs s op x (some sw) (some (done s.height sw))
  /-- open → expired, by the begin blocker of a block at or after the expire height -/
  | expired (sw : Swap) (dh : Nat) (dt : Int) : op = .beginBlock dh dt → sw.status = .open →
      sw.expire ≤ s.height + dh → Trans hs s op x (some sw) (some (expd sw))
  /-- completed → deleted, by the begin blocker of a block at or after closed block + horizon -/
  | pruned (sw : Swap) (dh : Nat) (dt : Int) : op = .beginBlock dh dt → sw.status = .completed →
      sw.closed + horizon ≤ s.height + dh → Trans hs s op x (some sw) none

theorem trans_step {cfg : Cfg} {hs : Hashes} {s : St} (h : Inv cfg hs s) (op : Op) (x : Id) :
    Trans hs s op x (findSwap s.swaps x) (findSwap (step cfg hs s op).swaps x) := by
  rcases step_eq cfg hs s op with ⟨e, -⟩ | ⟨s', hok, e⟩ <;> rw [e]
  · exact .same _
  cases op with
  | create hash ts span sender rcp other coins =>
    obtain ⟨d, amt, a, dir, sup, bal', -, c, rfl⟩ := create_spec hok
    show Trans hs s _ x _ (if hs.sid hash sender other = x then _ else _)
    split
    · rename_i hx; subst hx; rw [c.fresh]; exact .created _ rfl rfl rfl
    · exact .same _
  | claim frm id rn =>
    obtain ⟨sw, sup, bal, bs, c, rfl⟩ := claim_spec hok
    rw [find_closed h c.find (Or.inl rfl)]
    split
    · rename_i hx; subst hx; rw [c.find]; exact .claimed sw frm rn rfl c.isOpen c.pre
    · exact .same _
  | refund frm id =>
    obtain ⟨sw, sup, bal, c, rfl⟩ := refund_spec hok
    rw [find_closed h c.find (Or.inr c.isExpired)]
    split
    · rename_i hx; subst hx; rw [c.find]
      exact .refunded sw frm rfl c.isExpired (h.exp sw (findSwap_some c.find).1 c.isExpired)
    · exact .same _
  | beginBlock dh dt =>
    cases hok
    rw [find_begin h dh dt x]
    cases hf : findSwap s.swaps x with
    | none => exact .same _
    | some sw =>
      show Trans hs s _ x _ (blockFate (s.height + dh) sw)
      unfold blockFate
      split
      · rename_i hc; exact .pruned sw dh dt rfl hc.1 hc.2
      · split
        · rename_i ho; exact .expired sw dh dt rfl ho.1 ho.2
        · exact .same _
  | setLimit d l tl p tbl act => cases hok; exact .same _
  | setDeputy d dep => cases hok; exact .same _

/-- number of successful claims and refunds of swap `x` along the run of `ops` from `s` -/
def closeCount (cfg : Cfg) (hs : Hashes) : St → List Op → Id → Nat
  | _, [], _ => 0
  | s, op :: rest, x =>
    (if closesId op x && (apply cfg hs s op).isOk then 1 else 0) + closeCount cfg hs (step cfg hs s op) rest x

/-- swap `x` exists and is not completed -/
def liveAt (s : St) (x : Id) : Prop := ∃ sw, findSwap s.swaps x = some sw ∧ sw.status ≠ .completed

theorem close_kills {cfg : Cfg} {hs : Hashes} {s : St} (h : Inv cfg hs s) {op : Op} {x : Id}
    (hc : closesId op x = true) (hok : (apply cfg hs s op).isOk = true) :
    liveAt s x ∧ ¬ liveAt (step cfg hs s op) x := by
  rcases step_eq cfg hs s op with ⟨-, hno⟩ | ⟨s', e, e'⟩
  · rw [hok] at hno; cases hno
  rw [e']
  have key : ∀ sw, findSwap s.swaps x = some sw → sw.status ≠ .completed →
      findSwap s'.swaps x = some (done s.height sw) → liveAt s x ∧ ¬ liveAt s' x :=
    fun sw hf hnc hf' => ⟨⟨sw, hf, hnc⟩, fun ⟨y, hy, hny⟩ => hny (by rw [hf'] at hy; cases hy; rfl)⟩
  cases op with
  | claim frm id rn =>
    obtain rfl : id = x := by simpa [closesId] using hc
    obtain ⟨sw, sup, bal, bs, c, rfl⟩ := claim_spec (show claim cfg hs s id rn = .ok s' from e)
    refine key sw c.find (by rw [c.isOpen]; exact Status.noConfusion) ?_
    exact (find_closed h c.find (Or.inl rfl) id).trans (if_pos rfl)
  | refund frm id =>
    obtain rfl : id = x := by simpa [closesId] using hc
    obtain ⟨sw, sup, bal, c, rfl⟩ := refund_spec (show refund cfg hs s id = .ok s' from e)
    refine key sw c.find (by rw [c.isExpired]; exact Status.noConfusion) ?_
    exact (find_closed h c.find (Or.inr c.isExpired) id).trans (if_pos rfl)
  | create _ _ _ _ _ _ _ => cases hc
  | beginBlock _ _ => cases hc
  | setLimit _ _ _ _ _ _ => cases hc
  | setDeputy _ _ => cases hc

theorem live_back {cfg : Cfg} {hs : Hashes} {s : St} (h : Inv cfg hs s) {op : Op} {x : Id}
    (hnc : ¬ createsId hs op x) (hl : liveAt (step cfg hs s op) x) : liveAt s x := by
  have t := trans_step (cfg := cfg) h op x
  unfold liveAt at hl ⊢
  generalize findSwap (step cfg hs s op).swaps x = r' at t hl
  generalize findSwap s.swaps x = r at t
  obtain ⟨y, rfl, hny⟩ := hl
  cases t with
  | same => exact ⟨y, rfl, hny⟩
  | created n hc => exact absurd hc hnc
  | claimed sw => exact absurd rfl hny
  | refunded sw => exact absurd rfl hny
  | expired sw dh dt _ ho => exact ⟨sw, rfl, by rw [ho]; exact Status.noConfusion⟩

/-- what a step adds to the current supply (and to the bank supply) of denomination `d` -/
def claimDelta (cfg : Cfg) (hs : Hashes) (s : St) (op : Op) (d : Denom) : Int :=
  match op with
  | .claim _ id rn =>
    match findSwap s.swaps id with
    | some sw =>
      if (claim cfg hs s id rn).isOk = true ∧ sw.denom = d then
        (match sw.dir with | .incoming => sw.amt | .outgoing => - sw.amt)
      else 0
    | none => 0
  | _ => 0

/-- net claimed amount of denomination `d` along a run: Σ claimed incoming − Σ claimed outgoing -/
def netClaimed (cfg : Cfg) (hs : Hashes) : St → List Op → Denom → Int
  | _, [], _ => 0
  | s, op :: rest, d => claimDelta cfg hs s op d + netClaimed cfg hs (step cfg hs s op) rest d

theorem current_step {cfg : Cfg} {hs : Hashes} {s : St} (h : Inv cfg hs s) (op : Op) (d : Denom) :
    ((step cfg hs s op).supply d).current = (s.supply d).current + claimDelta cfg hs s op d ∧
    (step cfg hs s op).bankSupply d = s.bankSupply d + claimDelta cfg hs s op d := by
  have h0 : ∀ {t : St}, (t.supply d).current = (s.supply d).current → t.bankSupply = s.bankSupply →
      (t.supply d).current = (s.supply d).current + 0 ∧ t.bankSupply d = s.bankSupply d + 0 :=
    fun e1 e2 => ⟨e1.trans (Int.add_zero _).symm, e2 ▸ (Int.add_zero _).symm⟩
  rcases step_eq cfg hs s op with ⟨e, hno⟩ | ⟨s', hok, e⟩ <;> rw [e]
  · have : claimDelta cfg hs s op d = 0 := by
      cases op with
      | claim frm id rn =>
        have hno' : (claim cfg hs s id rn).isOk = false := hno
        simp only [claimDelta, hno', Bool.false_eq_true, false_and, if_false]
        split <;> rfl
      | _ => rfl
    rw [this]; exact h0 rfl rfl
  cases op with
  | create hash ts span sender rcp other coins =>
    obtain ⟨d0, amt, a, dir, sup, bal', -, c, rfl⟩ := create_spec hok
    refine h0 (upd_proj (·.current) ?_ d) rfl
    rcases c.side with ⟨-, k⟩ | ⟨-, k⟩ <;> rw [k.sup_eq]
  | claim frm id rn =>
    obtain ⟨sw, sup, bal, bs, c, rfl⟩ := claim_spec hok
    have hdl : claimDelta cfg hs s (.claim frm id rn) d =
        if d = sw.denom then (match sw.dir with | .incoming => sw.amt | .outgoing => - sw.amt) else 0 := by
      have hok' : claim cfg hs s id rn = .ok _ := hok
      unfold claimDelta
      simp only [c.find, hok', Res.isOk, true_and, show (sw.denom = d) = (d = sw.denom) from propext eq_comm]
    rw [hdl]
    rcases c.side with ⟨hd, a, k⟩ | ⟨hd, k⟩ <;> rw [hd, k.sup_eq]
    · exact ⟨upd_add Supply.current rfl d, k.bs_eq d⟩
    · exact ⟨upd_add Supply.current (Int.sub_eq_add_neg ..) d, k.bs_eq d⟩
  | refund frm id =>
    obtain ⟨sw, sup, bal, c, rfl⟩ := refund_spec hok
    refine h0 (upd_proj (·.current) ?_ d) rfl
    rcases c.side with ⟨-, k⟩ | ⟨-, k⟩ <;> rw [k.sup_eq]
  | beginBlock dh dt =>
    cases hok
    exact h0 (beginBlock_kept h dh dt d).cur (by rw [(beginBlock_eq h dh dt).2])
  | setLimit d' l tl p tbl act => cases hok; exact h0 rfl rfl
  | setDeputy d' dep => cases hok; exact h0 rfl rfl

/-- the operation is not a deputy rotation -/
def notSetDeputy : Op → Prop
  | .setDeputy _ _ => False
  | _ => True

/-- every stored swap is incoming exactly when its sender is the deputy of its asset (an invariant only while
    governance leaves the deputies alone: a rotation changes the deputy, never a stored swap) -/
def DeputyInv (s : St) : Prop :=
  ∀ sw ∈ s.swaps, ∀ a, getAsset s.assets sw.denom = some a → (sw.dir = .incoming ↔ sw.sender = a.deputy)

theorem deputy_step {cfg : Cfg} {hs : Hashes} {s : St} (h : Inv cfg hs s)
    (hd : DeputyInv s) (op : Op) (hnd : notSetDeputy op) : DeputyInv (step cfg hs s op) := by
  rcases step_eq cfg hs s op with ⟨e, -⟩ | ⟨s', hok, e⟩ <;> rw [e]
  · exact hd
  cases op with
  | create hash ts span sender rcp other coins =>
    obtain ⟨d, amt, a, dir, sup, bal', -, c, rfl⟩ := create_spec hok
    refine List.forall_mem_cons.mpr ⟨fun a' ha' => ?_, hd⟩
    obtain rfl : a = a' := Option.some.inj (c.asset.symm.trans ha')
    rcases c.side with ⟨rfl, k⟩ | ⟨rfl, k⟩
    · exact ⟨fun _ => k.dep, fun _ => rfl⟩
    · exact ⟨fun e => (by cases e), fun e => absurd e k.dep⟩
  | claim frm id rn =>
    obtain ⟨sw, sup, bal, bs, c, rfl⟩ := claim_spec hok
    rw [closeSwap_eq h c.find (Or.inl rfl)]
    exact forall_mem_replace hd (hd sw (findSwap_some c.find).1)
  | refund frm id =>
    obtain ⟨sw, sup, bal, c, rfl⟩ := refund_spec hok
    rw [closeSwap_eq h c.find (Or.inr c.isExpired)]
    exact forall_mem_replace hd (hd sw (findSwap_some c.find).1)
  | beginBlock dh dt =>
    cases hok
    rw [(beginBlock_eq h dh dt).2]
    intro y hy a ha
    obtain ⟨x, hx, hf⟩ := List.mem_filterMap.mp hy
    rcases blockFate_some hf with rfl | rfl
    · exact hd y hx a ha
    · exact hd x hx a ha
  | setLimit d l tl p tbl act =>
    cases hok
    intro y hy a ha
    obtain ⟨a0, hg, e' | e'⟩ := getAsset_map_some
      (f := fun a => { a with limit := l, timeLimited := tl, period := p, tbl := tbl, active := act }) ha <;>
      rw [e'] <;> exact hd y hy a0 hg
  | setDeputy d dep => exact hnd.elim

/-- current + incoming within the limit, and (time-limited assets) time-limited current + incoming within
    the time-based limit -/
def LimInv (s : St) : Prop :=
  ∀ d a, getAsset s.assets d = some a →
    (s.supply d).current + (s.supply d).incoming ≤ a.limit ∧
    (a.timeLimited = true → (s.supply d).tlCurrent + (s.supply d).incoming ≤ a.tbl) ∧
    0 ≤ (s.supply d).tlCurrent

def notSetLimit : Op → Prop
  | .setLimit _ _ _ _ _ _ => False
  | _ => True

/-- the supply record `sup` is within the limits of the asset `a` (what `LimInv` says of every asset) -/
abbrev Within (a : Asset) (sup : Supply) : Prop :=
  sup.current + sup.incoming ≤ a.limit ∧ (a.timeLimited = true → sup.tlCurrent + sup.incoming ≤ a.tbl) ∧
  0 ≤ sup.tlCurrent

theorem within_kept {a : Asset} {old new : Supply} (h : Within a old) (k : Kept old new) : Within a new := by
  obtain ⟨l1, l2, l3⟩ := h
  have := k.inc
  have := k.cur
  refine ⟨by omega, fun ht => ?_, ?_⟩
  · have := l2 ht
    rcases k.tl with t | t <;> omega
  · rcases k.tl with t | t <;> omega

theorem lim_upd {s : St} (hl : LimInv s) {d0 : Denom} {sup : Supply}
    (h0 : ∀ a, getAsset s.assets d0 = some a → Within a sup) (d : Denom) (a : Asset)
    (ha : getAsset s.assets d = some a) : Within a (upd s.supply d0 sup d) := by
  unfold upd; split
  · rename_i hd; subst hd; exact h0 a ha
  · exact hl d a ha

theorem lim_step {cfg : Cfg} {hs : Hashes} {s : St} (h : Inv cfg hs s)
    (hl : LimInv s) (op : Op) (hns : notSetLimit op) : LimInv (step cfg hs s op) := by
  rcases step_eq cfg hs s op with ⟨e, -⟩ | ⟨s', hok, e⟩ <;> rw [e]
  · exact hl
  cases op with
  | create hash ts span sender rcp other coins =>
    obtain ⟨d0, amt, a0, dir, sup, bal', -, c, rfl⟩ := create_spec hok
    refine lim_upd hl fun a ha => ?_
    obtain rfl : a0 = a := Option.some.inj (c.asset.symm.trans ha)
    obtain ⟨l1, l2, l3⟩ := hl d0 a0 ha
    rcases c.side with ⟨-, k⟩ | ⟨-, k⟩ <;> rw [k.sup_eq]
    · dsimp only [Within]
      exact ⟨by have := k.lim; omega, fun ht => by have := k.tlim ht; omega, l3⟩
    · exact ⟨l1, l2, l3⟩
  | claim frm id rn =>
    obtain ⟨sw, sup, bal, bs, c, rfl⟩ := claim_spec hok
    have hpos := h.pos sw (findSwap_some c.find).1
    refine lim_upd hl fun a ha => ?_
    obtain ⟨l1, l2, l3⟩ := hl sw.denom a ha
    rcases c.side with ⟨-, a', k⟩ | ⟨-, k⟩ <;> rw [k.sup_eq] <;> dsimp only [Within]
    · obtain rfl : a' = a := Option.some.inj (k.asset.symm.trans ha)
      refine ⟨by omega, fun ht => ?_, ?_⟩
      · have := l2 ht; have := k.tlim ht; rw [if_pos ht]; omega
      · split <;> omega
    · exact ⟨by omega, l2, l3⟩
  | refund frm id =>
    obtain ⟨sw, sup, bal, c, rfl⟩ := refund_spec hok
    have hpos := h.pos sw (findSwap_some c.find).1
    refine lim_upd hl fun a ha => ?_
    obtain ⟨l1, l2, l3⟩ := hl sw.denom a ha
    rcases c.side with ⟨-, k⟩ | ⟨-, k⟩ <;> rw [k.sup_eq]
    · dsimp only [Within]
      exact ⟨by omega, fun ht => by have := l2 ht; omega, l3⟩
    · exact ⟨l1, l2, l3⟩
  | beginBlock dh dt =>
    cases hok
    intro d a ha
    rw [(beginBlock_eq h dh dt).2] at ha
    exact within_kept (hl d a ha) (beginBlock_kept h dh dt d)
  | setLimit d l tl p tbl act => exact hns.elim
  | setDeputy dq depq =>
    cases hok
    intro d a ha
    obtain ⟨a0, hg, e' | e'⟩ := getAsset_map_some (f := fun a => { a with deputy := depq }) ha <;>
      rw [e'] <;> exact hl d a0 hg

end KV.Bep3
