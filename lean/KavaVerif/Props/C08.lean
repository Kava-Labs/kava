/-
  C08 — Hard: LTV gate, liquidation only of unsafe positions, monotone interest.

  "After any successful borrow or withdrawal the account's borrowed value is within the loan-to-value limit of
   its deposits at current prices, and a position within that limit cannot be liquidated by anyone. A
   liquidation removes only the liquidated borrower's deposit and borrow, pays the keeper at most the
   configured reward share, and auctions or returns the rest (except the part the market cannot pay out for
   lack of cash in that denomination, which stays in the pool); it never moves more than the borrower's
   deposit out of the module and never changes another user's position. With no action by the user a
   deposit's claimable amount and a borrow's owed amount never decrease as interest accrues, and withdrawals
   and repayments never exceed the synced deposit and debt."

  Model: KavaVerif/Model/Hard.lean (borrow.go, withdraw.go, deposit.go, repay.go, liquidation.go, interest.go
  transcribed; the per-second interest factor is a parameter).  The property statements live here; the lemmas
  they rest on are in KavaVerif/Proofs/Hard*.lean.
-/
import KavaVerif.Proofs.HardListing
import KavaVerif.Generated.Consts
import KavaVerif.Proofs.TieFnHard
set_option linter.unusedVariables false

namespace KV.Hard
open KV

/-- interest.go `scalingFactor` (regenerated from the source) is the Dec precision the model uses -/
theorem C08_scaling_factor : KV.Gen.hardScalingFactor = P := by decide

/-- "After any successful … withdrawal the account's borrowed value is within the loan-to-value limit of its
    deposits at current prices": `Withdraw` accepts only if `IsWithinValidLtvRange` — the routine liquidation
    uses — holds for exactly the deposit and borrow it then stores. -/
theorem C08_withdraw_within_ltv (cfg : Cfg) (s s' : St) (u : User) (coins : Coins)
    (h : withdraw cfg s u coins = .ok s') : isWithinLtv cfg (s'.dep u) (s'.bor u) = .ok true := by
  obtain ⟨s1, s2, -, -, hw, rfl⟩ := withdraw_ok h
  simp only [upd_same]
  exact hw

example : (withdraw W.cfg W.st 0 W.one0).isOk = true := by decide +kernel

/-- "a position within that limit cannot be liquidated by anyone": if the position as
    `AttemptKeeperLiquidation` syncs it is within range, the attempt fails for every keeper. -/
theorem C08_within_ltv_not_liquidatable (cfg : Cfg) (s s1 s2 : St) (borrower : User)
    (h1 : syncBorrow cfg s borrower = .ok s1) (h2 : syncSupply cfg s1 borrower = .ok s2)
    (hw : isWithinLtv cfg (s2.dep borrower) (s2.bor borrower) = .ok true) :
    ∀ keeper, (liquidate cfg s keeper borrower).isOk = false := by
  intro keeper
  cases hl : liquidate cfg s keeper borrower with
  | ok s' =>
    obtain ⟨t1, t2, z, e1, e2, ew, -, -⟩ := liquidate_ok hl
    rw [h1] at e1; cases e1
    rw [h2] at e2; cases e2
    rw [hw] at ew; cases ew
  | err e => rfl
  | panic => rfl

/-- conversely, every successful liquidation was of a position outside the range -/
theorem C08_liquidated_was_outside (cfg : Cfg) (s s' : St) (keeper borrower : User)
    (h : liquidate cfg s keeper borrower = .ok s') :
    ∃ s1 s2, syncBorrow cfg s borrower = .ok s1 ∧ syncSupply cfg s1 borrower = .ok s2 ∧
      isWithinLtv cfg (s2.dep borrower) (s2.bor borrower) = .ok false := by
  obtain ⟨s1, s2, z, h1, h2, hw, -, -⟩ := liquidate_ok h
  exact ⟨s1, s2, h1, h2, hw⟩

example : syncedWithin W.cfg W.st 0 = true := by decide +kernel

/-- "After any successful borrow … the account's borrowed value is within the loan-to-value limit of its deposits
    at current prices": since fix 68803c96d `ValidateBorrow` — besides comparing Σ value(new) with
    Σ value(deposit)·LTV − Σ value(existing) — requires `IsWithinValidLtvRange` (the routine liquidation uses) on the
    position that will be stored, existing and new coins merged per denom.  (Finding F5, fixed:
    findings/C08-borrow-ltv-rounding.md.) -/
theorem C08_borrow_within_ltv (cfg : Cfg) (cash reserves totB dep bor new : Coins)
    (h : validateBorrow cfg cash reserves totB dep bor new = .ok ()) :
    isWithinLtv cfg dep (addC bor new) = .ok true :=
  (validateBorrow_ok h).within

example : validateBorrow W.cfg W.big zeroC zeroC W.dep W.half W.small = .ok () := by decide +kernel

/-- the former F5 witness (cf 10^6, price 1.000000000000000001, borrowing power 1.0, 500000 existing + 500000 new:
    0.5 + 0.5 ≤ 1.0 but the merged borrow is worth 1.000000000000000001) is now refused -/
example : validateBorrow W.cfg W.big zeroC zeroC W.dep W.half W.half = .err .insufficientLtv := by decide +kernel

/-- the same for the keeper's `Borrow` (which syncs the position first): the stored position is within the range as
    liquidation computes it. -/
theorem C08_borrow_within_ltv_keeper (cfg : Cfg) (s s' : St) (u : User) (coins : Coins)
    (h : borrow cfg s u coins = .ok s') : isWithinLtv cfg (s'.dep u) (s'.bor u) = .ok true := by
  obtain ⟨s1, s2, -, -, hv, rfl⟩ := borrow_ok h
  simp only [upd_same]
  exact C08_borrow_within_ltv cfg _ _ _ _ _ _ hv

example : (borrow W.cfg W.st 0 W.small).isOk = true := by decide +kernel
example : borrowKeepsWithin W.cfg W.st 0 W.small = true := by decide +kernel
/-- the second `Borrow` of 500000 of the former witness is refused by the keeper -/
example : (borrow W.cfg W.st 0 W.half).isOk = false := by decide +kernel

/-- … hence the position `Borrow` just stored cannot be liquidated by anyone in the same block (same prices and
    indexes; re-syncing at the factors just used adds nothing; factors between 0 and 10^18). -/
theorem C08_borrow_then_not_liquidatable (cfg : Cfg) (s s' : St) (u : User) (coins : Coins) (hc : ∀ d, 0 ≤ coins d)
    (hB : ∀ d ∈ cfg.ds, ∀ v, s.brwIdx d = some v → 0 ≤ v ∧ v ≤ P * P)
    (hS : ∀ d ∈ cfg.ds, ∀ v, s.supIdx d = some v → 0 ≤ v)
    (h : borrow cfg s u coins = .ok s') : ∀ keeper, (liquidate cfg s' keeper u).isOk = false := by
  obtain ⟨eb, es, hbi, hdi⟩ := borrow_fresh h
  refine fresh_not_liquidatable hbi hdi (fun d hd => ?_) (fun d hd => ?_) (C08_borrow_within_ltv_keeper cfg s s' u coins h)
  · rw [eb]
    split
    · decide
    · exact getD_zero_bounds _ (hB d hd)
  · rw [es]; exact getD_zero_nonneg _ (hS d hd)

/-- why the extra check was needed: for conversion factors dividing 10^18 the value of a merged borrow exceeds the sum
    of the separately rounded values by at most one ulp (10^-18 USD) per denom present in both — and can exceed it. -/
theorem C08_merged_valuation_within_ulp (cfg : Cfg) (hx : ExactCf cfg) (bor new : Coins)
    (hb : ∀ d, 0 ≤ bor d) (hn : ∀ d, 0 ≤ new d) :
    valueOf cfg (addC bor new) ≤ valueOf cfg bor + valueOf cfg new +
      ((cfg.ds.filter (fun d => decide (0 < bor d) && decide (0 < new d))).length : Int) :=
  valueOf_add_le' cfg hx bor new (fun d _ => hb d) (fun d _ => hn d)

example : ExactCf W.cfg := by
  intro d hd
  have : d = 0 ∨ d = 1 := by simpa [W.cfg] using hd
  rcases this with rfl | rfl <;> decide

example : valueOf W.cfg (addC W.half W.half) = valueOf W.cfg W.half + valueOf W.cfg W.half + 1 := by decide +kernel

/-- consequence of `C08_withdraw_within_ltv` for the same block: the position `Withdraw` just stored cannot be
    liquidated by anyone at the same prices and indexes (re-syncing at the factors it was just synced at adds
    nothing; factors between 0 and 10^18). -/
theorem C08_withdraw_then_not_liquidatable (cfg : Cfg) (s s' : St) (u : User) (coins : Coins)
    (hB : ∀ d ∈ cfg.ds, ∀ v, s.brwIdx d = some v → 0 ≤ v ∧ v ≤ P * P)
    (hS : ∀ d ∈ cfg.ds, ∀ v, s.supIdx d = some v → 0 ≤ v)
    (h : withdraw cfg s u coins = .ok s') : ∀ keeper, (liquidate cfg s' keeper u).isOk = false := by
  obtain ⟨eb, es, hbi, hdi⟩ := withdraw_fresh h
  refine fresh_not_liquidatable hbi hdi (fun d hd => ?_) (fun d hd => ?_) (C08_withdraw_within_ltv cfg s s' u coins h)
  · rw [eb]; exact getD_zero_bounds _ (hB d hd)
  · rw [es]; exact getD_zero_nonneg _ (hS d hd)

/-! ## interest: indexes, synced amounts, caps

  The per-second factor `phi` (`APYToSPY` → `CalculateBorrowInterestFactor`: ApproxRoot, RelativePow) is a
  parameter; `P ≤ phi.m` (factor ≥ 1) is asserted by the harness on every value the real routines return.
  A missing factor reads as 1.0 (`getD P`: what `AccrueInterest` initialises it to). -/

/-- "a borrow's owed amount never decrease[s] as interest accrues" — the borrow index of every denom is
    non-decreasing across `AccrueInterest`. -/
theorem C08_borrow_index_monotone (cfg : Cfg) (s s' : St) (d : Denom) (now : Int) (phi : Dec) (apyPos : Bool)
    (hphi : P ≤ phi.m) (h0 : ∀ v, s.brwIdx d = some v → 0 ≤ v)
    (h : accrue cfg s d now phi apyPos = .ok s') :
    ∀ e, (s.brwIdx e).getD P ≤ (s'.brwIdx e).getD P :=
  fun e => (accrue_brwIdx hphi h0 h e).1

example : (accrue W.cfg W.st 1 31536000 ⟨P + P / 10⟩ true).isOk = true := by decide +kernel

/-- "a deposit's claimable amount … never decrease[s] as interest accrues" — the supply index of every denom is
    non-decreasing across `AccrueInterest`: since fix 485ea145c `CalculateSupplyInterestFactor` returns 1 when
    cash + borrows − reserves is not positive (it used to return 1 + interest/(negative) < 1).  `phi ≥ 1` is not
    needed: a successful accrual has non-negative supply interest.  (Finding F4, fixed: findings/C08-supply-index.md.) -/
theorem C08_supply_index_monotone (cfg : Cfg) (s s' : St) (d : Denom) (now : Int) (phi : Dec) (apyPos : Bool)
    (h0 : ∀ v, s.supIdx d = some v → 0 ≤ v)
    (h : accrue cfg s d now phi apyPos = .ok s') :
    ∀ e, (s.supIdx e).getD P ≤ (s'.supIdx e).getD P :=
  fun e => (accrue_supIdx h0 h e).1

/-- the former F4 witness (cash 0, borrowed 10, reserves 100, factor 2.0: index went 1.0 → 0.888…) keeps the index -/
example : supplyIdxKept W.cfg W.stF4 0 1 ⟨2 * P⟩ true = true := by decide +kernel
example : (accrue W.cfg W.stF4 0 1 ⟨2 * P⟩ true).isOk = true := by decide +kernel

/-- `AccrueInterest` (begin blocker) never panics when the factor is ≥ 1, the reserve factor is in [0,1] and the
    borrowed total is not negative: since fix 9da123695 `CalculateUtilizationRatio` no longer divides by
    cash + borrows − reserves = 0.  (Finding fixed: findings/C08-accrue-div-zero.md.) -/
theorem C08_accrue_no_panic (cfg : Cfg) (s : St) (d : Denom) (now : Int) (phi : Dec) (apyPos : Bool)
    (hphi : P ≤ phi.m) (hb : 0 ≤ s.borrowed d) (hrf0 : 0 ≤ (cfg.mkt d).reserveFactor.m)
    (hrf1 : (cfg.mkt d).reserveFactor.m ≤ P) :
    accrue cfg s d now phi apyPos ≠ .panic :=
  accrue_no_panic cfg s d now phi apyPos hphi hb hrf0 hrf1

/-- the former witness (cash 0, borrowed 1, reserves 1) accrues without panic -/
example : isPanic (accrue W.cfg W.stDiv0 0 1 ⟨P⟩ false) = false := by decide +kernel

/-- "With no action by the user a deposit's claimable amount and a borrow's owed amount never decrease":
    for a stored amount `a ≥ 0` synced at a positive user factor, every sync formula of the keeper
    (`SyncBorrowInterest`, `SyncSupplyInterest`, `GetSyncedBorrow`/`GetSyncedDeposit`) is monotone in the
    global factor, and a query that succeeded keeps succeeding. -/
theorem C08_synced_monotone (a : Int) (ui : Option Int) (g g' : Int) (ha : 0 ≤ a)
    (hui : ∀ v, ui = some v → 0 < v) (hg : 0 ≤ g) (h : g ≤ g') :
    syncBorAmt a ui g ≤ syncBorAmt a ui g' ∧ syncSupAmt a ui g ≤ syncSupAmt a ui g' ∧
    (∀ x y, loadSyncedAmt a ui (some g) = .ok x → loadSyncedAmt a ui (some g') = .ok y → x ≤ y) ∧
    (∀ x, loadSyncedAmt a ui (some g) = .ok x → ∃ y, loadSyncedAmt a ui (some g') = .ok y) :=
  ⟨syncBorAmt_mono ha hui h, syncSupAmt_mono ha hui h, fun _ _ => loadSyncedAmt_mono ha hui h,
   fun _ => loadSyncedAmt_ok_mono ha hui h⟩

/-- … hence across an accrual (no user action: the records are untouched) every user's synced borrow of every
    denom is non-decreasing. -/
theorem C08_synced_borrow_monotone_accrue (cfg : Cfg) (s s' : St) (d : Denom) (now : Int) (phi : Dec) (apyPos : Bool)
    (hphi : P ≤ phi.m) (h0 : ∀ v, s.brwIdx d = some v → 0 ≤ v)
    (hrec : ∀ u e, 0 ≤ s.bor u e ∧ ∀ v, s.borIdx u e = some v → 0 < v)
    (h : accrue cfg s d now phi apyPos = .ok s') :
    ∀ u e, syncBorAmt (s.bor u e) (s.borIdx u e) ((s.brwIdx e).getD 0) ≤
           syncBorAmt (s'.bor u e) (s'.borIdx u e) ((s'.brwIdx e).getD 0) := by
  intro u e
  rw [(accrue_frame h).bor, (accrue_frame h).borIdx]
  exact syncBorAmt_mono (hrec u e).1 (hrec u e).2 (accrue_brwIdx hphi h0 h e).2

/-- … and every user's synced deposit (as `SyncSupplyInterest` computes it). -/
theorem C08_synced_deposit_monotone_accrue (cfg : Cfg) (s s' : St) (d : Denom) (now : Int) (phi : Dec)
    (apyPos : Bool) (h0 : ∀ e v, s.supIdx e = some v → 0 ≤ v)
    (hrec : ∀ u e, 0 ≤ s.dep u e ∧ ∀ v, s.depIdx u e = some v → 0 < v)
    (h : accrue cfg s d now phi apyPos = .ok s') :
    ∀ u e, syncSupAmt (s.dep u e) (s.depIdx u e) ((s.supIdx e).getD 0) ≤
           syncSupAmt (s'.dep u e) (s'.depIdx u e) ((s'.supIdx e).getD 0) := by
  intro u e
  rw [(accrue_frame h).dep, (accrue_frame h).depIdx]
  exact syncSupAmt_mono (hrec u e).1 (hrec u e).2 (accrue_supIdx (h0 d) h e).2

example : ∀ v, W.st.borIdx 0 1 = some v → 0 < v := by intro v hv; cases hv; decide

/-- "withdrawals … never exceed the synced deposit": a successful `Withdraw` pays, per denom, an amount between 0
    and both the request and the deposit as just synced, and exactly that leaves the module account. -/
theorem C08_caps_withdraw (cfg : Cfg) (s s' : St) (u : User) (coins : Coins)
    (hdep : ∀ d, 0 ≤ s.dep u d) (hc : ∀ d, 0 ≤ coins d)
    (h : withdraw cfg s u coins = .ok s') :
    ∃ s1 s2, syncBorrow cfg s u = .ok s1 ∧ syncSupply cfg s1 u = .ok s2 ∧
      ∀ d, s'.bal u d - s.bal u d ≤ s2.dep u d ∧ s'.bal u d - s.bal u d ≤ coins d ∧
           s.cash d - s'.cash d = s'.bal u d - s.bal u d ∧ 0 ≤ s'.dep u d := by
  obtain ⟨s1, s2, h1, h2, -, rfl⟩ := withdraw_ok h
  refine ⟨s1, s2, h1, h2, fun d => ?_⟩
  have hnn : 0 ≤ s2.dep u d := Int.le_trans (hdep d) (synced_dep_ge h1 h2 d)
  have hcap := capAmount_le (s2.dep u) coins d hnn (hc d)
  obtain ⟨c, ci, rfl, -⟩ := syncSupply_ok h2
  obtain ⟨b, bi, rfl, -⟩ := syncBorrow_ok h1
  simp only [upd_same, addC, subC] at hnn hcap ⊢
  omega

/-- "repayments never exceed the synced … debt": a successful `Repay` (by the owner or a third party) takes
    from the sender, per denom, at most the request and at most the borrow as just synced. -/
theorem C08_caps_repay (cfg : Cfg) (s s' : St) (sender owner : User) (coins : Coins)
    (hbor : ∀ d, d ∈ cfg.ds → 0 ≤ s.bor owner d) (hc : ∀ d, 0 ≤ coins d)
    (h : repay cfg s sender owner coins = .ok s') :
    ∃ s1, syncBorrow cfg s owner = .ok s1 ∧
      ∀ d, d ∈ cfg.ds → s.bal sender d - s'.bal sender d ≤ s1.bor owner d ∧
           s.bal sender d - s'.bal sender d ≤ coins d ∧
           s'.cash d - s.cash d = s.bal sender d - s'.bal sender d ∧ 0 ≤ s'.bor owner d := by
  obtain ⟨s1, h1, rfl⟩ := repay_ok h
  refine ⟨s1, h1, fun d hd => ?_⟩
  have hnn : 0 ≤ s1.bor owner d := Int.le_trans (hbor d hd) (syncBorrow_ge h1 d hd)
  have hcap := capAmount_le (s1.bor owner) coins d hnn (hc d)
  obtain ⟨b, bi, rfl, -⟩ := syncBorrow_ok h1
  simp only [upd_same, addC, subC] at hnn hcap ⊢
  omega

example : (repay W.cfg W.st 1 0 W.half).isOk = true := by decide +kernel

/-- over histories: along *any* interleaving of deposit / withdraw / borrow / repay (owner or third party) /
    liquidation / accrual — each step with its own parameters and prices, failed messages rolled back — in which
    every accrual's factor is ≥ 1, the borrow index of every denom never decreases. -/
theorem C08_borrow_index_monotone_history (s : St) (h : List (Cfg × Op)) (hops : ∀ x ∈ h, OpOk x.2)
    (hn : ∀ d v, s.brwIdx d = some v → 0 ≤ v) :
    ∀ d, (s.brwIdx d).getD P ≤ ((run s h).brwIdx d).getD P :=
  run_getD_mono St.brwIdx OpOk step_brw h s hops hn

/-- … and so does the supply index, unconditionally on the factors. -/
theorem C08_supply_index_monotone_history (s : St) (h : List (Cfg × Op))
    (hn : ∀ d v, s.supIdx d = some v → 0 ≤ v) :
    ∀ d, (s.supIdx d).getD P ≤ ((run s h).supIdx d).getD P :=
  run_getD_mono St.supIdx (fun _ => True) (fun cfg s s' op _ => step_sup cfg s s' op) h s (fun _ _ => trivial) hn

example : ∀ x ∈ [(W.cfg, Op.borrow 0 W.small), (W.cfg, Op.accrue 1 31536000 ⟨P + P / 10⟩ true),
    (W.cfgLow, Op.liquidate 1 0)], OpOk x.2 := by
  intro x hx
  simp only [List.mem_cons, List.not_mem_nil, or_false] at hx
  rcases hx with rfl | rfl | rfl
  · trivial
  · show P ≤ P + P / 10; decide
  · trivial

/-- "never changes another user's position" for the user operations: a successful `Deposit`, `Withdraw`, `Borrow`
    by `u`, and a successful `Repay` of `owner`'s loan (by anyone), leave the deposit and borrow records of every other
    user exactly as they were. -/
theorem C08_frame (cfg : Cfg) (s s' : St) (u sender : User) (coins : Coins) :
    (deposit cfg s u coins = .ok s' → ∀ v, v ≠ u → SameRecords s s' v) ∧
    (withdraw cfg s u coins = .ok s' → ∀ v, v ≠ u → SameRecords s s' v) ∧
    (borrow cfg s u coins = .ok s' → ∀ v, v ≠ u → SameRecords s s' v) ∧
    (repay cfg s sender u coins = .ok s' → ∀ v, v ≠ u → SameRecords s s' v) := by
  refine ⟨fun h v hv => ?_, fun h v hv => ?_, fun h v hv => ?_, fun h v hv => ?_⟩
  · obtain ⟨s2, h2, rfl⟩ := deposit_ok h
    obtain ⟨c, ci, rfl, -⟩ := syncSupply_ok h2
    simp only [SameRecords, upd_other hv, and_self]
  · obtain ⟨s1, s2, h1, h2, -, rfl⟩ := withdraw_ok h
    obtain ⟨c, ci, rfl, -⟩ := syncSupply_ok h2
    obtain ⟨b, bi, rfl, -⟩ := syncBorrow_ok h1
    simp only [SameRecords, upd_other hv, and_self]
  · obtain ⟨s1, s2, h1, h2, -, rfl⟩ := borrow_ok h
    obtain ⟨b, bi, rfl, -⟩ := syncBorrow_ok h2
    obtain ⟨c, ci, rfl, -⟩ := syncSupply_ok h1
    simp only [SameRecords, upd_other hv, and_self]
  · obtain ⟨s1, h1, rfl⟩ := repay_ok h
    obtain ⟨b, bi, rfl, -⟩ := syncBorrow_ok h1
    simp only [SameRecords, upd_other hv, and_self]

/-- "A liquidation removes only the liquidated borrower's deposit and borrow, pays the keeper at most the
    configured reward share, and auctions or returns the rest (except the part the market cannot pay out for
    lack of cash in that denomination, which stays in the pool); it never moves more than the borrower's
    deposit out of the module and never changes another user's position."

    For a successful `AttemptKeeperLiquidation(keeper, borrower)`, with `D` the borrower's deposit as the
    liquidation synced it (`s2.dep borrower`), `reward`/`returned` what the keeper / the borrower received and
    `lots` the lots of the auctions it started:
    * the borrower's deposit and borrow records are deleted, every other user's records and every interest
      index are unchanged;
    * `reward d = ⌊pct_d · D d⌋`, so `reward d · 10^18 ≤ pct_d · D d` (at most the configured share);
    * `reward d + lots d + returned d ≤ D d` per denom (the difference is what stays in the pool), and exactly
      `reward d + lots d + returned d` leaves the module account: never more than the deposit;
    * only the keeper's and the borrower's balances change. -/
theorem C08_liquidation_frame (cfg : Cfg) (hn : cfg.ds.Nodup)
    (hkr : ∀ d, 0 ≤ (cfg.mkt d).keeperReward.m ∧ (cfg.mkt d).keeperReward.m ≤ P)
    (s s' : St) (keeper borrower : User) (hdep : ∀ d, 0 ≤ s.dep borrower d)
    (h : liquidate cfg s keeper borrower = .ok s') :
    ∃ (s1 s2 : St) (reward returned : Coins),
      syncBorrow cfg s borrower = .ok s1 ∧ syncSupply cfg s1 borrower = .ok s2 ∧
      (∀ d, s'.dep borrower d = 0 ∧ s'.bor borrower d = 0 ∧ s'.depIdx borrower d = none ∧ s'.borIdx borrower d = none) ∧
      (∀ v, v ≠ borrower → s'.dep v = s.dep v ∧ s'.depIdx v = s.depIdx v ∧ s'.bor v = s.bor v ∧ s'.borIdx v = s.borIdx v) ∧
      (s'.supIdx = s.supIdx ∧ s'.brwIdx = s.brwIdx ∧ s'.reserves = s.reserves) ∧
      (∀ d, reward d = keeperReward cfg (s2.dep borrower) d ∧
            reward d * P ≤ (cfg.mkt d).keeperReward.m * s2.dep borrower d ∧
            0 ≤ reward d ∧ 0 ≤ returned d ∧
            reward d + (lotsOf s'.aucs d - lotsOf s.aucs d) + returned d ≤ s2.dep borrower d ∧
            s.cash d - s'.cash d = reward d + (lotsOf s'.aucs d - lotsOf s.aucs d) + returned d) ∧
      (∀ v, v ≠ keeper → v ≠ borrower → s'.bal v = s.bal v) ∧
      (∀ d, (keeper ≠ borrower → s'.bal keeper d = s.bal keeper d + reward d ∧
                                  s'.bal borrower d = s.bal borrower d + returned d) ∧
            (keeper = borrower → s'.bal keeper d = s.bal keeper d + reward d + returned d)) := by
  obtain ⟨s1, s2, z, h1, h2, -, hz, rfl⟩ := liquidate_ok h
  have hdep2 : ∀ d, 0 ≤ s2.dep borrower d := fun d => Int.le_trans (hdep d) (synced_dep_ge h1 h2 d)
  have hz' := seizeDeposits_spec hn hdep2 hkr hz
  refine ⟨s1, s2, z.reward, z.returned, h1, h2, ?_⟩
  obtain ⟨c, ci, rfl, -⟩ := syncSupply_ok h2
  obtain ⟨b, bi, rfl, -⟩ := syncBorrow_ok h1
  refine ⟨?_, ?_, ⟨rfl, rfl, rfl⟩, ?_, ?_, ?_⟩
  · intro d; simp only [upd_same, zeroC, and_self]
  · intro v hv; simp only [upd_other hv, and_self]
  · intro d
    obtain ⟨r1, r2, r3, r4⟩ := hz' d
    have kb := keeperReward_bounds cfg _ d (hkr d).1 (hkr d).2 (hdep2 d)
    rw [← r1] at kb
    dsimp only at r3 r4 kb ⊢
    exact ⟨r1, kb.2.2, kb.1, r2, r3, by omega⟩
  · intro v hk hb
    dsimp only
    rw [upd_other hb, upd_other hk]
  · intro d
    dsimp only
    constructor
    · intro hne
      have hne' : borrower ≠ keeper := fun e => hne e.symm
      rw [upd_other hne, upd_same, upd_same, upd_other hne']
      exact ⟨rfl, rfl⟩
    · intro he
      subst he
      rw [upd_same, upd_same]; simp only [addC]

/-- non-vacuity: after the collateral price falls to 0.4 the position of user 0 is liquidated (one auction) -/
example : (match liquidate W.cfgLow W.st 1 0 with | .ok s'' => s''.aucs.length | _ => 0) = 1 := by decide +kernel

example : W.cfg.ds.Nodup := by decide +kernel

/-! ## money markets listed, replaced and delisted by governance

  The money markets are the `cfg` of each step (the history theorems above already let every step have its own), a
  params change touches no state, and the begin blocker `ApplyInterestRateUpdates` is `applyRateUpdates`: a denom with a
  money market in the params or in the store (`live`) accrues once with the effective market, a denom with none is
  skipped; listing and delisting write / delete the money market only. -/

/-- Across a begin blocker — whatever it lists, replaces or delists — the borrow and the supply factor of every denom
    do not decrease, and the factors of a denom that has no money market (delisted, waiting to be listed again) are
    exactly what they were: a later listing finds the factors the open positions were indexed with. -/
theorem C08_relist_index_monotone (cfg : Cfg) (now : Int) (live : Denom → Bool) (phi : Denom → Dec) (apy : Denom → Bool)
    (ds : List Denom) (s s' : St) (hphi : ∀ d, live d = true → P ≤ (phi d).m)
    (hb : ∀ e v, s.brwIdx e = some v → 0 ≤ v) (hs : ∀ e v, s.supIdx e = some v → 0 ≤ v)
    (h : applyRateUpdates cfg now live phi apy ds s = .ok s') :
    (∀ e, (s.brwIdx e).getD P ≤ (s'.brwIdx e).getD P ∧ (s.supIdx e).getD P ≤ (s'.supIdx e).getD P) ∧
    (∀ e, live e = false → s'.brwIdx e = s.brwIdx e ∧ s'.supIdx e = s.supIdx e) := by
  have r := applyRateUpdates_spec cfg now live phi apy hphi ds s s' hb hs h
  exact ⟨fun e => ⟨r.brwP e, r.supP e⟩, r.dead⟩

/-- "With no action by the user a deposit's claimable amount and a borrow's owed amount never decrease as interest
    accrues" across a whole begin blocker under governance: nobody's records change and every user's synced borrow and
    synced deposit of every denom — listed, being listed, being delisted or without a money market — is non-decreasing. -/
theorem C08_interest_monotone (cfg : Cfg) (now : Int) (live : Denom → Bool) (phi : Denom → Dec) (apy : Denom → Bool)
    (ds : List Denom) (s s' : St) (hphi : ∀ d, live d = true → P ≤ (phi d).m)
    (hb : ∀ e v, s.brwIdx e = some v → 0 ≤ v) (hs : ∀ e v, s.supIdx e = some v → 0 ≤ v)
    (hrec : ∀ u e, (0 ≤ s.bor u e ∧ ∀ v, s.borIdx u e = some v → 0 < v) ∧ (0 ≤ s.dep u e ∧ ∀ v, s.depIdx u e = some v → 0 < v))
    (h : applyRateUpdates cfg now live phi apy ds s = .ok s') :
    (∀ u, SameRecords s s' u) ∧
    ∀ u e, syncBorAmt (s.bor u e) (s.borIdx u e) ((s.brwIdx e).getD 0) ≤
             syncBorAmt (s'.bor u e) (s'.borIdx u e) ((s'.brwIdx e).getD 0) ∧
           syncSupAmt (s.dep u e) (s.depIdx u e) ((s.supIdx e).getD 0) ≤
             syncSupAmt (s'.dep u e) (s'.depIdx u e) ((s'.supIdx e).getD 0) := by
  have r := applyRateUpdates_spec cfg now live phi apy hphi ds s s' hb hs h
  refine ⟨?_, ?_⟩
  · intro u
    unfold SameRecords
    rw [r.dep, r.depIdx, r.bor, r.borIdx]
    exact ⟨rfl, rfl, rfl, rfl⟩
  · intro u e
    rw [r.dep, r.depIdx, r.bor, r.borIdx]
    exact ⟨syncBorAmt_mono (hrec u e).1.1 (hrec u e).1.2 (r.brw0 e),
           syncSupAmt_mono (hrec u e).2.1 (hrec u e).2.2 (r.sup0 e)⟩

/-- the begin blocker under governance does not panic: factors ≥ 1 for the denoms that accrue, reserve factors of the
    effective markets in [0,1], borrowed totals not negative -/
theorem C08_begin_no_panic (cfg : Cfg) (now : Int) (live : Denom → Bool) (phi : Denom → Dec) (apy : Denom → Bool)
    (ds : List Denom) (s : St) (hn : ds.Nodup) (hphi : ∀ d, live d = true → P ≤ (phi d).m)
    (hrf : ∀ d, 0 ≤ (cfg.mkt d).reserveFactor.m ∧ (cfg.mkt d).reserveFactor.m ≤ P)
    (hbor : ∀ d ∈ ds, 0 ≤ s.borrowed d) :
    applyRateUpdates cfg now live phi apy ds s ≠ .panic :=
  applyRateUpdates_no_panic cfg now live phi apy hphi hrf ds s hn hbor

/-- non-vacuity: denom 0 has no money market (skipped), denom 1 accrues a year at factor 1.1 -/
example : (applyRateUpdates W.cfg 31536000 (fun d => d != 0) (fun _ => ⟨P + P / 10⟩) (fun _ => true) W.cfg.ds W.st).isOk = true := by
  decide +kernel

/-! ## source tie (regenerated)

    `GoFn.Hard.*` (Generated/FnHard.lean) is regenerated on every run from the Go source of
    x/hard/keeper/interest.go by the function translator (tools/extract/fn*.go).  The theorems say that the
    regenerated definitions ARE the functions the model uses (`supplyFactor`) resp. the closed forms
    `TieFn.hardUtilization` / `TieFn.hardBorrowRate` (the borrow rate enters the model only through the
    per-second factor `phi`), and that they never panic.  A source edit re-opens the obligation of the
    edited function.  Proofs: Proofs/TieFnHard.lean. -/

/-- `CalculateSupplyInterestFactor` on the integer-valued arguments `AccrueInterest` passes = `supplyFactor`
    (in particular: no division by zero, factor 1 when cash + borrows − reserves is not positive). -/
theorem C08_source_tie_CalculateSupplyInterestFactor (newInterest cash borrows reserves : Int) :
    GoFn.Hard.CalculateSupplyInterestFactor_translated = true ∧
    GoFn.Hard.CalculateSupplyInterestFactor (Dec.ofInt newInterest) (Dec.ofInt cash) (Dec.ofInt borrows)
        (Dec.ofInt reserves)
      = Go.R.ok (supplyFactor newInterest cash borrows reserves) :=
  TieFn.hard_CalculateSupplyInterestFactor newInterest cash borrows reserves

/-- `CalculateUtilizationRatio` never panics (no division by zero for any cash / borrows / reserves) and lies
    in [0, 1] for non-negative borrows: 0 without borrows, 1 when cash + borrows − reserves ≤ 0, else
    min(1, borrows / (cash + borrows − reserves)). -/
theorem C08_source_tie_CalculateUtilizationRatio (cash borrows reserves : Dec) :
    GoFn.Hard.CalculateUtilizationRatio_translated = true ∧
    GoFn.Hard.CalculateUtilizationRatio cash borrows reserves
      = Go.R.ok (TieFn.hardUtilization cash borrows reserves) ∧
    (0 ≤ borrows.m → 0 ≤ (TieFn.hardUtilization cash borrows reserves).m ∧
      (TieFn.hardUtilization cash borrows reserves).m ≤ P) :=
  ⟨(TieFn.hard_CalculateUtilizationRatio cash borrows reserves).1,
   (TieFn.hard_CalculateUtilizationRatio cash borrows reserves).2,
   TieFn.hard_utilization_range cash borrows reserves⟩

/-- `CalculateBorrowRate` never panics or errors and is the kinked line of the interest-rate model evaluated at
    the utilization ratio. -/
theorem C08_source_tie_CalculateBorrowRate (m : GoFn.Hard.InterestRateModel) (cash borrows reserves : Dec) :
    GoFn.Hard.CalculateBorrowRate_translated = true ∧
    GoFn.Hard.CalculateBorrowRate m cash borrows reserves
      = Go.R.ok (TieFn.hardBorrowRate m cash borrows reserves) :=
  TieFn.hard_CalculateBorrowRate m cash borrows reserves

end KV.Hard
