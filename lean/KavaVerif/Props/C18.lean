/-
  C18 — Price feed: price is the median of live oracle posts; no price, no action.

  "After each block the current price of an active market is the median of that market's unexpired
   oracle prices, one per oracle using its latest post, or unavailable if none is unexpired; expired
   prices never influence it and posting an already expired price is refused. While a needed price is
   unavailable, CDP creation, draw, deposit, withdrawal and liquidation, and hard borrow, withdraw and
   liquidation for that asset are refused rather than proceeding with a stale or zero price."

  Model: KavaVerif/Model/Pricefeed.lean (x/pricefeed keeper + msg server + end blocker transcribed; the
  price gates of x/cdp and x/hard as decision functions).  Only property statements live here; helper
  lemmas are in KavaVerif/Proofs/Pricefeed*.lean.  Prices are `sdk.Dec` mantissas, times nanoseconds.
-/
import KavaVerif.Proofs.Pricefeed
import KavaVerif.Generated.C18Pricefeed
import KavaVerif.Proofs.TieFnPricefeed
set_option linter.unusedSimpArgs false
set_option linter.unusedVariables false

namespace KV.PF
open List

/-- "the median of that market's unexpired oracle prices": `CalculateMedianPrice` gives the same
    result for ANY permutation of its input, so neither the store's iteration order, nor the order in
    which the two aggregation routines collect prices, nor the tie-breaking of Go's unstable
    `sort.Slice` can influence the price. -/
theorem C18_median_perm (l1 l2 : List Int) (h : l1.Perm l2) : median l1 = median l2 := by
  rw [median_eq, median_eq, isort_eq_of_perm h, h.length_eq]

example : median [3, 1, 2, 2] = median [2, 3, 2, 1] := C18_median_perm _ _ (by decide)

/-- "median": whatever sorting algorithm is used — `s` is any non-decreasing permutation of the
    input — the result is the middle element of `s` (odd count) or the `sdk.Dec` mean
    `(a + b).Quo(2)` of the two middle elements (even count). -/
theorem C18_median_is_middle (l s : List Int) (hs : s.Pairwise (· ≤ ·)) (hp : s.Perm l) :
    median l =
      if l.length % 2 = 0 then mean (s.getD (l.length / 2 - 1) 0) (s.getD (l.length / 2) 0)
      else s.getD (l.length / 2) 0 := by
  rw [median_eq, isort_of_sorted hs hp]

example : median [5, 1, 3] = 3 ∧ median [7, 1, 3, 5] = 4 := by decide +kernel

/-- The same without mentioning a sort at all: the median is the element of middle rank (or the mean
    of the two elements of middle ranks), ranks being defined by counting. This is the specification
    the correspondence driver evaluates on the real keeper's outputs. -/
theorem C18_median_rank (l : List Int) (hl : l ≠ []) : median l = specMedian l := by
  have hh : l.length / 2 < l.length := Nat.div_lt_self (length_pos_iff.2 hl) (by decide)
  rw [median_eq, specMedian, kth_eq hh, kth_eq (Nat.lt_of_le_of_lt (Nat.sub_le _ _) hh)]

/-- Odd count, spelled out: the median is one of the posted prices, at most half of the posts are
    below it and at most half above. -/
theorem C18_median_rank_odd (l : List Int) (hodd : l.length % 2 = 1) :
    median l ∈ l ∧ l.countP (fun y => decide (y < median l)) ≤ l.length / 2 ∧
      l.countP (fun y => decide (median l < y)) ≤ l.length / 2 := by
  have hk : l.length / 2 < l.length := by omega
  have hm : median l = (isort l).getD (l.length / 2) 0 := by
    rw [median_eq, if_neg (by rw [hodd]; exact Nat.one_ne_zero)]
  have hr := isKth_iff.1 (isKth_isort hk)
  rw [← hm] at hr
  refine ⟨?_, hr.1, by omega⟩
  rw [hm]; exact getD_isort_mem hk

example : ([5, 1, 3] : List Int).length % 2 = 1 := by decide +kernel

/-- Even count: the mean of two non-negative prices lies between them (Dec rounding cannot push the
    median outside the two middle posts). -/
theorem C18_mean_between (a b : Int) (ha : 0 ≤ a) (hab : a ≤ b) : a ≤ mean a b ∧ mean a b ≤ b := by
  have hP : (0 : Int) ≤ P := by decide
  have hxy : a * P ≤ b * P := Int.mul_le_mul_of_nonneg_right hab hP
  -- (a + b)·P·P quo 2·P = (a·P + b·P) / 2, which lies between a·P and b·P; `chopRound` is monotone and exact on k·P
  have hq : tquo ((a + b) * P * P) (2 * P) = (a * P + b * P) / 2 := by
    rw [tquo_nonneg_eq _ _ (Int.mul_nonneg (Int.mul_nonneg (Int.add_nonneg ha (Int.le_trans ha hab)) hP) hP)
      (by decide), Int.mul_ediv_mul_of_pos_left _ _ (by decide), Int.add_mul]
  have m1 := chopRound_mono (a * P) ((a * P + b * P) / 2) (Int.le_ediv_of_mul_le (by decide) (by omega))
  have m2 := chopRound_mono ((a * P + b * P) / 2) (b * P) (Int.ediv_le_of_le_mul (by decide) (by omega))
  rw [chopRound_mul_P] at m1 m2
  unfold mean Dec.quo Dec.add Dec.ofInt
  rw [hq]
  exact ⟨m1, m2⟩

example : mean 1 2 = 2 ∧ mean 2 3 = 2 ∧ mean 3 3 = 3 := by decide +kernel  -- half-even at 10^-18

/-- "one per oracle using its latest post" (single write): a successful `SetPrice` leaves exactly
    one entry in the (market, oracle) slot — the new post, replacing any earlier one — leaves every
    other slot untouched, and keeps the store keyed. -/
theorem C18_one_price_per_oracle (now : Int) (s s' : St) (p : Post) (hk : KeySorted s.raw)
    (hok : setPrice now s p = .ok s') :
    s'.raw.filter (hasKey p.market p.oracle) = [p] ∧
    (∀ m o, ¬ (p.market = m ∧ p.oracle = o) →
      s'.raw.filter (hasKey m o) = s.raw.filter (hasKey m o)) ∧
    KeySorted s'.raw := by
  revert hok
  fun_cases setPrice now s p with
  | case1 => exact nofun
  | case2 =>
    intro hok; cases hok
    exact ⟨rawSet_filter_same p hk, fun m o h => rawSet_filter_other s.raw h, rawSet_sorted p hk⟩

example : (setPrice 10 ⟨[⟨1, 4, 700, 50⟩], fun _ => none⟩ ⟨1, 4, 900, 11⟩).isOk = true := by decide +kernel

/-- "its latest post" (whole history): after any sequence `h` of accepted posts, starting from the
    empty store, the slot of (market, oracle) holds precisely the last post of `h` with that key, and
    nothing if that oracle never posted for the market. -/
theorem C18_latest_post_wins (h : List Post) (m o : Nat) :
    (applyPosts [] h).filter (hasKey m o) =
      match h.reverse.find? (hasKey m o) with
      | some p => [p]
      | none => [] := by
  rw [applyPosts_latest [] h Pairwise.nil m o]
  cases List.find? (hasKey m o) h.reverse with
  | some p => rfl
  | none => rfl

example : (applyPosts [] [⟨1, 4, 700, 50⟩, ⟨1, 5, 710, 50⟩, ⟨1, 4, 900, 60⟩]).filter (hasKey 1 4)
    = [⟨1, 4, 900, 60⟩] := by decide +kernel

/-- "posting an already expired price is refused": `SetPrice` (and so `MsgPostPrice`) returns an error
    and writes nothing exactly when expiry ≤ block time — the boundary `expiry = now` is refused. -/
theorem C18_post_expired_refused (now : Int) (ms : List MarketP) (s : St) (p : Post)
    (hexp : p.expiry ≤ now) : setPrice now s p = .err ∧ postPrice now ms s p = .err := by
  have h1 : setPrice now s p = .err := by
    unfold setPrice live
    rw [decide_eq_false (Int.not_lt.2 hexp)]; rfl
  refine ⟨h1, ?_⟩
  unfold postPrice
  rw [h1]
  cases findMarket ms p.market <;> simp only [ite_self]

example : (setPrice 10 ⟨[], fun _ => none⟩ ⟨1, 4, 900, 10⟩).isErr = true ∧
    (setPrice 10 ⟨[], fun _ => none⟩ ⟨1, 4, 900, 11⟩).isOk = true := by decide +kernel

/-- … and only then: any post with expiry after the block time is accepted by `SetPrice`. -/
theorem C18_post_live_accepted (now : Int) (s : St) (p : Post) (h : now < p.expiry) :
    setPrice now s p = .ok { s with raw := rawSet p s.raw } := by
  have hl : live now p = true := by unfold live; simp only [decide_eq_true_eq]; exact h
  unfold setPrice; simp only [hl, Bool.not_true, Bool.false_eq_true, ite_false]

/-- Posting never moves the current price: it only changes in the end blocker (so the status flags
    the cdp begin blocker derives from it stay right for the whole block). -/
theorem C18_post_does_not_move_price (now : Int) (s s' : St) (p : Post)
    (hok : setPrice now s p = .ok s') : ∀ m, getCurrentPrice s' m = getCurrentPrice s m := by
  revert hok
  fun_cases setPrice now s p with
  | case1 => exact nofun
  | case2 => intro hok; cases hok; exact fun m => rfl

/-- "After each block the current price of an active market is the median of that market's unexpired
    oracle prices …, or unavailable if none is unexpired": what `GetCurrentPrice` returns after
    `SetCurrentPricesForAllMarkets`, for every active market (a zero median reads as unavailable). -/
theorem C18_endblock_price (now : Int) (ms : List MarketP) (s : St) (m : Nat)
    (hact : m ∈ activeIds ms) :
    getCurrentPrice (setAll now ms s) m =
      if livePrices now s.raw m = [] then none
      else if median (livePrices now s.raw m) = 0 then none
      else some (median (livePrices now s.raw m)) := by
  unfold getCurrentPrice
  rw [setAll_cur, if_pos hact, aggregate]
  cases livePrices now s.raw m with
  | nil => simp only [List.length_nil, ite_true]
  | cons a t => simp only [List.length_cons, Nat.add_one_ne_zero, ite_false, reduceCtorEq]

example : getCurrentPrice (setAll 10 [⟨1, [4, 5, 6], true⟩]
    ⟨[⟨1, 4, 700, 50⟩, ⟨1, 5, 900, 10⟩, ⟨1, 6, 800, 11⟩, ⟨2, 4, 1, 99⟩], fun _ => none⟩) 1 = some 750 := by
  decide +kernel

/-- The whole first sentence for a history: after any accepted posts `h` and an end block at `now`,
    the price of an active market is the median of the unexpired entries of a store that holds, per
    (market, oracle), exactly that oracle's latest post. -/
theorem C18_current_price_of_history (now : Int) (ms : List MarketP) (h : List Post)
    (cur0 : Nat → Option Int) (m : Nat) (hact : m ∈ activeIds ms) :
    getCurrentPrice (setAll now ms ⟨applyPosts [] h, cur0⟩) m =
      (if livePrices now (applyPosts [] h) m = [] then none
       else if median (livePrices now (applyPosts [] h) m) = 0 then none
       else some (median (livePrices now (applyPosts [] h) m))) ∧
    ∀ o, (applyPosts [] h).filter (hasKey m o) =
      match h.reverse.find? (hasKey m o) with
      | some p => [p]
      | none => [] :=
  ⟨C18_endblock_price now ms ⟨applyPosts [] h, cur0⟩ m hact, fun o => C18_latest_post_wins h m o⟩

/-- "expired prices never influence it": two stores with the same unexpired posts give the same
    current prices, whatever expired posts either of them still holds. -/
theorem C18_expired_ignored (now : Int) (ms : List MarketP) (raw1 raw2 : List Post)
    (cur : Nat → Option Int) (h : raw1.filter (live now) = raw2.filter (live now)) :
    (setAll now ms ⟨raw1, cur⟩).cur = (setAll now ms ⟨raw2, cur⟩).cur := by
  funext m
  rw [setAll_cur, setAll_cur]
  simp only
  rw [← livePrices_filter_live now raw1, ← livePrices_filter_live now raw2, h]

example : ([⟨1, 4, 700, 50⟩, ⟨1, 5, 1, 10⟩] : List Post).filter (live 10)
    = ([⟨1, 4, 700, 50⟩, ⟨1, 6, 99999, 3⟩] : List Post).filter (live 10) := by decide +kernel

/-- "the two implementations (per-market and all-markets)": for every active market,
    `SetCurrentPrices(market)` and `SetCurrentPricesForAllMarkets` store the same value; the
    per-market routine reports an error exactly when no post is unexpired. -/
theorem C18_two_impls_agree (now : Int) (ms : List MarketP) (s : St) (m : Nat)
    (hact : m ∈ activeIds ms) :
    (setCurrentPrices now ms s m).1.cur m = (setAll now ms s).cur m ∧
    ((setCurrentPrices now ms s m).2 = true ↔ livePrices now s.raw m = []) := by
  obtain ⟨mk, hmk⟩ := findMarket_of_active hact
  rw [setAll_cur, if_pos hact, aggregate]
  fun_cases setCurrentPrices now ms s m with
  | case1 hnone => rw [hmk] at hnone; cases hnone
  | case2 _ _ ne h0 => exact ⟨by rw [if_pos h0]; exact if_pos rfl, iff_of_true rfl (List.length_eq_zero_iff.1 h0)⟩
  | case3 _ _ ne h0 =>
    exact ⟨by rw [if_neg h0]; exact if_pos rfl, iff_of_false nofun fun e => h0 (List.length_eq_zero_iff.2 e)⟩

/-- "or unavailable if none is unexpired": after the end block the price of an active market is
    unavailable iff it has no unexpired post or the median of its unexpired posts is zero. -/
theorem C18_unavailable_iff (now : Int) (ms : List MarketP) (s : St) (m : Nat)
    (hact : m ∈ activeIds ms) :
    getCurrentPrice (setAll now ms s) m = none ↔
      (livePrices now s.raw m = [] ∨ median (livePrices now s.raw m) = 0) := by
  rw [C18_endblock_price now ms s m hact]
  by_cases h1 : livePrices now s.raw m = []
  · rw [if_pos h1]; exact iff_of_true rfl (Or.inl h1)
  · rw [if_neg h1]
    by_cases h2 : median (livePrices now s.raw m) = 0
    · rw [if_pos h2]; exact iff_of_true rfl (Or.inr h2)
    · rw [if_neg h2]; exact iff_of_false nofun fun h => h.elim h1 h2

example : getCurrentPrice (setAll 10 [⟨1, [4], true⟩] ⟨[⟨1, 4, 700, 10⟩], fun _ => some 700⟩) 1 = none := by
  decide +kernel

/-- Recorded, not claimed by the prose: the end blocker never touches a market that is not active, so a
    market switched to inactive keeps its last price (and consumers keep reading it). -/
theorem C18_inactive_keeps_price (now : Int) (ms : List MarketP) (s : St) (m : Nat)
    (h : m ∉ activeIds ms) : getCurrentPrice (setAll now ms s) m = getCurrentPrice s m := by
  unfold getCurrentPrice
  rw [setAll_cur, if_neg h]

example : getCurrentPrice (setAll 99 [⟨1, [4], false⟩] ⟨[⟨1, 4, 700, 10⟩], fun _ => some 700⟩) 1 = some 700 := by
  decide +kernel

/-! ## consumers: no price, no action

  `price` is `GetCurrentPrice` during the block.  The cdp flags are the ones its begin blocker wrote
  from the same `price` (C18_post_does_not_move_price: nothing moves it inside a block). Every check of
  an action that does not read a price is an arbitrary input `i`, so the theorems hold whatever those
  checks say.  "Needed" is read as: the price the action's own valuation consumes — both markets of the
  collateral type for create / deposit / withdraw / draw (the code demands both), the liquidation
  market for liquidation; for hard, the spot market of every asset that is valued. -/

/-- CDP creation is refused when the spot or the liquidation market of the collateral has no price. -/
theorem C18_consumers_refuse_cdp_create (price : Nat → Option Int) (cps : List CP) (f0 : Nat → Bool)
    (cp : CP) (hcp : cp ∈ cps) (i : CdpIn) (hdown : price cp.spot = none ∨ price cp.liq = none) :
    cdpCreate price (beginFlags price cps f0) cp i = .err := by
  unfold cdpCreate
  rw [validateCollateral_refuses f0 hcp i.found i.denomOk hdown]

/-- CDP deposit likewise. -/
theorem C18_consumers_refuse_cdp_deposit (price : Nat → Option Int) (cps : List CP) (f0 : Nat → Bool)
    (cp : CP) (hcp : cp ∈ cps) (i : CdpIn) (hdown : price cp.spot = none ∨ price cp.liq = none) :
    cdpDeposit (beginFlags price cps f0) cp i = .err := by
  unfold cdpDeposit
  rw [validateCollateral_refuses f0 hcp i.found i.denomOk hdown]

/-- CDP withdrawal likewise. -/
theorem C18_consumers_refuse_cdp_withdraw (price : Nat → Option Int) (cps : List CP) (f0 : Nat → Bool)
    (cp : CP) (hcp : cp ∈ cps) (i : CdpIn) (hdown : price cp.spot = none ∨ price cp.liq = none) :
    cdpWithdraw price (beginFlags price cps f0) cp i = .err := by
  unfold cdpWithdraw
  rw [validateCollateral_refuses f0 hcp i.found i.denomOk hdown]

example : (cdpCreate (fun m => if m = 1 then some 5 else none) (beginFlags (fun m => if m = 1 then some 5 else none) [⟨1, 1⟩] (fun _ => false)) ⟨1, 1⟩ {}).isOk = true := by
  decide +kernel

/-- CDP draw is refused when the spot or the liquidation market of the collateral has no price
    (`AddPrincipal` calls `ValidateCollateral` before anything else it does with the CDP), whatever the
    other inputs — no draw on a live spot price while the liquidation feed is down. -/
theorem C18_consumers_refuse_cdp_draw (price : Nat → Option Int) (cps : List CP) (f0 : Nat → Bool)
    (cp : CP) (hcp : cp ∈ cps) (i : CdpIn) (hdown : price cp.spot = none ∨ price cp.liq = none) :
    cdpDraw price (beginFlags price cps f0) cp i = .err := by
  unfold cdpDraw
  split
  · rfl
  · rw [validateCollateral_refuses f0 hcp i.found i.denomOk hdown]

example : (cdpDraw (fun _ => some 5) (beginFlags (fun _ => some 5) [⟨1, 2⟩] (fun _ => false)) ⟨1, 2⟩ {}).isOk = true := by
  decide +kernel

/-- CDP liquidation by a keeper is refused when the liquidation-market price is missing (for a CDP that
    holds collateral, which every stored CDP does). -/
theorem C18_consumers_refuse_cdp_liquidate (price : Nat → Option Int) (cp : CP) (i : CdpIn)
    (hcoll : i.collZero = false) (hdown : price cp.liq = none) : cdpLiquidate price cp i = .err := by
  unfold cdpLiquidate
  split
  · rfl
  · rw [hcoll]; exact ratioGate_refuses i.cmp0 i.cmp hdown

example : (cdpLiquidate (fun _ => some 5) ⟨1, 2⟩ {}).isOk = true := by decide +kernel

/-- Begin-block liquidation of a collateral type does not happen while either of its prices is
    missing, and `LiquidateCdps` itself errors before any seizure without the liquidation price. -/
theorem C18_consumers_refuse_cdp_block_liquidation (price : Nat → Option Int) (cp : CP) (skip : Bool)
    (hdown : price cp.spot = none ∨ price cp.liq = none) :
    beginSeizes price cp skip = false ∧ (price cp.liq = none → liquidateCdps price cp = .err) := by
  refine ⟨?_, fun h => by unfold liquidateCdps; simp only [h]⟩
  unfold beginSeizes
  cases hs : price cp.spot with
  | none => rfl
  | some v =>
    cases hl : price cp.liq with
    | none => rfl
    | some w => rw [hs, hl] at hdown; rcases hdown with h | h <;> cases h

example : beginSeizes (fun _ => some 5) ⟨1, 2⟩ false = true := by decide +kernel

/-- hard borrow is refused when any asset it values — a requested coin, a deposited coin or an already
    borrowed coin — has no money market price. -/
theorem C18_consumers_refuse_hard_borrow (price : Nat → Option Int) (mm : Nat → Option Nat)
    (req dep bor : List Nat) (i : HardIn) (d : Nat) (hd : d ∈ req ∨ d ∈ dep ∨ d ∈ bor)
    (hdown : ∀ m, mm d = some m → price m = none) : hardBorrow price mm req dep bor i = .err := by
  fun_cases hardBorrow price mm req dep bor i with
  | case1 | case2 | case3 | case4 | case6 => rfl
  | case5 _ a h1 b h2 c h3 =>
    rcases hd with h | h | h
    · rw [loadPrices_none h hdown] at h1; cases h1
    · rw [loadPrices_none h hdown] at h2; cases h2
    · rw [loadPrices_none h hdown] at h3; cases h3

example : (hardBorrow (fun _ => some 5) (fun d => some d) [1] [2] [] {}).isOk = true := by decide +kernel

/-- hard withdraw is refused when any asset of the remaining deposit or of the borrow has no price. -/
theorem C18_consumers_refuse_hard_withdraw (price : Nat → Option Int) (mm : Nat → Option Nat)
    (depAfter bor : List Nat) (i : HardIn) (d : Nat) (hd : d ∈ depAfter ∨ d ∈ bor)
    (hdown : ∀ m, mm d = some m → price m = none) : hardWithdraw price mm depAfter bor i = .err := by
  unfold hardWithdraw ltvGate
  split
  · rfl
  · have hm : d ∈ bor ++ depAfter := by
      rcases hd with h | h
      · exact mem_append_right _ h
      · exact mem_append_left _ h
    rw [loadPrices_none hm hdown]

example : (hardWithdraw (fun _ => some 5) (fun d => some d) [1] [2] {}).isOk = true := by decide +kernel

/-- hard liquidation is refused when any deposited or borrowed asset has no price. -/
theorem C18_consumers_refuse_hard_liquidate (price : Nat → Option Int) (mm : Nat → Option Nat)
    (dep bor : List Nat) (i : HardIn) (d : Nat) (hd : d ∈ dep ∨ d ∈ bor)
    (hdown : ∀ m, mm d = some m → price m = none) : hardLiquidate price mm dep bor i = .err :=
  C18_consumers_refuse_hard_withdraw price mm dep bor i d hd hdown

/-- Recorded reading of "needed": a keeper liquidation reads only the liquidation market, so it
    proceeds on that live price while the spot market of the collateral type is down; and a hard
    withdrawal that takes out the whole of an asset no longer values that asset, so it does not need
    its price. Neither uses a stale or zero price. (Draw is not in this list: it is refused while either
    market is down — `C18_consumers_refuse_cdp_draw`.) -/
theorem C18_needed_price_reading :
    (∃ price : Nat → Option Int, price 1 = none ∧ (cdpLiquidate price ⟨1, 2⟩ {}).isOk = true) ∧
    (∃ price : Nat → Option Int, price 7 = none ∧
      (hardWithdraw price (fun d => some d) [] [] {}).isOk = true) :=
  ⟨⟨fun m => if m = 2 then some 5 else none, by decide, by decide⟩,
   ⟨fun _ => none, by decide, by decide⟩⟩

/-- The guards, filters, comparator, mean, end-blocker call, price readers and gate calls regenerated
    from /repo on this run are the ones the model transcribes (`Shape`). A source edit to any of them
    changes `KV.Gen.c18…` and re-opens this obligation. -/
theorem C18_source_shape :
    KV.Gen.c18SetPriceGuard = Shape.setPriceGuard ∧ KV.Gen.c18PerMarketFilter = Shape.perMarketFilter ∧
    KV.Gen.c18AllMarketsFilter = Shape.allMarketsFilter ∧ KV.Gen.c18NoPriceTest = Shape.noPriceTest ∧
    KV.Gen.c18ZeroTest = Shape.zeroTest ∧ KV.Gen.c18MedianLess = Shape.medianLess ∧
    KV.Gen.c18MeanBody = Shape.meanBody ∧ KV.Gen.c18EndBlockerCalls = Shape.endBlockerCalls ∧
    KV.Gen.c18PriceReaders = Shape.priceReaders ∧ KV.Gen.c18GateCalls = Shape.gateCalls :=
  ⟨rfl, rfl, rfl, rfl, rfl, rfl, rfl, rfl, rfl, rfl⟩

/-! ## source tie (regenerated)

    `GoFn.Pricefeed.*` (Generated/FnPricefeed.lean) is regenerated on every run from the Go source of
    x/pricefeed/keeper/keeper.go by the function translator (tools/extract/fn*.go); the theorem says that the
    regenerated definition IS the hand-written model function.  Proof: Proofs/TieFnPricefeed.lean. -/

/-- `calculateMeanPrice` (the even-length branch of the median) on the two `Price` mantissas = `mean`, and it never
    panics -/
theorem C18_source_tie_calculateMeanPrice (a b : Int) :
    GoFn.Pricefeed.calculateMeanPrice_translated = true ∧
    GoFn.Pricefeed.calculateMeanPrice ⟨⟨a⟩⟩ ⟨⟨b⟩⟩ = Go.R.ok ⟨mean a b⟩ :=
  TieFn.pricefeed_calculateMeanPrice a b

end KV.PF
