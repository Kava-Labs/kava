/-
  C16 — Privileged actions succeed only for their designated principal.

  "State-changing privileged actions succeed only for the right signer: price posts only from an oracle
   of that market, issuance issue/redeem/block/unblock/pause only from the asset owner, incoming bep3 swaps
   only from the deputy, committee proposals and member-committee votes only from members, community
   parameter updates only from the governance authority, CDP draw and repay only on the signer's own CDP,
   and withdrawals only of the signer's own recorded deposit or shares. For every other signer the message
   fails and changes no state."

  The model is KavaVerif/Model/Authz.lean; every theorem is stated for an arbitrary address type `α`
  with decidable equality, so "every other signer" covers ordinary accounts, other modules' principals
  and module accounts alike.  The gating comparisons come from the table regenerated from the source
  (KavaVerif/Generated/C16Guards.lean); `C16_guard_table` pins that table.  Only property statements
  live here; helper lemmas are in KavaVerif/Proofs/Authz.lean.
-/
import KavaVerif.Proofs.Authz
import KavaVerif.Proofs.AuthzExpected

namespace KV.Authz
open KV.Gen.C16

/-! ## The regenerated tables -/

/-- The gating statement of every privileged handler, as extracted from /repo on this run, is the one the
    model and the theorems below were written against (operator, operands, what the true branch does,
    enclosing loop / type switch, the function's final return). -/
theorem C16_guard_table : KV.Gen.C16.guards = expectedGuards := rfl

/-- `GetSigners` of every privileged message returns the field that the msg server parses and hands to
    the keeper as the gated argument. -/
theorem C16_wiring_table : KV.Gen.C16.wiring = expectedWiring := rfl

/-- What the regenerated guard shapes denote — this is the tie between a table entry and the model guard:
    the owner / authority / membership / record-exists guards let control through exactly when the tested
    relation holds; the "more than recorded" guards exactly when it does not. -/
theorem C16_guards_denote :
    (∀ b, passes gPostPrice b = b) ∧ (∀ b, passes gIssue b = b) ∧ (∀ b, passes gRedeem b = b) ∧
    (∀ b, passes gBlock b = b) ∧ (∀ b, passes gUnblock b = b) ∧ (∀ b, passes gPause b = b) ∧
    (∀ b, condTrue gBep3 b = b) ∧ (∀ b, passes gSubmit b = b) ∧ (∀ b, passes gVote b = b) ∧
    (∀ b, passes gCommunity b = b) ∧ (∀ b, passes gCdpDraw b = b) ∧ (∀ b, passes gCdpRepay b = b) ∧
    (∀ b, passes gCdpWdCdp b = b) ∧ (∀ b, passes gCdpWdDep b = b) ∧ (∀ b, passes gCdpWdCap b = !b) ∧
    (∀ b, passes gHard b = b) ∧ (∀ b, condTrue gHardCap b = b) ∧
    (∀ b, passes gSwap b = b) ∧ (∀ b, passes gSwapCap b = !b) ∧
    (∀ b, passes gEarn b = b) ∧ (∀ b, passes gEarnCap b = !b) ∧
    (∀ b, passes gSavings b = b) ∧ (∀ b, condTrue gSavingsCap b = b) := by
  decide +kernel

/-- `GetOracle` / `HasMember` are list membership. -/
theorem C16_search_guards_denote {α : Type} [DecidableEq α] (l : List α) (v : α) :
    searchHit gGetOracle l v = decide (v ∈ l) ∧ searchHit gHasMember l v = decide (v ∈ l) :=
  ⟨searchHit_gGetOracle l v, searchHit_gHasMember l v⟩

/-- "For every other signer the message fails and changes no state": a message that does not succeed
    leaves the state as it was (baseapp discards the message's cache — trusted base). -/
theorem C16_failed_changes_nothing {σ : Type} (s : σ) (r : Res σ) (h : r.isOk = false) : after s r = s := by
  cases r with
  | ok s' => cases h
  | _ => rfl

variable {α : Type} [DecidableEq α]

/-! ## pricefeed — "price posts only from an oracle of that market" -/

theorem C16_pricefeed_post (s s' : PF α) (signer : α) (m : Nat) (price expiry : Int)
    (hok : postPrice s signer m price expiry = .ok s') :
    (∃ os, getOracles s m = some os ∧ signer ∈ os) ∧ s'.markets = s.markets ∧
    (∀ m' a', (m' ≠ m ∨ a' ≠ signer) → s'.raw m' a' = s.raw m' a') := by
  simp only [postPrice, ite_err_eq_ok, C16_guards_denote, Bool.not_eq_true', Bool.not_eq_false,
    Res.ok.injEq] at hok
  obtain ⟨hg, -, rfl⟩ := hok
  exact ⟨(getOracle_iff s m signer).mp hg, rfl, fun m' a' hne => if_neg (not_and_of_not_or_not hne)⟩

theorem C16_pricefeed_non_oracle_rejected (s : PF α) (signer : α) (m : Nat) (price expiry : Int)
    (hno : ∀ os, getOracles s m = some os → signer ∉ os) :
    (postPrice s signer m price expiry).isOk = false ∧ after s (postPrice s signer m price expiry) = s :=
  not_ok (fun s' hok => by
    obtain ⟨⟨os, h1, h2⟩, -⟩ := C16_pricefeed_post s s' signer m price expiry hok
    exact hno os h1 h2) s

/-- non-vacuity: oracle 7 of market 1 posts; the market-2 oracle 8 is refused on market 1 -/
example :
    let s : PF Nat := { markets := [⟨1, [5, 7]⟩, ⟨2, [8]⟩], raw := fun _ _ => none, now := 100 }
    (postPrice s 7 1 3 101).isOk = true ∧ (postPrice s 8 1 3 101).isOk = false := by decide +kernel

/-! ## issuance — "issue/redeem/block/unblock/pause only from the asset owner" -/

theorem C16_issuance_issue (s s' : Iss α) (signer receiver : α) (d : Nat) (amt : Int)
    (hok : issueTokens s signer receiver d amt = .ok s') :
    ∃ a, getAsset s d = some a ∧ signer = a.owner ∧ a.paused = false ∧
      (a.blockable = true → receiver ∉ a.blocked) ∧ s'.assets = s.assets := by
  -- without an asset `hok` becomes `.err = .ok s'` and that case closes; otherwise `hok` becomes the list of
  -- guards passed (`ite_err_eq_ok`), read with what the guard table says they test (`C16_guards_denote`)
  cases ha : getAsset s d <;>
    simp only [issueTokens, ha, ite_err_eq_ok, C16_guards_denote, Bool.not_eq_true', Bool.not_eq_false,
      decide_eq_true_eq, Bool.not_eq_true, Bool.and_eq_true, not_and, reduceCtorEq, and_false] at hok
  obtain ⟨-, hown, hp, hb, -, hok⟩ := hok
  refine ⟨_, rfl, hown, hp, hb, ?_⟩
  split at hok
  · cases hok
  · rename_i s1 hs1
    simp only [ite_err_eq_ok, Res.ok.injEq] at hok
    obtain ⟨-, rfl⟩ := hok
    split at hs1
    · exact (incSupply_frame s s1 _ amt hs1).1
    · cases hs1; rfl

theorem C16_issuance_redeem (s s' : Iss α) (signer : α) (d : Nat) (amt : Int)
    (hok : redeemTokens s signer d amt = .ok s') :
    ∃ a, getAsset s d = some a ∧ signer = a.owner ∧ a.paused = false ∧ s'.assets = s.assets ∧
      (∀ d' x, x ≠ signer → s'.bal d' x = s.bal d' x) := by
  cases ha : getAsset s d <;>
    simp only [redeemTokens, ha, ite_err_eq_ok, C16_guards_denote, Bool.not_eq_true', Bool.not_eq_false,
      decide_eq_true_eq, Bool.not_eq_true, Res.ok.injEq, reduceCtorEq, and_false] at hok
  obtain ⟨-, hown, hp, -, rfl⟩ := hok
  exact ⟨_, rfl, hown, hp, rfl, fun d' x hx => if_neg fun h => hx h.2⟩

theorem C16_issuance_block (s s' : Iss α) (signer x : α) (d : Nat)
    (hok : blockAddress s signer d x = .ok s') :
    ∃ a, getAsset s d = some a ∧ signer = a.owner ∧ a.blockable = true := by
  cases ha : getAsset s d <;>
    simp only [blockAddress, ha, ite_err_eq_ok, C16_guards_denote, Bool.not_eq_true', Bool.not_eq_false,
      decide_eq_true_eq, reduceCtorEq] at hok
  exact ⟨_, rfl, hok.2.1, hok.1⟩

theorem C16_issuance_unblock (s s' : Iss α) (signer x : α) (d : Nat)
    (hok : unblockAddress s signer d x = .ok s') :
    ∃ a, getAsset s d = some a ∧ signer = a.owner ∧ a.blockable = true := by
  cases ha : getAsset s d <;>
    simp only [unblockAddress, ha, ite_err_eq_ok, C16_guards_denote, Bool.not_eq_true', Bool.not_eq_false,
      decide_eq_true_eq, reduceCtorEq] at hok
  exact ⟨_, rfl, hok.2.1, hok.1⟩

theorem C16_issuance_pause (s s' : Iss α) (signer : α) (d : Nat) (status : Bool)
    (hok : setPauseStatus s signer d status = .ok s') :
    ∃ a, getAsset s d = some a ∧ signer = a.owner := by
  cases ha : getAsset s d <;>
    simp only [setPauseStatus, ha, ite_err_eq_ok, C16_guards_denote, Bool.not_eq_true', Bool.not_eq_false,
      decide_eq_true_eq, reduceCtorEq] at hok
  exact ⟨_, rfl, hok.1⟩

/-- All five issuance messages are refused for every signer that is not the asset's owner, and leave
    the state as it was. -/
theorem C16_issuance_non_owner_rejected (s : Iss α) (signer x : α) (d : Nat) (amt : Int) (status : Bool)
    (hno : ∀ a, getAsset s d = some a → signer ≠ a.owner) :
    after s (issueTokens s signer x d amt) = s ∧ after s (redeemTokens s signer d amt) = s ∧
    after s (blockAddress s signer d x) = s ∧ after s (unblockAddress s signer d x) = s ∧
    after s (setPauseStatus s signer d status) = s ∧
    (issueTokens s signer x d amt).isOk = false ∧ (redeemTokens s signer d amt).isOk = false ∧
    (blockAddress s signer d x).isOk = false ∧ (unblockAddress s signer d x).isOk = false ∧
    (setPauseStatus s signer d status).isOk = false := by
  have h1 := not_ok (fun s' hok => by
    obtain ⟨a, ha, ho, -⟩ := C16_issuance_issue s s' signer x d amt hok
    exact hno a ha ho) s
  have h2 := not_ok (fun s' hok => by
    obtain ⟨a, ha, ho, -⟩ := C16_issuance_redeem s s' signer d amt hok
    exact hno a ha ho) s
  have h3 := not_ok (fun s' hok => by
    obtain ⟨a, ha, ho, -⟩ := C16_issuance_block s s' signer x d hok
    exact hno a ha ho) s
  have h4 := not_ok (fun s' hok => by
    obtain ⟨a, ha, ho, -⟩ := C16_issuance_unblock s s' signer x d hok
    exact hno a ha ho) s
  have h5 := not_ok (fun s' hok => by
    obtain ⟨a, ha, ho⟩ := C16_issuance_pause s s' signer d status hok
    exact hno a ha ho) s
  exact ⟨h1.2, h2.2, h3.2, h4.2, h5.2, h1.1, h2.1, h3.1, h4.1, h5.1⟩

/-- non-vacuity: owner 1 of asset 9 issues, redeems, blocks, unblocks and pauses; account 2 cannot -/
example :
    let a : Asset Nat := { denom := 9, owner := 1, blocked := [4], paused := false, blockable := true,
                           rlActive := true, rlLimit := 100 }
    let s : Iss Nat := { assets := [a], curSupply := fun _ => some 10, bal := fun _ x => if x = 1 then 50 else 0,
                         total := fun _ => 50, isModAcc := fun x => x = 0, hasAcc := fun _ => true,
                         bankBlocked := fun x => x = 0 }
    (issueTokens s 1 3 9 20).isOk = true ∧ (redeemTokens s 1 9 20).isOk = true ∧
    (blockAddress s 1 9 3).isOk = true ∧ (unblockAddress s 1 9 4).isOk = true ∧
    (setPauseStatus s 1 9 true).isOk = true ∧
    (issueTokens s 2 3 9 20).isOk = false ∧ (setPauseStatus s 2 9 true).isOk = false ∧
    (issueTokens s 1 4 9 20).isOk = false := by decide +kernel

/-! ## bep3 — "incoming bep3 swaps only from the deputy" -/

/-- A created swap is recorded as incoming exactly when its sender is the deputy. -/
theorem C16_bep3_direction (s s' : B3 α) (rnh : Nat) (ts : Int) (span : Nat) (sender recipient : α)
    (so : Nat) (amt : Int) (dok : Bool)
    (hok : createSwap s rnh ts span sender recipient so amt dok = .ok s') :
    ∃ w, s'.swaps = w :: s.swaps ∧ w.sender = sender ∧ w.recipient = recipient ∧
      (w.incoming = true ↔ sender = s.deputy) := by
  obtain ⟨-, w, rfl, rfl, hw⟩ := createSwap_ok (by simp only [C16_guards_denote, implies_true]) hok
  split at hw
  · rename_i hd
    obtain ⟨-, rfl⟩ := createIncoming_ok hw
    exact ⟨_, rfl, rfl, rfl, iff_of_true rfl hd⟩
  · rename_i hd
    obtain ⟨-, rfl⟩ := createOutgoing_ok hw
    exact ⟨_, rfl, rfl, rfl, iff_of_false Bool.false_ne_true hd⟩

/-- Recipient rules, and what a non-deputy can touch: a sender other than the deputy can only create an
    outgoing swap to the deputy, paid from its own balance; the incoming supply and the account table are
    untouched. -/
theorem C16_bep3_recipient_rules (s s' : B3 α) (rnh : Nat) (ts : Int) (span : Nat) (sender recipient : α)
    (so : Nat) (amt : Int) (dok : Bool)
    (hok : createSwap s rnh ts span sender recipient so amt dok = .ok s') :
    s.isMacc recipient = false ∧
    (sender = s.deputy → recipient ≠ s.deputy ∧ s'.bal = s.bal ∧ s'.outgoing = s.outgoing) ∧
    (sender ≠ s.deputy → recipient = s.deputy ∧ s'.incoming = s.incoming ∧ s'.hasAcc = s.hasAcc ∧
        ∀ a, a ≠ sender → s'.bal a = s.bal a) := by
  obtain ⟨hm, w, rfl, rfl, hw⟩ := createSwap_ok (by simp only [C16_guards_denote, implies_true]) hok
  refine ⟨hm, ?_⟩
  split at hw
  · rename_i hd
    obtain ⟨hr, rfl⟩ := createIncoming_ok hw
    exact ⟨fun _ => ⟨hr, rfl, rfl⟩, fun h => absurd hd h⟩
  · rename_i hd
    obtain ⟨hr, rfl⟩ := createOutgoing_ok hw
    exact ⟨fun h => absurd h hd, fun _ => ⟨hr, rfl, rfl, fun a ha => upd_other _ _ ha⟩⟩

theorem C16_bep3_non_deputy_rejected (s : B3 α) (rnh : Nat) (ts : Int) (span : Nat) (sender recipient : α)
    (so : Nat) (amt : Int) (dok : Bool) (hs : sender ≠ s.deputy) (hr : recipient ≠ s.deputy) :
    (createSwap s rnh ts span sender recipient so amt dok).isOk = false ∧
    after s (createSwap s rnh ts span sender recipient so amt dok) = s :=
  not_ok (fun s' hok => hr ((C16_bep3_recipient_rules s s' rnh ts span sender recipient so amt dok hok).2.2 hs).1) s

/-- non-vacuity: deputy 1 creates an incoming swap for user 2; user 3 sending the same message is refused;
    user 3 can only open an outgoing swap towards the deputy -/
example :
    let s : B3 Nat := {
      deputy := 1, active := true, minAmt := 2, maxAmt := 1000, fee := 1, minLock := 5,
      maxLock := 10, limit := 5000, timeLimited := false, timeLimit := 0, cur := 100, incoming := 0,
      outgoing := 0, tlCur := 0, isMacc := fun x => x = 0, hasAcc := fun _ => true, bal := fun _ => 500,
      swaps := [], now := 10000, height := 7 }
    (createSwap s 42 10000 7 1 2 0 50 true).isOk = true ∧ (createSwap s 42 10000 7 3 2 0 50 true).isOk = false ∧
    (createSwap s 42 10000 7 3 1 0 50 true).isOk = true ∧ (createSwap s 42 10000 7 1 0 0 50 true).isOk = false := by
  decide +kernel

/-! ## committee — "proposals and member-committee votes only from members" -/

theorem C16_committee_submit (s s' : Com α) (signer : α) (cid : Nat) (permOk valid : Bool)
    (hok : submitProposal s signer cid permOk valid = .ok s') :
    (∃ c, getCommittee s cid = some c ∧ signer ∈ c.members) ∧
    s'.committees = s.committees ∧ s'.votes = s.votes := by
  cases hc : getCommittee s cid <;>
    simp only [submitProposal, hc, ite_err_eq_ok, C16_guards_denote, Bool.not_eq_true', Bool.not_eq_false,
      hasMember_iff, Res.ok.injEq, reduceCtorEq] at hok
  obtain ⟨hm, -, -, rfl⟩ := hok
  exact ⟨⟨_, rfl, hm⟩, rfl, rfl⟩

/-- A vote on a member committee's proposal is accepted only from a member (and only as a yes vote);
    whatever the committee kind, it touches no vote of another voter or proposal. -/
theorem C16_committee_vote (s s' : Com α) (signer : α) (pid opt : Nat)
    (hok : addVote s signer pid opt = .ok s') :
    (∃ p c, getProposal s pid = some p ∧ getCommittee s p.committee = some c ∧
        (c.isMember = true → signer ∈ c.members ∧ opt = 1)) ∧
    s'.committees = s.committees ∧ s'.proposals = s.proposals ∧
    (∀ w ∈ s.votes, (w.proposal ≠ pid ∨ w.voter ≠ signer) → w ∈ s'.votes) ∧
    (∀ w ∈ s'.votes, w ∈ s.votes ∨ (w.proposal = pid ∧ w.voter = signer)) := by
  cases hp : getProposal s pid <;>
    simp only [addVote, hp, ite_err_eq_ok, reduceCtorEq, and_false] at hok
  rename_i p
  cases hc : getCommittee s p.committee <;>
    simp only [hc, ite_err_eq_ok, C16_guards_denote, Bool.and_eq_true, Bool.not_eq_true', Bool.not_eq_false,
      not_and, bne_iff_ne, ne_eq, Decidable.not_not, hasMember_iff, Res.ok.injEq, reduceCtorEq, and_false] at hok
  obtain ⟨-, -, h1, h2, rfl⟩ := hok
  refine ⟨⟨p, _, rfl, hc, fun hm => ⟨h1 hm, h2 hm⟩⟩, rfl, rfl, ?_, ?_⟩
  · exact fun w hw hne => mem_setVote.mpr (.inr ⟨hw, hne⟩)
  · intro w hw
    rcases mem_setVote.mp hw with rfl | h
    · exact .inr ⟨rfl, rfl⟩
    · exact .inl h.1

theorem C16_committee_non_member_rejected (s : Com α) (signer : α) (cid pid opt : Nat) (permOk valid : Bool)
    (hno : ∀ c, c ∈ s.committees → c.isMember = true → signer ∉ c.members)
    (hno' : ∀ c, getCommittee s cid = some c → signer ∉ c.members)
    (hmc : ∀ p c, getProposal s pid = some p → getCommittee s p.committee = some c → c.isMember = true) :
    (submitProposal s signer cid permOk valid).isOk = false ∧ (addVote s signer pid opt).isOk = false := by
  refine ⟨(not_ok (fun s' hok => ?_) s).1, (not_ok (fun s' hok => ?_) s).1⟩
  · obtain ⟨⟨c, hc, hm⟩, -⟩ := C16_committee_submit s s' signer cid permOk valid hok
    exact hno' c hc hm
  · obtain ⟨⟨p, c, hp, hc, hm⟩, -⟩ := C16_committee_vote s s' signer pid opt hok
    have hcm := hmc p c hp hc
    exact hno c (List.mem_of_find?_eq_some hc) hcm (hm hcm).1

/-- Token committees are different (and outside the property's "member-committee votes"): the code does
    not test membership there, any account may vote.  Recorded so that the contrast is explicit. -/
theorem C16_committee_token_vote_not_gated :
    let s : Com Nat := { committees := [⟨1, [5], false, 10⟩], proposals := [⟨3, 1, 50⟩], votes := [],
                         nextId := 4, now := 20 }
    (addVote s 9 3 2).isOk = true := by decide +kernel

/-- non-vacuity: member 5 proposes and votes yes; non-member 9 can do neither; member 5 cannot vote no -/
example :
    let s : Com Nat := { committees := [⟨1, [5, 6], true, 10⟩], proposals := [⟨3, 1, 50⟩], votes := [],
                         nextId := 4, now := 20 }
    (submitProposal s 5 1 true true).isOk = true ∧ (addVote s 5 3 1).isOk = true ∧
    (submitProposal s 9 1 true true).isOk = false ∧ (addVote s 9 3 1).isOk = false ∧
    (addVote s 5 3 2).isOk = false := by decide +kernel

/-! ## community — "parameter updates only from the governance authority" -/

theorem C16_community_update (s s' : Comm α) (signer : α) (p : Nat) (valid : Bool)
    (hok : updateParams s signer p valid = .ok s') : signer = s.authority ∧ s'.authority = s.authority := by
  simp only [updateParams, ite_err_eq_ok, C16_guards_denote, Bool.not_eq_true', Bool.not_eq_false,
    decide_eq_true_eq, Res.ok.injEq] at hok
  obtain ⟨h, -, rfl⟩ := hok
  exact ⟨h.symm, rfl⟩

theorem C16_community_non_authority_rejected (s : Comm α) (signer : α) (p : Nat) (valid : Bool)
    (hne : signer ≠ s.authority) :
    (updateParams s signer p valid).isOk = false ∧ after s (updateParams s signer p valid) = s :=
  not_ok (fun s' hok => hne (C16_community_update s s' signer p valid hok).1) s

example : (updateParams (⟨3, 0⟩ : Comm Nat) 3 1 true).isOk = true ∧
          (updateParams (⟨3, 0⟩ : Comm Nat) 4 1 true).isOk = false := by decide +kernel

/-! ## cdp — "draw and repay only on the signer's own CDP", collateral withdrawal of the signer's deposit -/

/-- Drawing debt requires a CDP keyed by the signer; no CDP under another (owner, type) key changes, nobody
    else's balance changes. -/
theorem C16_cdp_draw (e : CdpEnv α) (s s' : CdpSt α) (signer : α) (t : Nat) (p : Int)
    (hok : drawDebt e s signer t p = .ok s') :
    (s.cdp signer t).isSome = true ∧
    (∀ o t', (o ≠ signer ∨ t' ≠ t) → s'.cdp o t' = s.cdp o t') ∧
    (∀ a, a ≠ signer → s'.usdx a = s.usdx a) ∧ s'.coll = s.coll := by
  cases hc : s.cdp signer t <;>
    simp only [drawDebt, hc, ite_err_eq_ok, Res.ok.injEq, reduceCtorEq, and_false] at hok
  obtain ⟨-, -, -, rfl⟩ := hok
  exact ⟨rfl, fun o t' => setCdp_other s _, fun a => upd_other _ _, rfl⟩

/-- Repaying requires a CDP keyed by the signer; other CDPs are untouched; the only collateral balances
    that move are those of the depositors of the signer's own CDP (returned when the debt is cleared). -/
theorem C16_cdp_repay (e : CdpEnv α) (s s' : CdpSt α) (signer : α) (t : Nat) (pay : Int)
    (hok : repayDebt e s signer t pay = .ok s') :
    (∃ c, s.cdp signer t = some c ∧
      (∀ t' a, (t' ≠ t ∨ ∀ d ∈ c.deps, d.1 ≠ a) → s'.coll t' a = s.coll t' a)) ∧
    (∀ o t', (o ≠ signer ∨ t' ≠ t) → s'.cdp o t' = s.cdp o t') ∧
    (∀ a, a ≠ signer → s'.usdx a = s.usdx a) := by
  cases hc : s.cdp signer t <;>
    simp only [repayDebt, hc, ite_err_eq_ok, reduceCtorEq, and_false] at hok
  rename_i c0
  obtain ⟨-, -, -, -, hok⟩ := hok
  split at hok <;> cases hok <;>
    refine ⟨⟨c0, rfl, fun t' a hne => ?_⟩, fun o t' => setCdp_other _ _, fun a => upd_other _ _⟩
  · -- debt cleared: the CDP's deposits go back to their depositors
    show upd s.coll t (refund (s.coll t) c0.deps) t' a = _
    by_cases ht : t' = t
    · subst ht
      rw [upd_same]
      exact refund_other _ _ a (hne.resolve_left (· rfl))
    · rw [upd_other _ _ ht]
  · rfl

/-- Withdrawing collateral requires a deposit recorded for the signer on that CDP, at most that deposit is
    paid out, to the signer; every other depositor's deposit on the CDP, every other CDP and every other
    account's balance are unchanged. -/
theorem C16_cdp_withdraw (e : CdpEnv α) (s s' : CdpSt α) (owner signer : α) (t : Nat) (x : Int)
    (hok : withdrawCollateral e s owner signer t x = .ok s') :
    (∃ c d, s.cdp owner t = some c ∧ depositOf c signer = some d ∧ x ≤ d ∧
      ∃ c', s'.cdp owner t = some c' ∧ ∀ a, a ≠ signer → depositOf c' a = depositOf c a) ∧
    (∀ o t', (o ≠ owner ∨ t' ≠ t) → s'.cdp o t' = s.cdp o t') ∧
    (∀ t' a, a ≠ signer → s'.coll t' a = s.coll t' a) ∧ s'.usdx = s.usdx := by
  cases hc : s.cdp owner t <;>
    simp only [withdrawCollateral, hc, ite_err_eq_ok, C16_guards_denote, Bool.not_eq_true',
      Bool.not_eq_false, Bool.not_not, decide_eq_true_eq, Int.not_lt, Option.isSome_iff_exists, Res.ok.injEq,
      reduceCtorEq, and_false] at hok
  obtain ⟨-, -, ⟨d, hd⟩, hcap, -, rfl⟩ := hok
  rw [hd] at hcap
  exact ⟨⟨_, d, rfl, hd, hcap, _, setCdp_same .., fun a ha => depositOf_setDeposit_other _ signer a _ ha⟩,
    fun o t' => setCdp_other s _, fun t' a ha => upd_upd_other s.coll t t' _ ha, rfl⟩

/-- A signer with no CDP (draw, repay) or no deposit on the named CDP (withdraw) is refused. -/
theorem C16_cdp_no_record_rejected (e : CdpEnv α) (s : CdpSt α) (owner signer : α) (t : Nat) (x : Int) :
    (s.cdp signer t = none → (drawDebt e s signer t x).isOk = false ∧ (repayDebt e s signer t x).isOk = false) ∧
    ((∀ c, s.cdp owner t = some c → depositOf c signer = none) →
      (withdrawCollateral e s owner signer t x).isOk = false) := by
  refine ⟨fun hn => ⟨(not_ok (fun s' hok => ?_) s).1, (not_ok (fun s' hok => ?_) s).1⟩,
    fun hn => (not_ok (fun s' hok => ?_) s).1⟩
  · simpa [hn] using (C16_cdp_draw e s s' signer t x hok).1
  · obtain ⟨⟨c, hc, -⟩, -⟩ := C16_cdp_repay e s s' signer t x hok
    simp [hn] at hc
  · obtain ⟨⟨c, d, hc, hd, -⟩, -⟩ := C16_cdp_withdraw e s s' owner signer t x hok
    simp [hn c hc] at hd

/-- non-vacuity: owner 1 draws, repays in full (collateral returns to depositors 1 and 2), depositor 2
    withdraws part of its deposit; account 3 (no CDP, no deposit) can do none of these -/
example :
    let e : CdpEnv Nat := { accrued := fun _ => 1, drawValid := fun _ _ => true, ratioOk := fun _ _ _ => true,
                            collValid := fun _ _ => true, payValid := fun _ => true }
    let s : CdpSt Nat := { cdp := fun o t => if o = 1 ∧ t = 0 then some ⟨30, 100, 2, [(1, 20), (2, 10)]⟩ else none,
                           usdx := fun _ => 1000, coll := fun _ _ => 0, totalPrincipal := fun _ => 100, debtFloor := 10 }
    (drawDebt e s 1 0 50).isOk = true ∧ (repayDebt e s 1 0 500).isOk = true ∧
    (withdrawCollateral e s 1 2 0 4).isOk = true ∧ (withdrawCollateral e s 1 2 0 11).isOk = false ∧
    (drawDebt e s 3 0 50).isOk = false ∧ (repayDebt e s 3 0 500).isOk = false ∧
    (withdrawCollateral e s 1 3 0 4).isOk = false := by decide +kernel

/-! ## hard, savings, swap, earn — "withdrawals only of the signer's own recorded deposit or shares" -/

theorem C16_hard_withdraw (e : HardEnv α) (s s' : Hard α) (signer : α) (req : Coins)
    (hok : hardWithdraw e s signer req = .ok s') :
    (∃ rec_ amt, s.dep signer = some rec_ ∧ calcWithdraw gHardCap (e.syncDep signer rec_) req = some amt ∧
      (∀ c ∈ amt, c.2 ≤ amountOf (e.syncDep signer rec_) c.1) ∧ s'.bal = credit s.bal signer amt) ∧
    (∀ a, a ≠ signer → s'.dep a = s.dep a ∧ s'.bor a = s.bor a ∧ ∀ d, s'.bal d a = s.bal d a) := by
  simp only [hardWithdraw, ite_err_eq_ok, C16_guards_denote, Bool.not_eq_true', Bool.not_eq_false,
    Option.isSome_iff_exists] at hok
  obtain ⟨⟨rec_, hr⟩, hok⟩ := hok
  simp only [hr, Option.getD_some] at hok
  split at hok
  · cases hok
  · rename_i amt hamt
    simp only [ite_err_eq_ok, Res.ok.injEq] at hok
    obtain ⟨-, -, rfl⟩ := hok
    exact ⟨⟨rec_, amt, hr, hamt, calcWithdraw_capped _ (by simp only [C16_guards_denote, implies_true]) _ _ _ hamt, rfl⟩,
      fun a ha => ⟨upd_other _ _ ha, upd_other _ _ ha, fun d => credit_other _ _ _ _ _ ha⟩⟩

theorem C16_savings_withdraw (s s' : Sav α) (signer : α) (req : Coins)
    (hok : savWithdraw s signer req = .ok s') :
    (∃ rec_ amt, s.dep signer = some rec_ ∧ calcWithdraw gSavingsCap rec_ req = some amt ∧
      (∀ c ∈ amt, c.2 ≤ amountOf rec_ c.1) ∧ s'.bal = credit s.bal signer amt) ∧
    (∀ a, a ≠ signer → s'.dep a = s.dep a ∧ ∀ d, s'.bal d a = s.bal d a) := by
  simp only [savWithdraw, ite_err_eq_ok, C16_guards_denote, Bool.not_eq_true', Bool.not_eq_false,
    Option.isSome_iff_exists] at hok
  obtain ⟨⟨rec_, hr⟩, hok⟩ := hok
  simp only [hr, Option.getD_some] at hok
  split at hok
  · cases hok
  · rename_i amt hamt
    simp only [ite_err_eq_ok, Res.ok.injEq] at hok
    obtain ⟨-, rfl⟩ := hok
    exact ⟨⟨rec_, amt, hr, hamt, calcWithdraw_capped _ (by simp only [C16_guards_denote, implies_true]) _ _ _ hamt, rfl⟩,
      fun a ha => ⟨upd_other _ _ ha, fun d => credit_other _ _ _ _ _ ha⟩⟩

theorem C16_swap_withdraw (s s' : SwapSt α) (signer : α) (p : Nat) (sh minA minB : Int)
    (hok : swapWithdraw s signer p sh minA minB = .ok s') :
    (∃ owned, s.shares signer p = some owned ∧ sh ≤ owned) ∧
    (∀ o p', (o ≠ signer ∨ p' ≠ p) → s'.shares o p' = s.shares o p') ∧
    (∀ p' a, a ≠ signer → s'.balA p' a = s.balA p' a ∧ s'.balB p' a = s.balB p' a) := by
  cases hq : s.pool p <;>
    simp only [swapWithdraw, hq, ite_err_eq_ok, ite_panic_eq_ok, C16_guards_denote, Bool.not_eq_true',
      Bool.not_eq_false, Bool.not_not, decide_eq_true_eq, Int.not_lt, Option.isSome_iff_exists, Res.ok.injEq,
      reduceCtorEq, and_false] at hok
  obtain ⟨⟨owned, hr⟩, hcap, -, -, -, rfl⟩ := hok
  rw [hr] at hcap
  exact ⟨⟨owned, hr, hcap⟩, fun o p' hne => if_neg (not_and_of_not_or_not hne),
    fun p' a ha => ⟨upd_upd_other s.balA p p' _ ha, upd_upd_other s.balB p p' _ ha⟩⟩

theorem C16_earn_withdraw (e : EarnEnv α) (s s' : Earn α) (signer : α) (d : Nat) (want : Int) (strat : Nat)
    (hok : earnWithdraw e s signer d want strat = .ok s') :
    (∃ rec_, s.shares signer = some rec_ ∧ e.toShares d want ≤ amountOf rec_ d) ∧
    (∀ a, a ≠ signer → s'.shares a = s.shares a ∧ ∀ d', s'.bal d' a = s.bal d' a) := by
  simp only [earnWithdraw, ite_err_eq_ok, C16_guards_denote, Bool.not_eq_true', Bool.not_eq_false,
    Bool.not_not, decide_eq_true_eq, Int.not_lt, Option.isSome_iff_exists, Res.ok.injEq] at hok
  obtain ⟨-, -, ⟨rec_, hr⟩, hcap, -, -, -, rfl⟩ := hok
  rw [hr] at hcap
  exact ⟨⟨rec_, hr, hcap⟩, fun a ha => ⟨upd_other _ _ ha, fun d' => credit_other _ _ _ _ _ ha⟩⟩

/-- A signer without a record is refused by all four withdrawals. -/
theorem C16_withdraw_no_record_rejected (eh : HardEnv α) (ee : EarnEnv α) (h : Hard α) (v : Sav α)
    (w : SwapSt α) (n : Earn α) (signer : α) (req : Coins) (p d strat : Nat) (sh minA minB want : Int) :
    (h.dep signer = none → (hardWithdraw eh h signer req).isOk = false) ∧
    (v.dep signer = none → (savWithdraw v signer req).isOk = false) ∧
    (w.shares signer p = none → (swapWithdraw w signer p sh minA minB).isOk = false) ∧
    (n.shares signer = none → (earnWithdraw ee n signer d want strat).isOk = false) := by
  refine ⟨fun hn => (not_ok (fun s' hok => ?_) h).1, fun hn => (not_ok (fun s' hok => ?_) v).1,
    fun hn => (not_ok (fun s' hok => ?_) w).1, fun hn => (not_ok (fun s' hok => ?_) n).1⟩
  · obtain ⟨⟨r, _, hr, -⟩, -⟩ := C16_hard_withdraw eh h s' signer req hok
    simp [hn] at hr
  · obtain ⟨⟨r, _, hr, -⟩, -⟩ := C16_savings_withdraw v s' signer req hok
    simp [hn] at hr
  · obtain ⟨⟨r, hr, -⟩, -⟩ := C16_swap_withdraw w s' signer p sh minA minB hok
    simp [hn] at hr
  · obtain ⟨⟨r, hr, -⟩, -⟩ := C16_earn_withdraw ee n s' signer d want strat hok
    simp [hn] at hr

/-- non-vacuity: depositor 1 withdraws from each module (asking hard/savings for more than recorded pays
    out the recorded amount only); account 2, without records, is refused everywhere -/
example :
    let eh : HardEnv Nat := { syncDep := fun _ c => c, syncBor := fun _ c => c, ltvOk := fun _ _ => true }
    let ee : EarnEnv Nat := { vaultOk := fun _ _ => true, toShares := fun _ x => x, toAssets := fun _ x => x,
                              valueOf := fun _ _ => 100, stratOk := fun _ _ => true, isDust := fun _ x => x < 1 }
    let h : Hard Nat := { dep := fun a => if a = 1 then some [(0, 40)] else none, bor := fun _ => none,
                          supplied := fun _ => 40, modBal := fun _ => 40, bal := fun _ _ => 0, bankBlocked := fun _ => false }
    let v : Sav Nat := { dep := fun a => if a = 1 then some [(0, 40)] else none, modBal := fun _ => 40,
                         bal := fun _ _ => 0, bankBlocked := fun _ => false }
    let w : SwapSt Nat := { shares := fun a _ => if a = 1 then some 10 else none, pool := fun _ => some ⟨100, 200, 20⟩,
                            balA := fun _ _ => 0, balB := fun _ _ => 0 }
    let n : Earn Nat := { shares := fun a => if a = 1 then some [(0, 40)] else none, totalShares := fun _ => 40,
                          bal := fun _ _ => 0, bankBlocked := fun _ => false }
    (hardWithdraw eh h 1 [(0, 99)]).isOk = true ∧ (savWithdraw v 1 [(0, 99)]).isOk = true ∧
    (swapWithdraw w 1 0 10 1 1).isOk = true ∧ (swapWithdraw w 1 0 11 1 1).isOk = false ∧
    (earnWithdraw ee n 1 0 40 0).isOk = true ∧ (earnWithdraw ee n 1 0 41 0).isOk = false ∧
    (hardWithdraw eh h 2 [(0, 9)]).isOk = false ∧ (savWithdraw v 2 [(0, 9)]).isOk = false ∧
    (swapWithdraw w 2 0 1 1 1).isOk = false ∧ (earnWithdraw ee n 2 0 4 0).isOk = false := by decide +kernel

end KV.Authz
