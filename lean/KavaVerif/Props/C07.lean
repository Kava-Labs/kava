/-
  C07 — Swap AMM: reserves are in custody, share value never drops, no rounding profit.

  "After every operation the swap module account balance equals the sum of all pool reserves and each
   pool's total shares equal the sum of its depositors' shares. A swap never decreases the product of
   the pool's reserves and always keeps at least the configured fee in the pool; deposits and
   withdrawals never decrease the reserves backing each outstanding share, so depositing and
   immediately withdrawing never returns more of either token than was put in, and in a pool nobody
   else touches no sequence of swaps leaves a trader with more of one token without less of the other.
   Results do not depend on the order in which the two tokens are named, and the caller's slippage
   limit is always enforced."

  The model is KavaVerif/Model/Swap.lean (base_pool.go, denominated_pool.go, deposit.go, withdraw.go,
  swap.go transcribed; sdkmath.Int = Int unbounded, sdk.Dec bit-exact).  Only property statements live
  here; helper lemmas are in KavaVerif/Proofs/Swap.lean and KavaVerif/Proofs/SwapKeeper.lean.
  `P` = 10^18 is the Dec precision; a fee rate is `fee.m / P`.
-/
import KavaVerif.Proofs.SwapKeeper
import KavaVerif.Generated.C07Swap
import KavaVerif.Proofs.TieFnSwap
set_option linter.unusedVariables false

namespace KV.SW

/-! ## BasePool: all reserve sizes, all amounts, all fee rates in [0,1) -/

/-- "initial shares via integer sqrt": the shares of a new pool are exactly ⌊√(A·B)⌋. -/
theorem C07_isqrt (a b : Int) (ha : 0 < a) (hb : 0 < b) :
    ∃ p, newBasePool a b = some p ∧ p.a = a ∧ p.b = b ∧ 0 ≤ p.s ∧
      p.s * p.s ≤ a * b ∧ a * b < (p.s + 1) * (p.s + 1) := by
  refine ⟨⟨a, b, initialShares a b⟩, ?_, rfl, rfl, initialShares_nonneg a b, ?_⟩
  · unfold newBasePool; rw [if_neg (by omega)]
  · exact initialShares_spec (Int.le_of_lt (Int.mul_pos ha hb))

/-- "A swap never decreases the product of the pool's reserves": for each of the four swap functions,
    on any pool with positive reserves, a successful swap has
    (A' − feeA)(B' − feeB) ≥ A·B — the quantity `assertInvariantAndUpdateReserves` checks —
    hence A'·B' ≥ A·B, and both reserves stay positive; the shares are untouched. -/
theorem C07_product_nondecreasing (p p' : Pool) (fee : Dec) (op : SwapOp) (r fv : Int)
    (ha : 0 < p.a) (hb : 0 < p.b) (h : applySwap p fee op = some (p', r, fv)) :
    p.a * p.b ≤ (p'.a - (if op.paysA then fv else 0)) * (p'.b - (if op.paysA then 0 else fv)) ∧
    p.a * p.b ≤ p'.a * p'.b ∧ 0 < p'.a ∧ 0 < p'.b ∧ p'.s = p.s :=
  applySwap_product ha hb h

/-- … so the internal invariant assertion (a panic) can never fire: with the documented input guards
    (positive amount, fee in [0,1), exact output below the reserve) every swap on a pool with positive
    reserves succeeds.  (Also a C02 obligation.) -/
theorem C07_invariant_assertion_unreachable (p : Pool) (fee : Dec) (op : SwapOp)
    (ha : 0 < p.a) (hb : 0 < p.b) (hg : op.guardsOk p fee) : ∃ r, applySwap p fee op = some r :=
  applySwap_total p fee op ha hb hg

/-- "always keeps at least the configured fee in the pool": the whole input (fee included) is added to
    the reserve of the token paid in, the output is taken from the other reserve, and the fee part `fv`
    of the input satisfies fv ≥ input·rate (so fv ≥ ⌈input·rate⌉, `fv` being an integer), 0 ≤ fv ≤ input;
    the product inequality of `C07_product_nondecreasing` holds with that fee set aside. -/
theorem C07_fee_kept (p p' : Pool) (fee : Dec) (op : SwapOp) (r fv : Int)
    (ha : 0 < p.a) (hb : 0 < p.b) (h : applySwap p fee op = some (p', r, fv)) :
    (if op.paysA then p'.a else p'.b) = (if op.paysA then p.a else p.b) + op.paid r ∧
    (if op.paysA then p'.b else p'.a) = (if op.paysA then p.b else p.a) - op.received r ∧
    op.paid r * fee.m ≤ fv * P ∧ 0 ≤ fv ∧ fv ≤ op.paid r ∧ 0 < op.paid r ∧ 0 ≤ op.received r := by
  obtain ⟨sp, -⟩ := applySwap_spec ha hb h
  exact ⟨sp.in_added, sp.out_taken, sp.fee_rate, sp.fee_nonneg, sp.fee_le, sp.inp_pos, sp.out_nonneg⟩

/-- "deposits and withdrawals never decrease the reserves backing each outstanding share":
    A'/S' ≥ A/S and B'/S' ≥ B/S, cross-multiplied, for `AddLiquidity` … -/
theorem C07_share_value_monotone_deposit (p p' : Pool) (da db actA actB sh : Int)
    (ha : 0 < p.a) (hb : 0 < p.b) (hs : 0 ≤ p.s)
    (h : addLiquidity p da db = some (p', actA, actB, sh)) :
    p.a * p'.s ≤ p'.a * p.s ∧ p.b * p'.s ≤ p'.b * p.s ∧
    0 ≤ actA ∧ actA ≤ da ∧ 0 ≤ actB ∧ actB ≤ db ∧ 0 ≤ sh := by
  have ad := addLiquidity_spec ha hb hs h
  exact ⟨ad.mono.1, ad.mono.2, ad.a_nonneg, ad.a_le, ad.b_nonneg, ad.b_le, ad.sh_nonneg⟩

/-- … and for `RemoveLiquidity`. -/
theorem C07_share_value_monotone_withdraw (p p' : Pool) (sh wa wb : Int) (ha : 0 ≤ p.a) (hb : 0 ≤ p.b)
    (h : removeLiquidity p sh = some (p', wa, wb)) :
    p.a * p'.s ≤ p'.a * p.s ∧ p.b * p'.s ≤ p'.b * p.s ∧ 0 ≤ wa ∧ wa ≤ p.a ∧ 0 ≤ wb ∧ wb ≤ p.b := by
  have rm := removeLiquidity_spec ha hb h
  exact ⟨rm.mono.1, rm.mono.2, rm.wa_nonneg, rm.wa_le_a ha, rm.wb_nonneg, rm.wb_le_b hb⟩

/-- "depositing and immediately withdrawing never returns more of either token than was put in" -/
theorem C07_deposit_withdraw_no_profit (p p1 p2 : Pool) (da db actA actB sh wa wb : Int)
    (ha : 0 < p.a) (hb : 0 < p.b) (hs : 0 < p.s)
    (h1 : addLiquidity p da db = some (p1, actA, actB, sh))
    (h2 : removeLiquidity p1 sh = some (p2, wa, wb)) : wa ≤ actA ∧ wb ≤ actB :=
  roundtrip_no_profit ha hb hs h1 h2

/-- the same for the first deposit (pool creation): withdrawing all the initial shares returns exactly
    what was put in -/
theorem C07_create_withdraw_no_profit (a b : Int) (p p2 : Pool) (wa wb : Int)
    (h1 : newBasePool a b = some p) (h2 : removeLiquidity p p.s = some (p2, wa, wb)) :
    wa = a ∧ wb = b := by
  unfold newBasePool at h1
  obtain ⟨hc, h1⟩ := of_ite h1
  cases h1
  have rm := removeLiquidity_spec (by simp only []; omega) (by simp only []; omega) h2
  exact ⟨rm.all.1, rm.all.2.1⟩

/-- "in a pool nobody else touches no sequence of swaps leaves a trader with more of one token without
    less of the other": over ANY list of swaps (any kinds, amounts, fee rates; panicking swaps change
    nothing), if the pool ends with less A than it started with (the trader holds more A) then it ends
    with strictly more B (the trader holds less B), and symmetrically.  The product of the reserves never
    decreases over the sequence. -/
theorem C07_no_free_token (p : Pool) (ops : List (Dec × SwapOp)) (ha : 0 < p.a) (hb : 0 < p.b) :
    ((runSwaps p ops).a < p.a → p.b < (runSwaps p ops).b) ∧
    ((runSwaps p ops).b < p.b → p.a < (runSwaps p ops).a) ∧
    p.a * p.b ≤ (runSwaps p ops).a * (runSwaps p ops).b := by
  obtain ⟨a', b', pr, -⟩ := runSwaps_product ops p ha hb
  refine ⟨fun hlt => product_no_free hb a' pr hlt, fun hlt => ?_, pr⟩
  exact product_no_free ha b' (by rw [Int.mul_comm p.b, Int.mul_comm (runSwaps p ops).b]; exact pr) hlt

/-- "Results do not depend on the order in which the two tokens are named": every BasePool operation
    commutes with exchanging the two tokens (for every pool and every input, valid or not). -/
theorem C07_symmetric (p : Pool) (da db sh : Int) (fee : Dec) (op : SwapOp) :
    addLiquidity p.flip db da = flipAdd (addLiquidity p da db) ∧
    removeLiquidity p.flip sh = flipRem (removeLiquidity p sh) ∧
    applySwap p.flip fee op.flip = flipSwap (applySwap p fee op) ∧
    initialShares db da = initialShares da db :=
  ⟨addLiquidity_flip p da db, removeLiquidity_flip p sh, applySwap_flip p fee op, initialShares_comm db da⟩

/-! ## Keeper: pool records, share records, module account; all histories -/

/-- The custody theorems below quantify over the keeper's own messages; that nothing else moves the
    module account's coins is wiring, regenerated from app/app.go and x/swap on every run: the swap
    module account is not among the accounts exempt from the bank's blocked-recipient list (a bank send
    to it is refused), it has no mint or burn permission, the account the keeper sends to is the module
    name app.go registers, and the four invariant routes (incl. pool-reserves and pool-shares, i.e.
    `C07_custody` and `C07_shares_sum` as runtime checks) are registered.  A source edit that changes
    any of these changes the generated table and re-opens this obligation. -/
theorem C07_module_account_closed :
    KV.Gen.C07.swapModuleAccount ∉ KV.Gen.C07.unblockedModuleAccounts ∧
    KV.Gen.C07.swapPerms = [] ∧
    KV.Gen.C07.moduleAccountNameExpr = KV.Gen.C07.moduleNameExpr ∧
    "pool-reserves" ∈ KV.Gen.C07.registeredInvariants ∧ "pool-shares" ∈ KV.Gen.C07.registeredInvariants ∧
    KV.Gen.C07.maxSwapFeeExpr = "sdk.OneDec()" := by
  decide

/-- the state before any swap message: no pools, no shares, an empty module account -/
theorem C07_inv_genesis (M : Addr) (accts : List Addr) (pids : List PoolId) (bal : Addr → Denom → Int)
    (hM : ∀ d, bal M d = 0) : Inv M accts pids ⟨fun _ => none, fun _ _ => 0, bal⟩ := by
  refine ⟨?_, ?_, ?_, ?_, ?_⟩
  · intro d; exact (hM d).trans (sumL_zero pids fun _ => rfl).symm
  · intro pid; exact (sumL_zero accts fun _ => rfl).symm
  · intro pid h; exact absurd rfl h
  · intro pid p h; cases h
  · intro a pid; exact Int.le_refl 0

/-- One step: every successful message (deposit incl. pool creation, withdraw incl. pool deletion, both
    swaps) preserves the invariant `Inv` = custody ∧ shares-sum ∧ record validity. -/
theorem C07_inv_step (M : Addr) (accts : List Addr) (pids : List PoolId) (prm : Params) (s s' : KSt) (op : Op)
    (hnA : accts.Nodup) (hnP : pids.Nodup) (hw : op.who ∈ accts) (hwM : op.who ≠ M)
    (hallow : ∀ pid, prm.allowed pid = true → pid ∈ pids)
    (h : Inv M accts pids s) (hok : kstep M prm s op = .ok s') : Inv M accts pids s' :=
  kstep_inv hnA hnP hw hwM hallow h hok

/-- "After every operation the swap module account balance equals the sum of all pool reserves":
    for every history of messages by accounts in `accts` (none of them the module account) under any
    sequence of parameter sets whose allowed pools lie in `pids`, from any state satisfying the
    invariant (e.g. genesis), per denomination. -/
theorem C07_custody (M : Addr) (accts : List Addr) (pids : List PoolId)
    (hnA : accts.Nodup) (hnP : pids.Nodup) (ops : List (Params × Op)) (s : KSt)
    (hops : ∀ o ∈ ops, o.2.who ∈ accts ∧ o.2.who ≠ M ∧ ∀ pid, o.1.allowed pid = true → pid ∈ pids)
    (h : Inv M accts pids s) (d : Denom) :
    (runOps M s ops).bal M d = sumL pids (fun pid => resv pid ((runOps M s ops).pool pid) d) :=
  (runOps_inv hnA hnP ops s hops h).custody d

/-- "each pool's total shares equal the sum of its depositors' shares" — same quantification; every
    stored pool record has positive reserves and shares, every share record is non-negative. -/
theorem C07_shares_sum (M : Addr) (accts : List Addr) (pids : List PoolId)
    (hnA : accts.Nodup) (hnP : pids.Nodup) (ops : List (Params × Op)) (s : KSt)
    (hops : ∀ o ∈ ops, o.2.who ∈ accts ∧ o.2.who ≠ M ∧ ∀ pid, o.1.allowed pid = true → pid ∈ pids)
    (h : Inv M accts pids s) (pid : PoolId) :
    totalShares ((runOps M s ops).pool pid) = sumL accts (fun a => (runOps M s ops).sh a pid) ∧
    (∀ p, (runOps M s ops).pool pid = some p → 0 < p.a ∧ 0 < p.b ∧ 0 < p.s) ∧
    (∀ a, 0 ≤ (runOps M s ops).sh a pid) :=
  let i := runOps_inv hnA hnP ops s hops h
  ⟨i.shares pid, i.valid pid, fun a => i.shNonneg a pid⟩

/-- A successful keeper swap (either kind) stores exactly the result of the BasePool swap on the stored
    record, so `C07_product_nondecreasing` and `C07_fee_kept` apply to it with the configured fee:
    stated directly on the records and on the trader's balance — the trader pays `x`, all of it is added
    to the reserve of the token paid, receives `y`, taken from the other reserve, and
    (Rin' − fee)(Rout') ≥ Rin·Rout for a fee of at least x·rate. -/
theorem C07_keeper_swap (M : Addr) (prm : Params) (s s' : KSt) (op : Op) (who : Addr) (dIn dOut : Denom)
    (x1 x2 : Int) (slip : Dec) (hwM : who ≠ M)
    (hop : op = .swapExact who dIn x1 dOut x2 slip ∨ op = .swapForExact who dIn x1 dOut x2 slip)
    (hok : kstep M prm s op = .ok s') :
    ∃ (r p' : Pool) (x y fv : Int),
      s.pool (poolId dIn dOut) = some r ∧ s'.pool (poolId dIn dOut) = some p' ∧ p'.s = r.s ∧
      s.bal who dIn - s'.bal who dIn = x ∧ s'.bal who dOut - s.bal who dOut = y ∧ 0 < x ∧ 0 ≤ y ∧
      SwapSpec (rIn r (poolId dIn dOut) dIn) (rOut r (poolId dIn dOut) dIn)
               (rIn p' (poolId dIn dOut) dIn) (rOut p' (poolId dIn dOut) dIn) x y fv prm.fee.m := by
  rcases hop with rfl | rfl
  · obtain ⟨r, p', out, fv, k, -⟩ := swapExact_ok hok
    exact ⟨r, p', x1, out, fv, k.effect hwM⟩
  · obtain ⟨r, p', inp, fv, k, -⟩ := swapForExact_ok hok
    exact ⟨r, p', inp, x2, fv, k.effect hwM⟩

/-- A successful keeper deposit / withdrawal never decreases the reserves backing each share of the
    stored record (a created pool has no previous shares; a deleted pool has none left). -/
theorem C07_keeper_share_value_monotone (M : Addr) (prm : Params) (s s' : KSt) (op : Op)
    (r p' : Pool)
    (hvalid : ∀ pid p, s.pool pid = some p → 0 < p.a ∧ 0 < p.b ∧ 0 < p.s)
    (hwM : op.who ≠ M)
    (hok : kstep M prm s op = .ok s') :
    (∀ who dA xA dB xB slip, op = .deposit who dA xA dB xB slip →
        s.pool (poolId dA dB) = some r → s'.pool (poolId dA dB) = some p' →
        r.a * p'.s ≤ p'.a * r.s ∧ r.b * p'.s ≤ p'.b * r.s) ∧
    (∀ who sh dA mA dB mB, op = .withdraw who sh dA mA dB mB →
        s.pool (poolId dA dB) = some r → s'.pool (poolId dA dB) = some p' →
        r.a * p'.s ≤ p'.a * r.s ∧ r.b * p'.s ≤ p'.b * r.s) := by
  constructor
  · intro who dA xA dB xB slip hop hr hp'
    subst hop
    obtain ⟨q', depLo, depHi, sh, d⟩ := deposit_ok hok
    rw [d.moved.pool, if_pos rfl] at hp'; cases hp'
    have := d.add.mono
    rw [hr] at this; exact this
  · intro who sh dA mA dB mB hop hr hp'
    subst hop
    obtain ⟨r0, q', wLo, wHi, w⟩ := withdraw_ok hok
    rw [w.found] at hr; cases hr
    rw [w.moved.pool, if_pos rfl] at hp'
    split at hp' <;> cases hp'
    exact w.rem.mono

/-- "the caller's slippage limit is always enforced" — deposit: on success the price change the keeper
    computes from what the depositor actually paid (Dec `Quo`, `MaxDec`, minus one) is within the limit,
    and never more than the desired amounts is taken. -/
theorem C07_slippage_enforced_deposit (M : Addr) (prm : Params) (s s' : KSt) (who : Addr) (dA : Denom)
    (xA : Int) (dB : Denom) (xB : Int) (slip : Dec) (hwM : who ≠ M)
    (hvalid : ∀ pid p, s.pool pid = some p → 0 < p.a ∧ 0 < p.b ∧ 0 < p.s)
    (hok : deposit M prm s who dA xA dB xB slip = .ok s') :
    let paidA := s.bal who dA - s'.bal who dA
    let paidB := s.bal who dB - s'.bal who dB
    0 < paidA ∧ paidA ≤ xA ∧ 0 < paidB ∧ paidB ≤ xB ∧
    (Dec.sub (Dec.max (Dec.quo (Dec.ofInt xA) (Dec.ofInt paidA)) (Dec.quo (Dec.ofInt xB) (Dec.ofInt paidB)))
      Dec.one).m ≤ slip.m := by
  obtain ⟨p', depLo, depHi, sh, d⟩ := deposit_ok hok
  obtain ⟨pA, pB⟩ := d.moved.paid_sorted hwM d.ne
  have hsl := d.slip; have aL := d.add.a_le; have bL := d.add.b_le
  obtain ⟨-, dl, dh⟩ := d.pos
  simp only []
  rw [pA, pB]
  by_cases hc : dB < dA
  · simp only [if_pos hc] at aL bL hsl ⊢; exact ⟨dh, bL, dl, aL, hsl⟩
  · simp only [if_neg hc] at aL bL hsl ⊢; exact ⟨dl, aL, dh, bL, hsl⟩

/-- … withdraw: on success the owner receives at least both minimum amounts. -/
theorem C07_slippage_enforced_withdraw (M : Addr) (s s' : KSt) (who : Addr) (shares : Int) (dA : Denom)
    (minA : Int) (dB : Denom) (minB : Int) (hwM : who ≠ M)
    (hok : withdraw M s who shares dA minA dB minB = .ok s') :
    minA ≤ s'.bal who dA - s.bal who dA ∧ minB ≤ s'.bal who dB - s.bal who dB ∧
    s'.sh who (poolId dA dB) = s.sh who (poolId dA dB) - shares := by
  obtain ⟨r, p', wLo, wHi, w⟩ := withdraw_ok hok
  obtain ⟨pA, pB⟩ := w.moved.paid_sorted hwM w.ne
  have mA := w.minA; have mB := w.minB
  have hsh : s'.sh who (poolId dA dB) = s.sh who (poolId dA dB) - shares := by
    rw [w.moved.sh, if_pos ⟨rfl, rfl⟩]
  by_cases hc : dB < dA
  · simp only [if_pos hc] at pA pB mA mB; exact ⟨by omega, by omega, hsh⟩
  · simp only [if_neg hc] at pA pB mA mB; exact ⟨by omega, by omega, hsh⟩

/-- … exact-input swap: on success the trader paid exactly `xIn` and the output `out` received
    satisfies the keeper's check 1 − out/minOut ≤ limit (Dec `Quo`); in integers this gives
    out/minOut ≥ 1 − limit − ½·10⁻¹⁸, the half unit being `Quo`'s banker's rounding. -/
theorem C07_slippage_enforced_swap_exact_input (M : Addr) (prm : Params) (s s' : KSt) (who : Addr)
    (dIn : Denom) (xIn : Int) (dOut : Denom) (minOut : Int) (slip : Dec) (hwM : who ≠ M)
    (hok : swapExactForTokens M prm s who dIn xIn dOut minOut slip = .ok s') :
    let out := s'.bal who dOut - s.bal who dOut
    s.bal who dIn - s'.bal who dIn = xIn ∧ 0 < out ∧
    slippageOk (Dec.quo (Dec.ofInt out) (Dec.ofInt minOut)) slip = true := by
  obtain ⟨r, p', out, fv, k, -, hz, hsl⟩ := swapExact_ok hok
  have := k.spec.out_nonneg
  simp only []
  rw [k.received hwM]
  exact ⟨k.paid hwM, by omega, hsl⟩

/-- … exact-output swap: on success the trader received exactly `xOut`, paid `inp`, and the keeper's
    check 1 − maxIn/(inp − fee) ≤ limit holds for the fee part `fv ≥ inp·rate` of the input. -/
theorem C07_slippage_enforced_swap_exact_output (M : Addr) (prm : Params) (s s' : KSt) (who : Addr)
    (dIn : Denom) (maxIn : Int) (dOut : Denom) (xOut : Int) (slip : Dec) (hwM : who ≠ M)
    (hok : swapForExactTokens M prm s who dIn maxIn dOut xOut slip = .ok s') :
    let inp := s.bal who dIn - s'.bal who dIn
    s'.bal who dOut - s.bal who dOut = xOut ∧
    ∃ fv, 0 ≤ fv ∧ fv < inp ∧ inp * prm.fee.m ≤ fv * P ∧
      slippageOk (Dec.quo (Dec.ofInt maxIn) (Dec.ofInt (inp - fv))) slip = true := by
  obtain ⟨r, p', inp, fv, k, -, hlt, hsl⟩ := swapForExact_ok hok
  simp only []
  rw [k.paid hwM]
  exact ⟨k.received hwM, fv, k.spec.fee_nonneg, hlt, k.spec.fee_rate, hsl⟩

/-- The same three checks in exact (rational) terms, free of Dec: a successful exact-input swap pays out
    `out` with out/minOut ≥ 1 − limit − ½·10⁻¹⁸; a successful exact-output swap has
    maxIn/(inp − fee) ≥ 1 − limit − ½·10⁻¹⁸; a successful deposit takes `paid` with
    desired/paid < 1 + limit + ½·10⁻¹⁸ + 10⁻³⁶ for both tokens (all cross-multiplied; the half unit is the
    banker's rounding of `Dec.Quo`). -/
theorem C07_slippage_enforced_exact (M : Addr) (prm : Params) (s s' : KSt) (who : Addr) (hwM : who ≠ M)
    (hvalid : ∀ pid p, s.pool pid = some p → 0 < p.a ∧ 0 < p.b ∧ 0 < p.s) :
    (∀ dIn xIn dOut minOut slip, swapExactForTokens M prm s who dIn xIn dOut minOut slip = .ok s' →
        2 * ((P - slip.m) * minOut) ≤ 2 * (s'.bal who dOut - s.bal who dOut) * P + minOut) ∧
    (∀ dIn maxIn dOut xOut slip, swapForExactTokens M prm s who dIn maxIn dOut xOut slip = .ok s' →
        ∃ fv, 0 ≤ fv ∧ (s.bal who dIn - s'.bal who dIn) * prm.fee.m ≤ fv * P ∧
          2 * ((P - slip.m) * (s.bal who dIn - s'.bal who dIn - fv)) ≤
            2 * maxIn * P + (s.bal who dIn - s'.bal who dIn - fv)) ∧
    (∀ dA xA dB xB slip, deposit M prm s who dA xA dB xB slip = .ok s' →
        2 * xA * P * P < (2 * ((P + slip.m) * (s.bal who dA - s'.bal who dA)) + (s.bal who dA - s'.bal who dA)) * P
                          + 2 * (s.bal who dA - s'.bal who dA) ∧
        2 * xB * P * P < (2 * ((P + slip.m) * (s.bal who dB - s'.bal who dB)) + (s.bal who dB - s'.bal who dB)) * P
                          + 2 * (s.bal who dB - s'.bal who dB)) := by
  refine ⟨?_, ?_, ?_⟩
  · intro dIn xIn dOut minOut slip hok
    obtain ⟨r, p', out, fv, k, hm, hz, hsl⟩ := swapExact_ok hok
    rw [k.received hwM]
    exact slippageOk_real k.spec.out_nonneg hm hsl
  · intro dIn maxIn dOut xOut slip hok
    obtain ⟨r, p', inp, fv, k, hm, hlt, hsl⟩ := swapForExact_ok hok
    rw [k.paid hwM]
    exact ⟨fv, k.spec.fee_nonneg, k.spec.fee_rate, slippageOk_real (by omega) (by omega) hsl⟩
  · intro dA xA dB xB slip hok
    obtain ⟨a0, a1, b0, b1, hsl⟩ := C07_slippage_enforced_deposit M prm s s' who dA xA dB xB slip hwM hvalid hok
    exact depositSlippage_real (by omega) (by omega) a0 b0 hsl

/-- "Results do not depend on the order in which the two tokens are named", at the keeper: a deposit
    and a withdraw message give the same result (state, error or not) whichever of the two coins is
    named first.  (For the two swap messages the order of the coins is the direction of the trade; the
    stored pool is found by the sorted pair either way and the BasePool symmetry `C07_symmetric` applies.) -/
theorem C07_symmetric_keeper (M : Addr) (prm : Params) (s : KSt) (who : Addr) (dA dB : Denom)
    (xA xB shares : Int) (slip : Dec) :
    deposit M prm s who dA xA dB xB slip = deposit M prm s who dB xB dA xA slip ∧
    withdraw M s who shares dA xA dB xB = withdraw M s who shares dB xB dA xA :=
  ⟨deposit_comm M prm s who dA xA dB xB slip, withdraw_comm M s who shares dA xA dB xB⟩

/-- No keeper message can panic on a state satisfying the invariant (pool found for every depositor,
    records loadable, AddLiquidity/RemoveLiquidity/swap inputs in range, the invariant assertion, the
    validated `SetPool`/`SetDepositorShares`, and the module account always able to pay out): with a
    valid fee parameter every message either succeeds or returns an ordinary error.  (Also C02's swap
    obligation.) -/
theorem C07_keeper_never_panics (M : Addr) (accts : List Addr) (pids : List PoolId) (prm : Params)
    (s : KSt) (op : Op) (hw : op.who ∈ accts) (hwM : op.who ≠ M)
    (hf0 : 0 ≤ prm.fee.m) (hf1 : prm.fee.m < P) (h : Inv M accts pids s) :
    kstep M prm s op ≠ .panic :=
  kstep_no_panic hw hf0 hf1 h

/-! ## Governance changes the parameters while pools exist

`runOps` (used by `C07_custody` / `C07_shares_sum`) already lets every message run under its own parameter set,
so custody — over ALL stored pools, whether still on the allowed list or not (`Inv.custody` sums over every pool
id that ever exists) — and the shares sums hold across fee changes, de-listings and re-listings.  What the
allowed-pools parameter does and does not control: -/

/-- `Withdraw` consults no parameter: the same message has the same result under any two parameter sets —
    whatever governance did to the fee or to the allowed-pools list since the deposit. -/
theorem C07_withdraw_ignores_params (M : Addr) (prm prm' : Params) (s : KSt) (who : Addr) (shares : Int)
    (dA : Denom) (minA : Int) (dB : Denom) (minB : Int) :
    kstep M prm s (.withdraw who shares dA minA dB minB) = kstep M prm' s (.withdraw who shares dA minA dB minB) :=
  rfl

/-- Liquidity providers can always exit: on every invariant state, under every parameter set (the pool may have
    been removed from the allowed list), a withdrawal of owned shares whose share value ⌊reserve·shares/total⌋
    meets the message's own positive minimums succeeds. -/
theorem C07_withdraw_available (M : Addr) (accts : List Addr) (pids : List PoolId) (prm : Params) (s : KSt)
    (who : Addr) (shares : Int) (dA : Denom) (minA : Int) (dB : Denom) (minB : Int)
    (hw : who ∈ accts) (hwM : who ≠ M) (h : Inv M accts pids s)
    (hne : dA ≠ dB) (hs0 : 0 < shares) (hmA : 0 < minA) (hmB : 0 < minB)
    (hown : shares ≤ s.sh who (poolId dA dB))
    (r : Pool) (hr : s.pool (poolId dA dB) = some r)
    (hvA : minA ≤ (if dB < dA then r.b else r.a) * shares / r.s)
    (hvB : minB ≤ (if dB < dA then r.a else r.b) * shares / r.s) :
    ∃ s', kstep M prm s (.withdraw who shares dA minA dB minB) = .ok s' :=
  withdraw_available M accts pids s who shares dA minA dB minB hw hwM h hne hs0 hmA hmB hown r hr hvA hvB

/-- … and it pays exactly the share value: the owner receives ⌊A·shares/S⌋ and ⌊B·shares/S⌋ of the stored
    record (A, B, S), the module account pays exactly that, the record shrinks by exactly that. -/
theorem C07_withdraw_pays_share_value (M : Addr) (prm : Params) (s s' : KSt) (who : Addr) (shares : Int)
    (dA : Denom) (minA : Int) (dB : Denom) (minB : Int) (hwM : who ≠ M)
    (hok : kstep M prm s (.withdraw who shares dA minA dB minB) = .ok s') :
    ∃ r, s.pool (poolId dA dB) = some r ∧
      s'.bal who (poolId dA dB).lo - s.bal who (poolId dA dB).lo = r.a * shares / r.s ∧
      s'.bal who (poolId dA dB).hi - s.bal who (poolId dA dB).hi = r.b * shares / r.s ∧
      s.bal M (poolId dA dB).lo - s'.bal M (poolId dA dB).lo = r.a * shares / r.s ∧
      s.bal M (poolId dA dB).hi - s'.bal M (poolId dA dB).hi = r.b * shares / r.s := by
  obtain ⟨r, p', wLo, wHi, w⟩ := withdraw_ok hok
  obtain ⟨hlh, -⟩ := poolId_cases w.ne
  refine ⟨r, w.found, ?_, ?_, ?_, ?_⟩
  · have := w.moved.paid₁ hwM hlh; rw [← w.rem.wa_eq]; omega
  · have := w.moved.paid₂ hwM hlh; rw [← w.rem.wb_eq]; omega
  · have := w.moved.got₁ hwM hlh; rw [← w.rem.wa_eq]; omega
  · have := w.moved.got₂ hwM hlh; rw [← w.rem.wb_eq]; omega

/-- The allowed-pools list gates pool CREATION only: every message on a pool that exists has the same result
    whether or not the pool is (still) on the list — deposits into and swaps through a de-listed pool run
    exactly as before, under the fee in force. -/
theorem C07_allowed_list_gates_creation_only (M : Addr) (prm prm' : Params) (s : KSt) (op : Op)
    (hfee : prm.fee = prm'.fee)
    (hex : ∀ who dA xA dB xB slip, op = .deposit who dA xA dB xB slip → s.pool (poolId dA dB) ≠ none) :
    kstep M prm s op = kstep M prm' s op := by
  cases op with
  | withdraw who sh dA mA dB mB => rfl
  | swapExact who dI xI dO mO slip => simp only [kstep, swapExactForTokens, hfee]
  | swapForExact who dI mI dO xO slip => simp only [kstep, swapForExactTokens, hfee]
  | deposit who dA xA dB xB slip =>
    have hp := hex who dA xA dB xB slip rfl
    cases hr : s.pool (poolId dA dB) with
    | none => exact absurd hr hp
    | some r => simp only [kstep, deposit, depositPool, hr]

/-! ## Non-vacuity: concrete states on which the hypotheses hold and the operations succeed -/

def exPool : Pool := ⟨1000003, 2000001, 1414215⟩
def exFee : Dec := ⟨1500000000000000⟩   -- 0.15 %

example : (applySwap exPool exFee (.exactAForB 1000)).isSome = true := by decide
example : (applySwap exPool exFee (.bForExactA 777)).isSome = true := by decide
example : (applySwap exPool ⟨P - 1⟩ (.exactBForA 5)).isSome = true := by decide
example : (addLiquidity exPool 1234 5678).isSome = true := by decide
example : (removeLiquidity exPool 1414).isSome = true := by decide
example : SwapOp.guardsOk exPool exFee (.aForExactB 2000000) := ⟨by decide, by decide, by decide, by decide⟩
example : (runSwaps exPool [(exFee, .bForExactA 1000), (exFee, .exactAForB 300), (⟨0⟩, .exactBForA 3)]).a < exPool.a := by
  decide

/-- a keeper state with one pool, two depositors, a funded trader; module account = address 9 -/
def exSt : KSt :=
  { pool := fun pid => if pid = ⟨0, 1⟩ then some ⟨5000, 20000, 10000⟩ else none,
    sh := fun a pid => if pid = ⟨0, 1⟩ then (if a = 1 then 6000 else if a = 2 then 4000 else 0) else 0,
    bal := fun a d => if a = 9 then (if d = 0 then 5000 else if d = 1 then 20000 else 0)
                      else if a = 3 then 100000 else 0 }
def exPrm : Params := ⟨exFee, fun pid => pid = ⟨0, 1⟩ || pid = ⟨0, 2⟩⟩

example : Inv 9 [1, 2, 3] [⟨0, 1⟩, ⟨0, 2⟩] exSt := by
  refine ⟨?_, ?_, ?_, ?_, ?_⟩
  · intro d
    simp only [exSt, sumL, List.map, List.foldr, resv]
    by_cases h0 : d = 0
    · subst h0; decide
    · by_cases h1 : d = 1
      · subst h1; decide
      · simp [h0, h1, Ne.symm h0, Ne.symm h1]
  · intro pid
    by_cases hp : pid = ⟨0, 1⟩
    · subst hp; decide
    · simp [exSt, hp, totalShares, sumL]
  · intro pid h
    by_cases hp : pid = ⟨0, 1⟩
    · subst hp; decide
    · simp [exSt, hp] at h
  · intro pid p h
    by_cases hp : pid = ⟨0, 1⟩
    · subst hp; simp [exSt] at h; subst h; decide
    · simp [exSt, hp] at h
  · intro a pid
    simp only [exSt]
    split
    · split
      · decide
      · split <;> decide
    · decide

example : (kstep 9 exPrm exSt (.deposit 3 1 4000 0 1000 ⟨0⟩)).isOk = true := by decide
example : (kstep 9 exPrm exSt (.deposit 3 0 70 2 90 ⟨0⟩)).isOk = true := by decide           -- pool creation
example : (kstep 9 exPrm exSt (.withdraw 2 4000 0 1 1 1)).isOk = true := by decide
example : (kstep 9 exPrm exSt (.swapExact 3 0 100 1 380 ⟨10000000000000000⟩)).isOk = true := by decide
example : (kstep 9 exPrm exSt (.swapForExact 3 1 450 0 100 ⟨10000000000000000⟩)).isOk = true := by decide
/-- the slippage limit bites: the same swap with a zero limit and an unreachable minimum is refused -/
example : (kstep 9 exPrm exSt (.swapExact 3 0 100 1 400 ⟨0⟩)).isOk = false := by decide

/-! ## source tie (regenerated)

    `GoFn.Swap.*` (Generated/FnSwap.lean) is regenerated on every run from the Go source of
    x/swap/types/base_pool.go by the function translator (tools/extract/fn*.go): each Go function becomes a
    `do` block in `Go.R` (ok / err / panic).  The theorems below say that every regenerated definition IS
    the hand-written model function the theorems above are about, for ALL arguments (Go panic = the model's
    `none`; `TieFn.swPool` maps the model's `Pool` to the generated `BasePool`; a method that assigns its
    pointer receiver returns the receiver after the call first).  A source edit of one of these functions
    re-opens exactly its obligation here.  Proofs: Proofs/TieFnSwap.lean. -/

open KV.Go KV.TieFn in
/-- `calculateInitialShares`: ⌊√(A·B)⌋.  Domain `0 ≤ A·B` (`big.Int.Sqrt` panics on a negative operand; the
    model's helper `initialShares` is total and only ever applied to positive reserves). -/
theorem C07_source_tie_calculateInitialShares (a b : Int) (h : 0 ≤ a * b) :
    GoFn.Swap.calculateInitialShares_translated = true ∧
    GoFn.Swap.calculateInitialShares a b = R.ok (initialShares a b) :=
  swap_calculateInitialShares a b h

open KV.Go KV.TieFn in
theorem C07_source_tie_NewBasePool (a b : Int) :
    GoFn.Swap.NewBasePool_translated = true ∧
    GoFn.Swap.NewBasePool a b = (match newBasePool a b with | none => R.err | some p => R.ok (swPool p)) :=
  swap_NewBasePool a b

open KV.Go KV.TieFn in
theorem C07_source_tie_NewBasePoolWithExistingShares (a b s : Int) :
    GoFn.Swap.NewBasePoolWithExistingShares_translated = true ∧
    GoFn.Swap.NewBasePoolWithExistingShares a b s
      = (match newBasePoolWithShares a b s with | none => R.err | some p => R.ok (swPool p)) :=
  swap_NewBasePoolWithExistingShares a b s

open KV.Go KV.TieFn in
theorem C07_source_tie_AddLiquidity (p : Pool) (da db : Int) :
    GoFn.Swap.AddLiquidity_translated = true ∧
    GoFn.Swap.AddLiquidity (swPool p) da db
      = R.ofOption ((addLiquidity p da db).map fun r => (swPool r.1, r.2.1, r.2.2.1, r.2.2.2)) :=
  swap_AddLiquidity p da db

open KV.Go KV.TieFn in
theorem C07_source_tie_ShareValue (p : Pool) (sh : Int) :
    GoFn.Swap.ShareValue_translated = true ∧
    GoFn.Swap.ShareValue (swPool p) sh = R.ofOption (shareValue p sh) :=
  swap_ShareValue p sh

open KV.Go KV.TieFn in
theorem C07_source_tie_RemoveLiquidity (p : Pool) (sh : Int) :
    GoFn.Swap.RemoveLiquidity_translated = true ∧
    GoFn.Swap.RemoveLiquidity (swPool p) sh
      = R.ofOption ((removeLiquidity p sh).map fun r => (swPool r.1, r.2.1, r.2.2)) :=
  swap_RemoveLiquidity p sh

open KV.Go KV.TieFn in
/-- the receiver is not read by the Go function (any `g`) -/
theorem C07_source_tie_calculateOutputForExactInput (g : GoFn.Swap.BasePool) (x inR outR : Int) (fee : Dec) :
    GoFn.Swap.calculateOutputForExactInput_translated = true ∧
    GoFn.Swap.calculateOutputForExactInput g x inR outR fee = R.ofOption (outputForExactInput x inR outR fee) :=
  swap_calculateOutputForExactInput g x inR outR fee

open KV.Go KV.TieFn in
/-- the receiver is not read by the Go function (any `g`) -/
theorem C07_source_tie_calculateInputForExactOutput (g : GoFn.Swap.BasePool) (out outR inR : Int) (fee : Dec) :
    GoFn.Swap.calculateInputForExactOutput_translated = true ∧
    GoFn.Swap.calculateInputForExactOutput g out outR inR fee
      = R.ofOption (inputForExactOutput out outR inR fee) :=
  swap_calculateInputForExactOutput g out outR inR fee

open KV.Go KV.TieFn in
theorem C07_source_tie_assertInvariantAndUpdateReserves (p : Pool) (newA feeA newB feeB : Int) :
    GoFn.Swap.assertInvariantAndUpdateReserves_translated = true ∧
    GoFn.Swap.assertInvariantAndUpdateReserves (swPool p) newA feeA newB feeB
      = R.ofOption ((assertInvariantAndUpdate p newA feeA newB feeB).map swPool) :=
  swap_assertInvariantAndUpdateReserves p newA feeA newB feeB

open KV.Go KV.TieFn in
theorem C07_source_tie_SwapExactAForB (p : Pool) (x : Int) (fee : Dec) :
    GoFn.Swap.SwapExactAForB_translated = true ∧
    GoFn.Swap.SwapExactAForB (swPool p) x fee
      = R.ofOption ((swapExactAForB p x fee).map fun r => (swPool r.1, r.2.1, r.2.2)) :=
  swap_SwapExactAForB p x fee

open KV.Go KV.TieFn in
theorem C07_source_tie_SwapExactBForA (p : Pool) (x : Int) (fee : Dec) :
    GoFn.Swap.SwapExactBForA_translated = true ∧
    GoFn.Swap.SwapExactBForA (swPool p) x fee
      = R.ofOption ((swapExactBForA p x fee).map fun r => (swPool r.1, r.2.1, r.2.2)) :=
  swap_SwapExactBForA p x fee

open KV.Go KV.TieFn in
theorem C07_source_tie_SwapAForExactB (p : Pool) (x : Int) (fee : Dec) :
    GoFn.Swap.SwapAForExactB_translated = true ∧
    GoFn.Swap.SwapAForExactB (swPool p) x fee
      = R.ofOption ((swapAForExactB p x fee).map fun r => (swPool r.1, r.2.1, r.2.2)) :=
  swap_SwapAForExactB p x fee

open KV.Go KV.TieFn in
theorem C07_source_tie_SwapBForExactA (p : Pool) (x : Int) (fee : Dec) :
    GoFn.Swap.SwapBForExactA_translated = true ∧
    GoFn.Swap.SwapBForExactA (swPool p) x fee
      = R.ofOption ((swapBForExactA p x fee).map fun r => (swPool r.1, r.2.1, r.2.2)) :=
  swap_SwapBForExactA p x fee

open KV.Go KV.TieFn in
/-- `assertSlippageWithinLimit` (x/swap/keeper/swap.go): `ErrSlippageExceeded` iff `¬ slippageOk` -/
theorem C07_source_tie_assertSlippageWithinLimit (priceChange slip : Dec) :
    GoFn.Swap.assertSlippageWithinLimit_translated = true ∧
    GoFn.Swap.assertSlippageWithinLimit priceChange slip
      = (if slippageOk priceChange slip then R.ok () else R.err) :=
  swap_assertSlippageWithinLimit priceChange slip

end KV.SW
