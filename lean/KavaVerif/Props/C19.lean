/-
  C19 — Emissions follow their schedule however time is cut into blocks.

  "Staking rewards paid from the community pool over any interval equal the per-second rate times the
   elapsed time, truncated to whole units with the truncation error carried forward, so that however the
   interval is divided into blocks the total never exceeds that amount, falls short of it by less than one
   unit, and never exceeds the pool balance. Once the inflation-disable time has passed, mint and kavadist
   inflation are switched off exactly once and stay off. Kavadist mints for a period only for time inside
   that period: never for time before its start or after its end, and never twice for the same time."

  Model: KavaVerif/Model/Emissions.lean (x/community staking.go, disable_inflation.go, abci.go;
  x/kavadist mint.go, infrastructure.go; begin-blocker order regenerated from app/app.go).
  Units: `Dec` mantissas are 10^-18 units (`P = 10^18`), times are nanoseconds (`NS = 10^9` per second),
  so "paid ≤ rate · elapsed" reads `NS * (P * paid) ≤ rate.m * (tn - t0)`.
  Only property statements live here; lemmas are in KavaVerif/Proofs/Emissions*.lean.

  The kavadist window statement is FALSE on the current code (finding F9, findings/C19-kavadist-window.md):
  it is kept visible below, with its negation, the strongest true partial statement, and — in namespace
  `Fixed` — the full statement proved for the repaired code (`Variant.fixed`).
-/
import KavaVerif.Proofs.Emissions
import KavaVerif.Proofs.EmissionsKavadist
import KavaVerif.Proofs.TieFnCommunity

namespace KV.Em
open KV

/-- the regenerated `nanosecondsInOneSecond` is the 10^9 the model's time unit assumes -/
theorem C19_nanos_per_second : NS = 10 ^ 9 := by decide

/-- Rate changes (a params update, or the switch-over copying the upgrade rate): with a rate that is
    constant within each block interval but may change from block to block, for ANY block list
    `(time, pool seen, rate in force)`: the carried error stays in [0,1) and
    total paid + carried-out error ≤ carried-in error + Σ_b rate_b·(t_b − t_{b−1}).
    In particular time that passed under a zero rate is never paid for later at a non-zero rate, and a
    single block (`bs = [b]`) pays at most `rate_b·(t_b − t_{b−1})` plus the carried error (< 1 unit):
    nothing is paid for time before the previous block. -/
theorem C19_staking_rate_changes (t0 : Int) (e0 : Dec) (bs : List (Int × Int × Dec))
    (he : 0 ≤ e0.m ∧ e0.m < P) (hs : okBlocksR t0 bs) :
    (0 ≤ (runBlocksR t0 e0 bs).2.2.m ∧ (runBlocksR t0 e0 bs).2.2.m < P) ∧
    NS * (sumL (runBlocksR t0 e0 bs).1 * P + (runBlocksR t0 e0 bs).2.2.m) ≤ rateTime t0 bs + NS * e0.m ∧
    NS * (sumL (runBlocksR t0 e0 bs).1 * P) < rateTime t0 bs + NS * P := by
  obtain ⟨-, a2, -, a4, -⟩ := runBlocksR_spec he.1 he.2 hs
  refine ⟨a2, a4, ?_⟩
  simp only [NS_val, P_val] at a2 a4 he ⊢
  omega

/-- non-vacuity: two zero-rate blocks, then a rate of 1 unit/s for one second: exactly 1 unit is paid,
    not the 3 units the whole stretch would give -/
example : (runBlocksR 0 Dec.zero [(1000000000, 100, Dec.zero), (2000000000, 100, Dec.zero),
      (3000000000, 100, ⟨P⟩)]).1 = [0, 0, 1] ∧
    rateTime 0 [(1000000000, 100, Dec.zero), (2000000000, 100, Dec.zero), (3000000000, 100, ⟨P⟩)]
      = 1000000000 * P := by decide

/-- Rate changes, the other direction: while the pool cap never binds (`uncappedR`), the total paid over a
    history with a piecewise-constant rate falls short of carried-in error + Σ_b rate_b·(t_b − t_{b−1}) by
    less than 1 + n·10^-18 units (n blocks; the per-block `QuoInt64` truncation is stated, not hidden). -/
theorem C19_staking_rate_changes_shortfall (t0 : Int) (e0 : Dec) (bs : List (Int × Int × Dec))
    (he : 0 ≤ e0.m ∧ e0.m < P) (hs : okBlocksR t0 bs) (hu : uncappedR t0 e0 bs = true) :
    rateTime t0 bs + NS * e0.m - NS * (sumL (runBlocksR t0 e0 bs).1 * P) < NS * (P + (bs.length : Int)) := by
  obtain ⟨-, a2, -, -, a5⟩ := runBlocksR_spec he.1 he.2 hs
  have := a5 hu
  simp only [NS_val, P_val] at a2 this ⊢
  omega

/-- "however the interval is divided into blocks the total never exceeds that amount, falls short of it
    by less than one unit, and never exceeds the pool balance", for ANY list of blocks `(time, pool
    balance seen)` with non-decreasing times, any rate ≥ 0, any carried-in error `e0 ∈ [0,1)`:

    * the accumulation time ends at the last block time;
    * the carried error stays in `[0,1)`;
    * every block pays a non-negative amount not above the pool balance it saw (`paidWithin`);
    * total paid ≤ rate·(tn − t0) + e0, exactly: paid + carried-out error ≤ e0 + rate·(tn − t0);
    * if the pool cap never binds (`uncapped`), rate·(tn − t0) + e0 − paid < 1 + n·10^-18 where `n` is the
      number of blocks: each block's `QuoInt64` truncates the accrual by < 10^-18, and that part is NOT
      carried forward.  The property's "less than one unit" therefore holds with this explicit slack
      (a full unit of slack needs 10^18 blocks). -/
theorem C19_staking_partition (rate : Dec) (t0 : Int) (e0 : Dec) (bs : List (Int × Int))
    (hr : 0 ≤ rate.m) (he : 0 ≤ e0.m ∧ e0.m < P) (hs : sortedFrom t0 bs) (hp : ∀ b ∈ bs, 0 ≤ b.2) :
    (runBlocks rate t0 e0 bs).2.1 = lastTime t0 bs ∧
    (0 ≤ (runBlocks rate t0 e0 bs).2.2.m ∧ (runBlocks rate t0 e0 bs).2.2.m < P) ∧
    paidWithin (runBlocks rate t0 e0 bs).1 bs ∧
    NS * (sumL (runBlocks rate t0 e0 bs).1 * P + (runBlocks rate t0 e0 bs).2.2.m)
      ≤ rate.m * (lastTime t0 bs - t0) + NS * e0.m ∧
    NS * (sumL (runBlocks rate t0 e0 bs).1 * P) ≤ rate.m * (lastTime t0 bs - t0) + NS * e0.m ∧
    (uncapped rate t0 e0 bs = true →
      rate.m * (lastTime t0 bs - t0) + NS * e0.m - NS * (sumL (runBlocks rate t0 e0 bs).1 * P)
        < NS * (P + (bs.length : Int))) := by
  have hok := okBlocksR_withRate hr hs hp
  have h := runBlocksR_spec he.1 he.2 hok
  have hsf := C19_staking_rate_changes_shortfall t0 e0 _ he hok
  simp only [← runBlocks_eq, ← uncapped_eq, rateTime_withRate, seen_withRate, List.length_map] at h hsf
  obtain ⟨a1, a2, a3, a4, -⟩ := h
  refine ⟨a1, a2, a3, a4, ?_, hsf⟩
  simp only [NS_val, P_val] at a2 a4 ⊢
  omega

/-- non-vacuity: a 3-block history with sub-second and multi-day gaps, an 18-decimal rate, uncapped -/
example : sortedFrom 0 [(1, 5), (500000000, 5), (864000000000000, 2000000)] ∧
    uncapped ⟨1234567890123456789⟩ 0 Dec.zero [(1, 5), (500000000, 5), (864000000000000, 2000000)] = true ∧
    (runBlocks ⟨1234567890123456789⟩ 0 Dec.zero [(1, 5), (500000000, 5), (864000000000000, 2000000)]).1
      = [0, 0, 1066666] :=
  ⟨⟨by decide, by decide, by decide, trivial⟩, by decide, by decide⟩

/-- Partition independence: two ways of cutting the same interval `[t0, tn]` into (fewer than 10^18)
    blocks, neither ever capped by the pool, pay totals that differ by at most one unit. -/
theorem C19_staking_partition_independent (rate : Dec) (t0 : Int) (e0 : Dec) (bs1 bs2 : List (Int × Int))
    (hr : 0 ≤ rate.m) (he : 0 ≤ e0.m ∧ e0.m < P)
    (hs1 : sortedFrom t0 bs1) (hp1 : ∀ b ∈ bs1, 0 ≤ b.2) (hs2 : sortedFrom t0 bs2) (hp2 : ∀ b ∈ bs2, 0 ≤ b.2)
    (hT : lastTime t0 bs1 = lastTime t0 bs2)
    (hu1 : uncapped rate t0 e0 bs1 = true) (hu2 : uncapped rate t0 e0 bs2 = true)
    (hn1 : (bs1.length : Int) ≤ P) (hn2 : (bs2.length : Int) ≤ P) :
    sumL (runBlocks rate t0 e0 bs1).1 - sumL (runBlocks rate t0 e0 bs2).1 ≤ 1 ∧
    sumL (runBlocks rate t0 e0 bs2).1 - sumL (runBlocks rate t0 e0 bs1).1 ≤ 1 := by
  obtain ⟨-, -, -, -, b1, c1⟩ := C19_staking_partition rate t0 e0 bs1 hr he hs1 hp1
  obtain ⟨-, -, -, -, b2, c2⟩ := C19_staking_partition rate t0 e0 bs2 hr he hs2 hp2
  have d1 := c1 hu1
  have d2 := c2 hu2
  rw [hT] at b1 d1
  generalize rate.m * (lastTime t0 bs2 - t0) = X at *
  simp only [NS_val, P_val] at b1 b2 d1 d2 hn1 hn2 ⊢
  omega

/-- The governance params-update message (`MsgUpdateParams`, x/community msg server): it fails on a wrong
    authority and on invalid params; when it succeeds it stores the new params and is the identity on
    everything the schedule depends on — accumulation time, carried truncation error, pool, fee collector —
    and on the inflation parameters of the other modules. -/
theorem C19_params_update_keeps_accrual (authOk : Bool) (new : CommParams) (s : CommSt) :
    (authOk = false → updateParamsMsg authOk new s = .err) ∧
    (new.valid = false → updateParamsMsg authOk new s = .err) ∧
    (authOk = true → new.valid = true →
      updateParamsMsg authOk new s = .ok { params := new, infl := s.infl, stk := s.stk }) := by
  refine ⟨?_, ?_, ?_⟩
  · intro h; simp [updateParamsMsg, h]
  · intro h; cases authOk <;> simp [updateParamsMsg, h]
  · intro h1 h2; simp [updateParamsMsg, h1, h2]

/-- Rate changes by params-update messages interleaved with blocks (a message executes after the begin
    blocker of its block): for ANY history of blocks `(time, pool seen)` and updates, from any stored rate,
    the payouts are those of the block list in which every block carries the rate stored when its begin
    blocker ran (`blocksOf`) — an update never touches the accumulation time or the carried error — so
    `C19_staking_rate_changes` holds across updates: the error stays in [0,1),
    paid + carried-out error ≤ carried-in error + Σ_b rate_b·(t_b − t_{b−1}), and while the cap never binds
    the shortfall is < 1 + n·10^-18 units.  Nothing accrued before an update is dropped and nothing is
    paid at the new rate for time before the block in which the update was stored. -/
theorem C19_staking_rate_changes_messages (rate : Dec) (t0 : Int) (e0 : Dec) (hs : List HStep)
    (he : 0 ≤ e0.m ∧ e0.m < P) (hok : okBlocksR t0 (blocksOf rate hs)) :
    (0 ≤ (runHist rate t0 e0 hs).2.2.1.m ∧ (runHist rate t0 e0 hs).2.2.1.m < P) ∧
    NS * (sumL (runHist rate t0 e0 hs).1 * P + (runHist rate t0 e0 hs).2.2.1.m)
      ≤ rateTime t0 (blocksOf rate hs) + NS * e0.m ∧
    (uncappedR t0 e0 (blocksOf rate hs) = true →
      rateTime t0 (blocksOf rate hs) + NS * e0.m - NS * (sumL (runHist rate t0 e0 hs).1 * P)
        < NS * (P + ((blocksOf rate hs).length : Int))) := by
  obtain ⟨h1, -, h3⟩ := runHist_blocks hs rate t0 e0
  rw [h1, h3]
  obtain ⟨a1, a2, -⟩ := C19_staking_rate_changes t0 e0 (blocksOf rate hs) he hok
  exact ⟨a1, a2, C19_staking_rate_changes_shortfall t0 e0 (blocksOf rate hs) he hok⟩

/-- non-vacuity: 1 unit/s for 1.5 s (pays 1, carries 0.5), then a message sets 3 units/s, next block 1.5 s
    later: pays 0.5 + 4.5 = 5 — the carried half unit and the whole second interval are paid, at the new
    rate only from the update's block on; uncapped; the update leaves a concrete state's accrual alone -/
example : (runHist ⟨P⟩ 0 Dec.zero [.block 1500000000 100, .update ⟨3 * P⟩, .block 3000000000 100]).1 = [1, 5] ∧
    blocksOf ⟨P⟩ [.block 1500000000 100, .update ⟨3 * P⟩, .block 3000000000 100]
      = [(1500000000, 100, ⟨P⟩), (3000000000, 100, ⟨3 * P⟩)] ∧
    uncappedR 0 Dec.zero [(1500000000, 100, ⟨P⟩), (3000000000, 100, ⟨3 * P⟩)] = true ∧
    okBlocksR 0 [(1500000000, 100, ⟨P⟩), (3000000000, 100, ⟨3 * P⟩)] :=
  ⟨by decide, by decide, by decide, ⟨by decide, by decide, by decide, by decide, by decide, by decide, trivial⟩⟩

/-- The keeper step `PayoutAccumulatedStakingRewards` on an initialised state never panics: it pays
    exactly what `calculateStakingRewards` returns, that amount is within `[0, pool]`, it moves from the
    community pool to the fee collector and nothing is created. -/
theorem C19_staking_payout (rate : Dec) (now last : Int) (s : StakingSt)
    (hl : s.last = some last) (hd : last ≤ now) (hr : 0 ≤ rate.m) (he : 0 ≤ s.err.m ∧ s.err.m < P)
    (hp : 0 ≤ s.pool) :
    ∃ s' paid, payout rate now s = .ok (s', paid) ∧
      paid = (calculateStakingRewards now last s.err rate (Dec.ofInt s.pool)).1 ∧
      s'.err = (calculateStakingRewards now last s.err rate (Dec.ofInt s.pool)).2 ∧
      0 ≤ paid ∧ paid ≤ s.pool ∧ s'.pool = s.pool - paid ∧ s'.fee = s.fee + paid ∧
      s'.last = some now ∧ 0 ≤ s'.err.m ∧ s'.err.m < P := by
  have c := calc_step hd hr he.1 hp
  exact ⟨_, _, payout_eq rate now hl rfl c.paid_nonneg c.paid_le, rfl, rfl, c.paid_nonneg, c.paid_le, rfl, rfl, rfl,
    c.err_nonneg, c.err_lt⟩

/-- the first call on an un-initialised state only records the time -/
theorem C19_staking_payout_init (rate : Dec) (now : Int) (s : StakingSt) (hl : s.last = none) :
    payout rate now s = .ok ({ s with last := some now }, 0) :=
  payout_init rate now hl

example : (payout ⟨1500000000000000000⟩ 3000000000
    { last := some 1000000000, err := ⟨900000000000000000⟩, pool := 10, fee := 0 }) =
    .ok ({ last := some 3000000000, err := ⟨900000000000000000⟩, pool := 7, fee := 3 }, 3) := by decide

/-- Generated facts: x/community's begin blocker precedes x/mint's and x/kavadist's in app/app.go;
    inside it the switch-over runs before the payout; kavadist's begin blocker calls
    `MintPeriodInflation`. -/
theorem C19_begin_blocker_order :
    order3 = ["community", "mint", "kavadist"] ∧
    KV.Gen.c19CommunityBeginBlockerCalls =
      ["CheckAndDisableMintAndKavaDistInflation", "PayoutAccumulatedStakingRewards"] ∧
    KV.Gen.c19KavadistBeginBlockerCalls = ["MintPeriodInflation"] := ⟨order3_val, rfl, rfl⟩

/-- "Once the inflation-disable time has passed, mint and kavadist inflation are switched off exactly once
    and stay off."  Over any sequence of block times:
    * while every block time is before the upgrade time nothing fires and nothing changes;
    * the switch-over fires in the FIRST block whose time is ≥ the upgrade time, and in no other block —
      before or after — of the sequence; afterwards the trigger is zero, mint `InflationMin/Max` are 0,
      kavadist is inactive, the community tax is 0 and the staking rate is the upgrade rate;
    * with a zero trigger it never fires, whatever the block times, and leaves every parameter alone
      (so the values above stay until somebody else changes them). -/
theorem C19_disable_once (p : CommParams) (x : Infl) :
    (∀ u, p.upgradeTime = some u → ∀ ts : List Int, (∀ t ∈ ts, t < u) →
        runDisable p x ts = (List.replicate ts.length false, p, x)) ∧
    (∀ u, p.upgradeTime = some u → ∀ (pre : List Int) (t : Int) (post : List Int),
        (∀ s ∈ pre, s < u) → u ≤ t →
        runDisable p x (pre ++ t :: post) =
          (List.replicate pre.length false ++ true :: List.replicate post.length false,
            { upgradeTime := none, rate := p.upgradeRate, upgradeRate := p.upgradeRate },
            { mintMin := Dec.zero, mintMax := Dec.zero, kavadistActive := false,
              communityTax := Dec.zero })) ∧
    (p.upgradeTime = none → ∀ ts : List Int, runDisable p x ts = (List.replicate ts.length false, p, x)) :=
  ⟨fun _ hu ts h => runDisable_quiet p x ts fun _ hu' => Option.some.inj (hu.symm.trans hu') ▸ h,
    runDisable_once p x,
    fun hn ts => runDisable_quiet p x ts fun _ hu' => nomatch hn.symm.trans hu'⟩

example : runDisable { upgradeTime := some 100, rate := Dec.zero, upgradeRate := ⟨7⟩ }
    { mintMin := ⟨1⟩, mintMax := ⟨2⟩, kavadistActive := true, communityTax := ⟨3⟩ } [5, 99, 100, 100, 7, 3000] =
    ([false, false, true, false, false, false],
      { upgradeTime := none, rate := ⟨7⟩, upgradeRate := ⟨7⟩ },
      { mintMin := Dec.zero, mintMax := Dec.zero, kavadistActive := false, communityTax := Dec.zero }) := by
  decide

/-- Because x/community runs before x/kavadist (generated order), kavadist already mints nothing in the
    very block in which the switch-over fires, and keeps minting nothing in every later block while the
    trigger is zero and kavadist inactive; its `previousBlockTime` is not advanced either, and the
    supply only changes by what x/mint itself provisions (`mintProv`). -/
theorem C19_disable_same_block (v : Variant) (zp : Bool) (pow : Int → Int → Int) (now inflow mintProv : Int)
    (c c' : Chain) (h : chainBeginBlock v zp pow now inflow mintProv c = .ok c') :
    (∀ u, c.comm.params.upgradeTime = some u → u ≤ now →
      c'.fired = true ∧ c'.kdMints = [] ∧ c'.kdMinted = 0 ∧ c'.kd = c.kd ∧ c'.supply = c.supply + mintProv ∧
      c'.comm.params.upgradeTime = none ∧
      c'.comm.infl.mintMin = Dec.zero ∧ c'.comm.infl.mintMax = Dec.zero ∧
      c'.comm.infl.kavadistActive = false) ∧
    (c.comm.params.upgradeTime = none → c.comm.infl.kavadistActive = false →
      c'.fired = false ∧ c'.kdMints = [] ∧ c'.kdMinted = 0 ∧ c'.kd = c.kd ∧ c'.supply = c.supply + mintProv ∧
      c'.comm.params = c.comm.params ∧ c'.comm.infl = c.comm.infl) := by
  rw [chain_eq] at h
  split at h
  · rename_i s f p hcb
    have e := community_infl hcb
    constructor
    · intro u hu hge
      rw [disable_fires c.comm.infl hu hge] at e
      injection e with e1 e; injection e with e2 e3
      rw [kavadist_inactive (by rw [e3])] at h
      cases h
      simp only [e1, e2, e3, and_self]
    · intro hn ha
      rw [disable_none now c.comm.infl hn] at e
      injection e with e1 e; injection e with e2 e3
      rw [kavadist_inactive (e3 ▸ ha)] at h
      cases h
      simp only [e1, e2, e3, and_self]
  · cases h
  · cases h

/-- non-vacuity: a block on the disable time with an active kavadist period -/
example : (chainBeginBlock .current true relPow18 2000000000 0 0
    { comm := { params := { upgradeTime := some 2000000000, rate := Dec.zero, upgradeRate := ⟨P⟩ },
                infl := { mintMin := ⟨1⟩, mintMax := ⟨2⟩, kavadistActive := true, communityTax := ⟨3⟩ },
                stk := { last := some 1000000000, err := Dec.zero, pool := 10, fee := 0 } },
      kd := { prev := some 1000000000, periods := [⟨0, 9000000000, ⟨P + 1⟩⟩], infra := [] },
      supply := 1000 }).isOk = true := by
  rw [chain_eq]; decide

/-  FULL STATEMENT — FALSE ON THE CURRENT CODE (findings/C19-infra-zero-mint-panic.md):

    theorem C19_begin_block_no_panic : ∃ c', chainBeginBlock v true pow now inflow mintProv c = .ok c'
      (for non-negative rates, pool and inflow, a carried error in [0,1), block time not before the last
       accumulation time)

    The schedule can only be followed if the begin blockers that implement it run.  An infrastructure
    period whose mint call yields zero coins (two blocks inside the same Unix second, an inflation of
    exactly 1.0, a tiny supply) makes `mintInfrastructurePeriods` dereference the nil amount of the empty
    `sdk.Coin{}` returned by `mintInflationaryCoins`: x/kavadist's BeginBlocker panics. -/

/-- the negation: a valid configuration (one ongoing infrastructure period with inflation 1.0, a 6 s
    block) on which the begin blocker of the current code (`zp = true`) panics -/
theorem C19_begin_block_no_panic_counterexample :
    ¬ (∀ (now : Int) (c : Chain), 0 ≤ c.comm.params.rate.m → 0 ≤ c.comm.params.upgradeRate.m →
        (∀ l, c.comm.stk.last = some l → l ≤ now) → (0 ≤ c.comm.stk.err.m ∧ c.comm.stk.err.m < P) →
        0 ≤ c.comm.stk.pool → validPeriods 0 c.kd.infra →
        ∃ c', chainBeginBlock .current true relPow18 now 0 0 c = .ok c') := by
  intro h
  obtain ⟨c', hc⟩ := h 1700000006000000000
    { comm := { params := { upgradeTime := none, rate := Dec.zero, upgradeRate := Dec.zero },
                infl := { mintMin := Dec.zero, mintMax := Dec.zero, kavadistActive := true, communityTax := Dec.zero },
                stk := { last := some 1700000000000000000, err := Dec.zero, pool := 0, fee := 0 } },
      kd := { prev := some 1700000000000000000, periods := [],
              infra := [⟨1600000000000000000, 1800000000000000000, ⟨P⟩⟩] },
      supply := 100000000000000 }
    (by decide) (by decide) (by decide) (by decide) (by decide) ⟨by decide, by decide, trivial⟩
  rw [chain_eq] at hc
  -- the left side evaluates to `.panic`
  cases hc

/-- the strongest simple true statement on the current code: with non-negative rates, pool and inflow, a
    carried error in [0,1), a block time not before the last accumulation time and NO infrastructure
    periods configured, the begin blockers of community, mint and kavadist never panic (in particular
    `PayoutAccumulatedStakingRewards` never hits its `panic(err)`: the payout is within the pool). -/
theorem C19_begin_block_no_panic_partial (v : Variant) (zp : Bool) (pow : Int → Int → Int)
    (now inflow mintProv : Int)
    (c : Chain) (hr : 0 ≤ c.comm.params.rate.m) (hur : 0 ≤ c.comm.params.upgradeRate.m)
    (hl : ∀ l, c.comm.stk.last = some l → l ≤ now) (he : 0 ≤ c.comm.stk.err.m ∧ c.comm.stk.err.m < P)
    (hp : 0 ≤ c.comm.stk.pool) (hin : 0 ≤ inflow) (hinfra : c.kd.infra = []) :
    ∃ c', chainBeginBlock v zp pow now inflow mintProv c = .ok c' :=
  chain_ok v zp pow now inflow mintProv c hr hur hl he.1 hp hin (.inr hinfra)

example : (chainBeginBlock .current true relPow18 1700000006000000000 5 7
    { comm := { params := { upgradeTime := none, rate := ⟨P⟩, upgradeRate := Dec.zero },
                infl := { mintMin := Dec.zero, mintMax := Dec.zero, kavadistActive := true, communityTax := Dec.zero },
                stk := { last := some 1700000000000000000, err := Dec.zero, pool := 100, fee := 0 } },
      kd := { prev := some 1700000000000000000, periods := [⟨1600000000000000000, 1800000000000000000, ⟨P⟩⟩],
              infra := [] },
      supply := 100000000000000 }).isOk = true := by rw [chain_eq]; decide

/-- both period functions make the same `mintInflationaryCoins` calls, so the window theorems below
    cover `mintIncentivePeriods` and `mintInfrastructurePeriods` alike -/
theorem C19_kavadist_infra_same (v : Variant) (now : Int) (ps : List Period) (prev : Int) (i : Nat) (te : Int) :
    (mintInfrastructurePeriods v now ps prev i te).1 = mintIncentivePeriods v now ps prev i := by
  induction ps generalizing prev i te with
  | nil => rfl
  | cons p ps ih =>
    unfold mintInfrastructurePeriods mintIncentivePeriods
    cases classify p prev now <;> simp only [ih]

/-  FULL STATEMENT — FALSE ON THE CURRENT CODE (F9):

    theorem C19_kavadist_window (now : Int) (ps : List Period) (prev : Int)
        (hpn : prev ≤ now) (hv : validPeriods 0 ps) :
        ∀ m ∈ mintIncentivePeriods .current now ps prev 0, m.windowOK prev now

    "Kavadist mints for a period only for time inside that period: never for time before its start or
     after its end": every `mintInflationaryCoins` call is for an interval inside
     `[start, end] ∩ [prev, now]` and `timeElapsed` is that interval's length in Unix seconds.
    Case 2 of the switch ("period has ended since the previous block time") measures from
    `previousBlockTime` even when the period started later. -/

/-- The negation, with the witness of the property text: a one-hour period lying between two blocks ten
    days apart is minted for five days and one hour (435 600 s instead of 3 600 s). -/
theorem C19_kavadist_window_counterexample :
    ¬ (∀ (now : Int) (ps : List Period) (prev : Int), prev ≤ now → validPeriods 0 ps →
        ∀ m ∈ mintIncentivePeriods .current now ps prev 0, m.windowOK prev now) := by
  intro h
  have := h 1700864000000000000 [⟨1700432000000000000, 1700435600000000000, ⟨1000000003022265980⟩⟩]
    1700000000000000000 (by decide) ⟨by decide, by decide, trivial⟩
    ⟨0, ⟨1700432000000000000, 1700435600000000000, ⟨1000000003022265980⟩⟩,
      1700000000000000000, 1700435600000000000, 435600⟩ (by decide)
  revert this
  decide

/-- The strongest true statement on the current code.  For every mint call of a block:
    the interval lies in `[prev, now]`, ends no later than the period's end, is well-formed, and
    `timeElapsed` is its length (all unconditionally); and it is inside the period — the full window
    predicate — whenever the period had started by the previous block time (`start ≤ prev`).
    NOT covered (and false, see the counterexample): periods with `prev < start` that end by `now`. -/
theorem C19_kavadist_window_partial (now : Int) (ps : List Period) (prev : Int) (hpn : prev ≤ now) :
    ∀ m ∈ mintIncentivePeriods .current now ps prev 0,
      (prev ≤ m.lo ∧ m.hi ≤ now ∧ m.hi ≤ m.period.end_ ∧ m.lo ≤ m.hi ∧ m.secs = unix m.hi - unix m.lo ∧
        0 ≤ m.secs) ∧
      (m.period.start ≤ prev → m.windowOK prev now) := by
  intro m hm
  have b := mints_bounds hpn hm
  have hlh := b.lo_le_hi (.inl rfl)
  exact ⟨⟨b.lo_ge, b.hi_le, b.hi_le_end, hlh, b.secs_eq, b.secs_eq ▸ Int.sub_nonneg.mpr (unix_mono hlh)⟩,
    fun hst => ⟨Int.le_trans hst b.lo_ge, b.hi_le_end, b.lo_ge, b.hi_le, hlh, b.secs_eq⟩⟩

/-- non-vacuity of the partial statement: an ongoing period and a period ending inside the block -/
example : mintIncentivePeriods .current 10000000000 [⟨0, 4500000000, ⟨P⟩⟩, ⟨4500000000, 99000000000, ⟨P⟩⟩]
    1000000000 0 =
    [⟨0, ⟨0, 4500000000, ⟨P⟩⟩, 1000000000, 4500000000, 3⟩,
     ⟨1, ⟨4500000000, 99000000000, ⟨P⟩⟩, 4500000000, 10000000000, 6⟩] := by decide

/-- "never twice for the same time" (both the current and the repaired code).  Over any history of blocks
    `(time, kavadist active?)` with non-decreasing times, starting from a stored previous block time:
    * two different mint calls for the same period are for disjoint intervals — the earlier one ends
      before the later one starts;
    * hence the seconds minted for any one period, summed over the whole history, never exceed the
      seconds that elapsed between the stored previous block time and the last block.
    (For the repaired code the second part needs `start ≤ end` for every period, which
    `validatePeriodsParams` enforces.) -/
theorem C19_kavadist_never_twice (v : Variant) (ps : List Period) (prev : Int) (bs : List (Int × Bool))
    (hs : sortedTimes prev bs) :
    (kdHistory v ps prev bs).Pairwise (fun a b => a.idx = b.idx → a.hi ≤ b.lo) ∧
    ((v = .current ∨ ∀ p ∈ ps, p.start ≤ p.end_) → ∀ k,
      0 ≤ secsFor k (kdHistory v ps prev bs) ∧
      secsFor k (kdHistory v ps prev bs) ≤ unix (lastTimeT prev bs) - unix prev) :=
  (kdHistory_spec v ps bs prev hs).2

example : sortedTimes 0 [(3000000000, true), (3000000000, false), (7500000000, true)] ∧
    (kdHistory .current [⟨0, 99000000000, ⟨P⟩⟩] 0 [(3000000000, true), (3000000000, false), (7500000000, true)]).length = 2 ∧
    secsFor 0 (kdHistory .current [⟨0, 99000000000, ⟨P⟩⟩] 0
      [(3000000000, true), (3000000000, false), (7500000000, true)]) = 7 :=
  ⟨⟨by decide, by decide, by decide, trivial⟩, by decide, by decide⟩

/-- an inactive kavadist (what the switch-over leaves behind) mints nothing and changes nothing -/
theorem C19_kavadist_inactive (v : Variant) (now : Int) (s : KdSt) :
    mintPeriodInflation v false now s = (s, [], [], 0) := by
  simp [mintPeriodInflation]

/-- Bounding the seconds bounds the coins: with `RelativePow` monotone in its exponent at the period's rate
    (assumption, monitored by the harness on the real function for rates ≥ 1) the amount `mintInflationaryCoins` mints is monotone
    in `timeElapsed`, and non-negative when `RelativePow ≥ 10^18`. -/
theorem C19_kavadist_amount_monotone (pow : Int → Int → Int) (supply : Int) (hs : 0 ≤ supply) (rate : Dec)
    (hpow : ∀ n n', n ≤ n' → pow (inflationInt rate) n ≤ pow (inflationInt rate) n')
    (secs secs' : Int) (h : secs ≤ secs') :
    mintAmount pow supply rate secs ≤ mintAmount pow supply rate secs' ∧
    (P ≤ pow (inflationInt rate) secs → 0 ≤ mintAmount pow supply rate secs) := by
  simp only [mintAmount_eq]
  refine ⟨chopTrunc_mono (Int.sub_le_sub_right (Int.mul_le_mul_of_nonneg_left (hpow secs secs' h) hs) _),
    fun hP => ?_⟩
  have h0 := Int.sub_nonneg.mpr (Int.mul_le_mul_of_nonneg_left hP hs)
  rw [chopTrunc_nonneg_eq _ h0]
  exact Int.ediv_nonneg h0 (by decide)

/-- non-vacuity: the transcription of `RelativePow` at a realistic per-second rate -/
example : mintAmount relPow18 1000000000000 ⟨1000000003022265980⟩ 3600 = 10880216 ∧
    mintAmount relPow18 1000000000000 ⟨1000000003022265980⟩ 435600 = 1317366024 := by decide

namespace Fixed

/-- FULL STATEMENT, proved for the repaired code (findings/C19-kavadist-window.diff, `Variant.fixed`: Case 2 measures from
    `max(previousBlockTime, period.Start)`): every mint call of a block is for an interval inside
    `[start, end] ∩ [prev, now]` and `timeElapsed` is that interval's length.  `start ≤ end` is what
    `validatePeriodsParams` / `validateInfraParams` enforce. -/
theorem C19_kavadist_window (now : Int) (ps : List Period) (prev : Int) (hpn : prev ≤ now)
    (hv : ∀ p ∈ ps, p.start ≤ p.end_) :
    ∀ m ∈ mintIncentivePeriods .fixed now ps prev 0, m.windowOK prev now := by
  intro m hm
  have b := mints_bounds hpn hm
  exact ⟨b.start_le rfl, b.hi_le_end, b.lo_ge, b.hi_le, b.lo_le_hi (.inr (hv _ b.mem)), b.secs_eq⟩

/-- on the witness of the counterexample the repaired code mints for exactly the period's hour -/
example : mintIncentivePeriods .fixed 1700864000000000000
    [⟨1700432000000000000, 1700435600000000000, ⟨1000000003022265980⟩⟩] 1700000000000000000 0 =
    [⟨0, ⟨1700432000000000000, 1700435600000000000, ⟨1000000003022265980⟩⟩,
      1700432000000000000, 1700435600000000000, 3600⟩] := by decide

/-- FULL STATEMENT, proved for the code repaired by findings/C19-infra-zero-mint-panic.diff
    (`zp = false`: a zero mint returns a proper zero coin): the begin blockers of community, mint and
    kavadist never panic, whatever periods are configured. -/
theorem C19_begin_block_no_panic (v : Variant) (pow : Int → Int → Int) (now inflow mintProv : Int)
    (c : Chain) (hr : 0 ≤ c.comm.params.rate.m) (hur : 0 ≤ c.comm.params.upgradeRate.m)
    (hl : ∀ l, c.comm.stk.last = some l → l ≤ now) (he : 0 ≤ c.comm.stk.err.m ∧ c.comm.stk.err.m < P)
    (hp : 0 ≤ c.comm.stk.pool) (hin : 0 ≤ inflow) :
    ∃ c', chainBeginBlock v false pow now inflow mintProv c = .ok c' :=
  chain_ok v false pow now inflow mintProv c hr hur hl he.1 hp hin (.inl rfl)

/-- the repair changes nothing for periods that had started by the previous block time -/
theorem C19_kavadist_fix_conservative (p : Period) (prev : Int) (h : p.start ≤ prev) :
    windowStart .fixed p prev = windowStart .current p prev := by
  simp only [windowStart]; split <;> omega

end Fixed

/-- Status of the full window statement for the variant the driver ties to /repo (`live`): either the
    live model is the current code and the full statement is false for it, or it is the repaired code
    and the full statement holds.  Switching `live` in Model/Emissions.lean re-proves this line. -/
theorem C19_kavadist_window_live :
    (live = .current ∧
      ¬ (∀ (now : Int) (ps : List Period) (prev : Int), prev ≤ now → validPeriods 0 ps →
          ∀ m ∈ mintIncentivePeriods live now ps prev 0, m.windowOK prev now)) ∨
    (live = .fixed ∧
      ∀ (now : Int) (ps : List Period) (prev : Int), prev ≤ now → (∀ p ∈ ps, p.start ≤ p.end_) →
        ∀ m ∈ mintIncentivePeriods live now ps prev 0, m.windowOK prev now) := by
  generalize live = v
  cases v
  · exact Or.inl ⟨rfl, C19_kavadist_window_counterexample⟩
  · exact Or.inr ⟨rfl, Fixed.C19_kavadist_window⟩

/-- the same for the begin-block panic and its switch `liveZeroMintPanics` -/
theorem C19_begin_block_no_panic_live :
    (liveZeroMintPanics = true ∧
      ¬ (∀ (now : Int) (c : Chain), 0 ≤ c.comm.params.rate.m → 0 ≤ c.comm.params.upgradeRate.m →
        (∀ l, c.comm.stk.last = some l → l ≤ now) → (0 ≤ c.comm.stk.err.m ∧ c.comm.stk.err.m < P) →
        0 ≤ c.comm.stk.pool → validPeriods 0 c.kd.infra →
        ∃ c', chainBeginBlock .current liveZeroMintPanics relPow18 now 0 0 c = .ok c')) ∨
    (liveZeroMintPanics = false ∧
      ∀ (v : Variant) (pow : Int → Int → Int) (now inflow mintProv : Int) (c : Chain),
        0 ≤ c.comm.params.rate.m → 0 ≤ c.comm.params.upgradeRate.m →
        (∀ l, c.comm.stk.last = some l → l ≤ now) → (0 ≤ c.comm.stk.err.m ∧ c.comm.stk.err.m < P) →
        0 ≤ c.comm.stk.pool → 0 ≤ inflow →
        ∃ c', chainBeginBlock v liveZeroMintPanics pow now inflow mintProv c = .ok c') := by
  generalize liveZeroMintPanics = zp
  cases zp
  · exact Or.inr ⟨rfl, Fixed.C19_begin_block_no_panic⟩
  · exact Or.inl ⟨rfl, C19_begin_block_no_panic_counterexample⟩

/-! ## source tie (regenerated)

    `GoFn.Community.*` (Generated/FnCommunity.lean) is regenerated from the Go source of the listed pure
    functions on every run by the function translator (tools/extract/fn*.go); these theorems say that the
    regenerated definition IS the hand-written model function the theorems above are about.  A source edit
    of the function re-opens exactly these obligations. -/

/-- `calculateStakingRewards` of x/community/keeper/staking.go, as translated from the current source,
    equals the model's `calculateStakingRewards` for all arguments whose two times are within ±2^63 ns of
    each other (the model's documented `time.Time.Sub` assumption), and never panics or errors there. -/
theorem C19_source_tie_calculateStakingRewards (now last : Int) (err rate pool : Dec)
    (h1 : Go.minDur ≤ now - last) (h2 : now - last ≤ Go.maxDur) :
    GoFn.Community.calculateStakingRewards_translated = true ∧
    GoFn.Community.calculateStakingRewards now last err rate pool
      = Go.R.ok (calculateStakingRewards now last err rate pool) :=
  TieFn.community_calculateStakingRewards now last err rate pool h1 h2

end KV.Em
