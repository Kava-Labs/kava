/-
  C11 — Earn and savings: exact share accounting; nobody withdraws others' funds.

  "In savings the module account balance always equals the sum of all recorded deposits and a
   withdrawal pays out exactly what it deducts, capped at the depositor's balance. In earn each
   vault's total shares equal the sum of account shares, the sum of all accounts' redeemable values
   never exceeds the value held by the vault's strategy, a withdrawal never pays more than the
   account's redeemable value, and depositing then immediately withdrawing never yields a profit.
   No operation changes another account's shares or deposit."
  Quantifier: all sequences of deposits and withdrawals (full, dust-leaving, over-sized) by several
  accounts into several vaults and strategies, interleaved with interest accruing in the
  underlying hard market, and all amounts.

  Models: KavaVerif/Model/Savings.lean (x/savings keeper/deposit.go, withdraw.go) and
  KavaVerif/Model/Earn.lean (x/earn keeper/deposit.go, withdraw.go, vault_share.go, strategy_*.go;
  the strategy value V is a state component moved exactly by the strategies and only increased by
  the environment step `accrue`) and KavaVerif/Model/EarnShares.lean (x/earn types/share.go
  `VaultShares.Add/Sub` as sorted association lists, and the world of several vaults with one share
  record per account).  Only property statements live here; helper lemmas are in
  KavaVerif/Proofs/{EarnNum,Earn,EarnShares,Savings}.lean.
-/
import KavaVerif.Proofs.Earn
import KavaVerif.Proofs.EarnFix
import KavaVerif.Proofs.EarnShares
import KavaVerif.Proofs.Savings
import KavaVerif.Generated.C07Swap
set_option linter.unusedSimpArgs false
set_option linter.unusedVariables false

namespace KV.C11
open KV

/-- "In savings the module account balance always equals the sum of all recorded deposits":
    after every list of deposits and withdrawals (failed ones roll back) by the accounts `accts`,
    for every denom the module balance is the sum of the recorded amounts, recorded amounts are
    non-negative and a record exists exactly when it is non-empty (`SInv`, spelled out below). -/
theorem C11_savings_solvent (accts : List Savings.Addr) (hn : accts.Nodup) (ds : List Savings.Denom)
    (sup : Savings.Denom → Bool) (hsup : ∀ d, sup d = true → d ∈ ds)
    (ops : List Savings.Op) (hops : ∀ o ∈ ops, o.actor ∈ accts) (s : Savings.St)
    (h : Savings.SInv accts ds s) :
    let s' := Savings.run sup ds s ops
    (∀ d, s'.mod d = Earn.sumOver accts (fun a => s'.dep a d)) ∧ (∀ a d, 0 ≤ s'.dep a d) ∧
    (∀ a, s'.has a = ds.any (fun d => decide (0 < s'.dep a d))) := by
  have := Savings.run_inv accts hn ds sup hsup ops s hops h
  exact ⟨this.2.1, this.1, this.2.2.2⟩

/-- the genesis state (no deposits, any user bank balances) satisfies the savings invariant -/
theorem C11_savings_solvent_init (accts : List Savings.Addr) (ds : List Savings.Denom)
    (funds : Savings.Addr → Savings.Denom → Int) :
    Savings.SInv accts ds { Savings.empty with bal := funds } := Savings.empty_inv accts ds

/-- "a withdrawal pays out exactly what it deducts, capped at the depositor's balance": per denom the
    account receives `p`, its record loses `p`, the module account loses `p`, where `p` is the
    requested amount of that denom capped at the recorded amount (0 for a denom not requested). -/
theorem C11_savings_withdraw_exact (accts : List Savings.Addr) (ds : List Savings.Denom)
    (s s' : Savings.St) (a : Savings.Addr) (cs : Savings.Coins) (h : Savings.SInv accts ds s)
    (hok : Savings.withdraw ds s a cs = .ok s') (d : Savings.Denom) :
    let p := match cs.lookup d with
      | some n => if n > s.dep a d then s.dep a d else n
      | none => 0
    s'.bal a d = s.bal a d + p ∧ s'.dep a d = s.dep a d - p ∧ s'.mod d = s.mod d - p ∧
    0 ≤ p ∧ p ≤ s.dep a d ∧ p ≤ Savings.amountOf cs d := by
  obtain ⟨rfl, hv, -⟩ := Savings.withdraw_ok hok
  show Savings.upd2 s.bal a _ a d = _ ∧ Savings.upd2 s.dep a _ a d = _ ∧ _
  rw [Savings.upd2_same, Savings.upd2_same]
  exact ⟨rfl, rfl, rfl, Savings.paid_bounds (s.dep a) cs d hv (h.1 a d)⟩

/-- a deposit moves exactly the deposited coins from the account to the module and the record -/
theorem C11_savings_deposit_exact (sup : Savings.Denom → Bool) (s s' : Savings.St) (a : Savings.Addr)
    (cs : Savings.Coins) (hok : Savings.deposit sup s a cs = .ok s') (d : Savings.Denom) :
    s'.bal a d = s.bal a d - Savings.amountOf cs d ∧ s'.dep a d = s.dep a d + Savings.amountOf cs d ∧
    s'.mod d = s.mod d + Savings.amountOf cs d ∧ 0 ≤ Savings.amountOf cs d := by
  obtain ⟨rfl, hv, -⟩ := Savings.deposit_ok hok
  show Savings.upd2 s.bal a _ a d = _ ∧ Savings.upd2 s.dep a _ a d = _ ∧ _
  rw [Savings.upd2_same, Savings.upd2_same]
  exact ⟨rfl, rfl, rfl, Savings.amountOf_nonneg hv d⟩

/-- "No operation changes another account's … deposit" (savings): any operation, successful or not,
    leaves the record, the record flag and the bank balance of every other account unchanged. -/
theorem C11_savings_frame (ds : List Savings.Denom) (sup : Savings.Denom → Bool) (s : Savings.St)
    (o : Savings.Op) (b : Savings.Addr) (hb : b ≠ o.actor) :
    (Savings.next sup ds s o).dep b = s.dep b ∧ (Savings.next sup ds s o).bal b = s.bal b ∧
    (Savings.next sup ds s o).has b = s.has b := by
  rcases Savings.next_cases sup ds s o with ⟨s', h, e⟩ | e <;> rw [e]
  · cases o with
    | deposit a cs =>
      obtain ⟨rfl, -⟩ := Savings.deposit_ok h
      exact ⟨if_neg hb, if_neg hb, if_neg hb⟩
    | withdraw a cs =>
      obtain ⟨rfl, -⟩ := Savings.withdraw_ok h
      exact ⟨if_neg hb, if_neg hb, if_neg hb⟩
  · exact ⟨rfl, rfl, rfl⟩

open Earn

/-- "In earn each vault's total shares equal the sum of account shares": after every list of
    deposits, withdrawals (dust sweep included) and interest accruals, the vault's total shares are
    the sum of the account shares, shares are non-negative, the strategy value is non-negative and
    the vault record exists exactly when the total is non-zero. -/
theorem C11_earn_shares_sum (accts : List Addr) (hn : accts.Nodup) (ops : List Op)
    (hops : ∀ o ∈ ops, ∀ a, o.actor = some a → a ∈ accts) (s : St) (h : Inv accts s) :
    let s' := run s ops
    s'.tot = sumOver accts s'.sh ∧ (∀ a, 0 ≤ s'.sh a) ∧ 0 ≤ s'.val ∧ (s'.found = true ↔ s'.tot ≠ 0) := by
  have := run_inv accts hn ops s hops h
  exact ⟨this.2.1, this.1, this.2.2.1, this.2.2.2⟩

/-- the genesis state (no vault record, no shares, any bank balances) satisfies the earn invariant -/
theorem C11_earn_shares_sum_init (accts : List Addr) (funds : Addr → Int) :
    Inv accts { empty with bal := funds } := empty_inv accts

/-- "the sum of all accounts' redeemable values never exceeds the value held by the vault's
    strategy": Σ_a ConvertToAssets(shares_a) ≤ V after every operation list (each term truncates). -/
theorem C11_earn_redeemable_le_value (accts : List Addr) (hn : accts.Nodup) (ops : List Op)
    (hops : ∀ o ∈ ops, ∀ a, o.actor = some a → a ∈ accts) (s : St) (h : Inv accts s) :
    sumOver accts (redeemable (run s ops)) ≤ (run s ops).val :=
  redeemable_sum_le (run_inv accts hn ops s hops h)

/-- "a withdrawal never pays more than the account's redeemable value": a successful withdrawal pays
    the account `p` with `0 ≤ p ≤ redeemable` and `p ≤` the requested amount, takes exactly `p` out of
    the strategy, and leaves the module account's own balance unchanged. -/
theorem C11_withdraw_le_value (accts : List Addr) (s s' : St) (a : Addr) (want : Int) (vo so : Bool)
    (ha : a ∈ accts) (h : Inv accts s) (hok : withdraw s a want vo so = .ok s') :
    0 ≤ s'.bal a - s.bal a ∧ s'.bal a - s.bal a ≤ redeemable s a ∧ s'.bal a - s.bal a ≤ want ∧
    s'.val = s.val - (s'.bal a - s.bal a) ∧ s'.loose = s.loose :=
  withdrawWith_pays ha h ((withdraw_eq s a want vo so).symm.trans hok)

/-- "depositing then immediately withdrawing never yields a profit": after `Deposit x` followed at
    once by `Withdraw want` (each rolled back if it fails) the account holds at most its previous
    balance plus what it could already redeem before. -/
def NoProfit (s : St) (a : Addr) (x want : Int) : Prop :=
  (run s [.deposit a x true true true, .withdraw a want true true]).bal a ≤ s.bal a + redeemable s a

/-- two funded accounts, nothing deposited -/
def cexInit : St := { empty with bal := fun _ => 2000000 }

/-- account 0 deposits 1 000 000 into the fresh vault and withdraws 999 001: the remaining shares
    (worth 999) are classified as dust against the stored total shares and the post-withdraw value
    (999·999/10^6 < 1), swept, the vault record is deleted and 999 stay in the strategy. -/
def cexState : St :=
  run cexInit [.deposit 0 1000000 true true true, .withdraw 0 999001 true true]

/-
  FULL STATEMENT (false on the current code):
    theorem C11_deposit_withdraw_no_profit (accts) (s) (a) (x want) :
        accts.Nodup → a ∈ accts → Inv accts s → NoProfit s a x want
  It fails in states where value is stranded in the strategy while the vault record is absent;
  such states are reachable through the dust sweep of `Withdraw` (withdraw.go: `ShareIsDust` is
  evaluated against the *stored* total shares but the *post-withdraw* strategy value).
-/

/-- The reachable witness: in `cexState` account 1 deposits 1 and immediately withdraws 1000 —
    999 of them are account 0's funds. -/
theorem C11_deposit_withdraw_no_profit_counterexample :
    ¬ (∀ (accts : List Addr) (s : St) (a : Addr) (x want : Int),
        accts.Nodup → a ∈ accts → Inv accts s → NoProfit s a x want) := by
  intro h
  have hinv : Inv [0, 1] cexState :=
    run_inv [0, 1] (by decide) _ cexInit (by
      intro o ho a ha
      simp only [List.mem_cons, List.mem_nil_iff, or_false] at ho
      rcases ho with rfl | rfl <;> cases ha <;> decide) (empty_inv [0, 1])
  have := h [0, 1] cexState 1 1 1000 (by decide) (by decide) hinv
  revert this
  unfold NoProfit
  decide

/-- what the witness does, in numbers: account 0 got 999 001 back for its 1 000 000, no vault
    record is left, 999 remain in the strategy; then account 1 turns a deposit of 1 into 1000. -/
theorem C11_deposit_withdraw_no_profit_witness :
    cexState.bal 0 = 2000000 - 1000000 + 999001 ∧ cexState.found = false ∧ cexState.sh 0 = 0 ∧
    cexState.val = 999 ∧
    (run cexState [.deposit 1 1 true true true, .withdraw 1 1000 true true]).bal 1 = cexState.bal 1 + 999 := by
  decide

/-- The strongest true part: the property holds from every state in which no value is stranded
    (vault record absent ⇒ strategy value 0), in particular for every vault that has shares. -/
theorem C11_deposit_withdraw_no_profit_partial (accts : List Addr) (hn : accts.Nodup) (s : St)
    (a : Addr) (x want : Int) (ha : a ∈ accts) (h : Inv accts s) (hns : NoStranded s) :
    NoProfit s a x want :=
  deposit_withdraw_le (dust := dustStored _ a) hn x want ha h hns
    ((next_cases _ (.withdraw a want true true)).imp_left fun ⟨_, h2, e⟩ => e ▸ h2)

/-- Root cause, stated exactly: a withdrawal strands value only through the dust sweep — the
    withdrawing account held all shares, asked for fewer than all, and the remainder was valued
    at zero against the stored total and the post-withdraw strategy value. -/
theorem C11_stranded_only_by_dust_sweep (accts : List Addr) (s s' : St) (a : Addr) (want : Int)
    (vo so : Bool) (ha : a ∈ accts) (h : Inv accts s)
    (hok : withdraw s a want vo so = .ok s') (hst : ¬ NoStranded s') :
    ∃ w amt, w = want * s.tot / s.val ∧ amt = s.val * w / s.tot ∧ s.sh a = s.tot ∧ w < s.sh a ∧
      (s.val - amt) * (s.sh a - w) / s.tot = 0 ∧ s'.val = s.val - amt ∧ 0 < s'.val ∧ s'.sh a = 0 := by
  rw [withdraw_eq] at hok
  obtain ⟨w, amt, d, w', hw, rfl⟩ := withdrawWith_arith ha h hok
  obtain ⟨hg, hv'⟩ : decide (s.tot - w' ≠ 0) = false ∧ s.val - amt ≠ 0 := Classical.not_imp.mp hst
  -- the record is gone and value is left, so not all shares were asked for and the rest was swept
  obtain ⟨hsh, hw', hall | ⟨hlt, rfl⟩⟩ := hw.record_gone ha h hg
  · exact absurd hall hv'
  have hd := hw.dust_eq
  rw [dustStored, convertToAssets_found (s := { s with val := s.val - amt }) hw.found
    (h.tot_pos hw.found) (Int.sub_nonneg.mpr hw.amt_le_val) (Int.sub_nonneg.mpr hw.w_le)] at hd
  refine ⟨w, amt, hw.w_eq, hw.amt_eq, hsh, hsh ▸ hlt, R.ok.inj hd, rfl,
    Int.lt_iff_le_and_ne.mpr ⟨Int.sub_nonneg.mpr hw.amt_le_val, Ne.symm hv'⟩, ?_⟩
  show upd s.sh a (s.sh a - w') a = 0
  rw [upd_same, hw', hsh]; exact Int.sub_self _

/-- Supporting the recommendation of the finding: on the model of the *patched* `Withdraw`
    (`withdrawFixed` in Proofs/EarnFix.lean: remaining shares valued against the post-withdraw total
    shares, findings/C11-dust-sweep-strands-value.diff) the full statement holds in every state
    reachable from genesis by any operation list — no hypothesis on stranded value is needed,
    because the patched code never strands any. -/
theorem C11_deposit_withdraw_no_profit_patched (accts : List Addr) (hn : accts.Nodup) (ops : List Op)
    (hops : ∀ o ∈ ops, ∀ a, o.actor = some a → a ∈ accts) (funds : Addr → Int)
    (a : Addr) (ha : a ∈ accts) (x want : Int) :
    let s := runF { empty with bal := funds } ops
    (runF s [.deposit a x true true true, .withdraw a want true true]).bal a ≤ s.bal a + redeemable s a :=
  fixed_deposit_withdraw_no_profit accts hn ops hops { empty with bal := funds } (empty_inv accts)
    (fun _ => rfl) a ha x want

/-- "No operation changes another account's shares" (earn): any operation, successful or not, dust
    sweep included, leaves the shares and the bank balance of every other account unchanged; an
    operation on vault `v` leaves every other vault unchanged. -/
theorem C11_frame (s : St) (o : Op) (b : Addr) (hb : o.actor ≠ some b) (w : Nat → St) (v u : Nat)
    (hu : u ≠ v) :
    (next s o).sh b = s.sh b ∧ (next s o).bal b = s.bal b ∧ wnext w v o u = w u :=
  ⟨(next_frame s hb).1, (next_frame s hb).2, if_neg hu⟩

open Earn.Shares

/-- `VaultShares.Add` (types/share.go) on a valid record (strictly sorted by denom, duplicate-free,
    positive amounts) and a strictly sorted set of non-negative shares — one share, as in every
    keeper `Deposit`, or several — does not panic, returns a valid record, and the result is the
    pointwise sum: no share of any other denom is lost, duplicated or changed. -/
theorem C11_shares_add_spec (A B : Shares) (hA : Valid A) (hB : SSorted B) (hB0 : ∀ b ∈ B, 0 ≤ b.2) :
    ∃ R, add A B = .ok R ∧ Valid R ∧ ∀ d, amountOf R d = amountOf A d + amountOf B d :=
  add_spec hA hB hB0

/-- `VaultShares.Sub` on a valid record and a strictly sorted set of non-negative shares, none above
    what the record holds: no panic, a valid record, the pointwise difference. -/
theorem C11_shares_sub_spec (A B : Shares) (hA : Valid A) (hB : SSorted B) (hB0 : ∀ b ∈ B, 0 ≤ b.2)
    (hle : ∀ d, amountOf B d ≤ amountOf A d) :
    ∃ R, sub A B = .ok R ∧ Valid R ∧ ∀ d, amountOf R d = amountOf A d - amountOf B d :=
  sub_spec hA hB hle

/-- the genesis state of the several-vault world (no vault record, no share record, any bank
    balances) satisfies the invariant `MInv`: every vault's view satisfies the single-vault invariant
    and every account's record is valid -/
theorem C11_multi_init (accts : List Addr) (funds : Addr → Nat → Int) :
    MInv accts { mempty with bal := funds } :=
  ⟨fun _ => ⟨fun _ => Int.le_refl 0, (sumOver_const_zero accts).symm, Int.le_refl 0, by simp [view, mempty]⟩,
    fun _ => ⟨List.Pairwise.nil, nofun⟩⟩

/-- "each vault's total shares equal the sum of account shares", all vaults at once: after every list
    of operations (vault, deposit / withdraw / accrue) on any vaults by the accounts `accts`, for EVERY
    vault `v` the total shares are the sum over the accounts of `AmountOf(v)` of their record, and the
    record exists exactly when that total is non-zero. -/
theorem C11_multi_shares_sum (accts : List Addr) (hn : accts.Nodup) (ops : List (Nat × Op))
    (hops : ∀ vo ∈ ops, ∀ a, vo.2.actor = some a → a ∈ accts) (m : MSt) (h : MInv accts m) (v : Nat) :
    let m' := mrun m ops
    (m'.vault v).tot = sumOver accts (fun a => amountOf (m'.recs a) v) ∧
    ((m'.vault v).found = true ↔ (m'.vault v).tot ≠ 0) := by
  have := (mrun_inv hn ops m hops h).1 v
  exact ⟨this.2.1, this.2.2.2⟩

/-- every account's share record stays a strictly sorted, duplicate-free list of positive shares
    (what `VaultShareRecord.Validate` demands) after every list of operations on any vaults -/
theorem C11_multi_record_valid (accts : List Addr) (hn : accts.Nodup) (ops : List (Nat × Op))
    (hops : ∀ vo ∈ ops, ∀ a, vo.2.actor = some a → a ∈ accts) (m : MSt) (h : MInv accts m) (a : Addr) :
    ((mrun m ops).recs a).Pairwise (fun x y => x.1 < y.1) ∧ ∀ s ∈ (mrun m ops).recs a, 0 < s.2 :=
  (mrun_inv hn ops m hops h).2 a

/-- "No operation changes another account's shares", and no operation on vault `v` changes anybody's
    shares in another vault: any operation `o` on vault `v`, successful or not, dust sweep included,
    (1) leaves the whole share record (all vaults) and all bank balances of every other account
    unchanged, (2) leaves the shares of EVERY account — the acting one included — in every other vault
    `w ≠ v` and its balance in every other denom unchanged, and (3) leaves every other vault (record,
    total shares, strategy value, module balance) unchanged. -/
theorem C11_multi_frame (accts : List Addr) (m : MSt) (v : Nat) (o : Op)
    (hact : ∀ a, o.actor = some a → a ∈ accts) (h : MInv accts m) :
    (∀ b, o.actor ≠ some b → (mnext m (v, o)).recs b = m.recs b ∧ (mnext m (v, o)).bal b = m.bal b) ∧
    (∀ b w, w ≠ v → amountOf ((mnext m (v, o)).recs b) w = amountOf (m.recs b) w ∧
                     (mnext m (v, o)).bal b w = m.bal b w) ∧
    (∀ w, w ≠ v → (mnext m (v, o)).vault w = m.vault w) :=
  have h' := mnext_lift v o hact h
  ⟨h'.accounts, h'.vaults, h'.cores⟩

/-- the several-vault world is the single-vault model on every vault: what `Deposit` / `Withdraw` on
    vault `v` do to the view of `v` is exactly the single-vault step — the record operations
    (`Shares.Add`, `Shares.Sub`) never panic and store the single-vault result — so every single-vault
    theorem above (redeemable ≤ value, withdrawal ≤ value, no-profit partial, …) holds for each vault
    of the several-vault world. -/
theorem C11_multi_view (accts : List Addr) (m : MSt) (v : Nat) (o : Op)
    (hact : ∀ a, o.actor = some a → a ∈ accts) (h : MInv accts m) :
    view (mnext m (v, o)) v = next (view m v) o ∧ ∀ w, w ≠ v → view (mnext m (v, o)) w = view m w :=
  ⟨(mnext_lift v o hact h).stepped, (mnext_lift v o hact h).others⟩

/-- what the harness's log of deposits and withdrawals records: the shares a successful operation adds
    to (removes from) the acting account's record for vault `v` are exactly what it adds to (removes
    from) the vault's total shares -/
theorem C11_multi_ledger (accts : List Addr) (m : MSt) (v : Nat) (o : Op) (a : Addr) (ha : a ∈ accts)
    (hact : o.actor = some a) (h : MInv accts m) (s' : St) (hs : step (view m v) o = .ok s') :
    amountOf ((mnext m (v, o)).recs a) v - amountOf (m.recs a) v =
      ((mnext m (v, o)).vault v).tot - (m.vault v).tot := by
  have hv := (mnext_lift v o (fun b hb => by rw [hact] at hb; cases hb; exact ha) h).stepped
  have e : next (view m v) o = s' := by unfold next; rw [hs]
  have hd := step_delta accts (view m v) s' o a ha hact (h.1 v) hs
  rw [← e, ← hv] at hd
  exact hd

/-- "an account can always withdraw its redeemable value from every vault it holds": in any state of
    the several-vault world satisfying the invariant, an account whose `GetVaultAccountValue` in vault
    `v` is positive succeeds in withdrawing exactly that value from `v` (share price at most 10^18
    coins per whole share; that the strategy can pay is the monitored liquidity assumption). -/
theorem C11_multi_withdrawable (accts : List Addr) (m : MSt) (v : Nat) (a : Addr) (ha : a ∈ accts)
    (h : MInv accts m) (hpos : 0 < redeemable (view m v) a) (hprice : (m.vault v).val ≤ (m.vault v).tot)
    (hl : 0 ≤ (m.vault v).loose) :
    ∃ m', mstep m v (.withdraw a (redeemable (view m v) a) true true) = .ok m' := by
  obtain ⟨s', hs⟩ := withdraw_redeemable_ok accts (view m v) a ha (h.1 v) hpos hprice hl
  obtain ⟨m', hm, -⟩ := mstep_lift accts m v (.withdraw a (redeemable (view m v) a) true true) s'
    (fun b hb => by simp only [Op.actor, Option.some.injEq] at hb; subst hb; exact ha) h hs
  exact ⟨m', hm⟩

/-! ## Non-vacuity: concrete states meeting the hypotheses, on which the operations succeed -/

/-- a vault with three holders at share price 10/6 and an idle fourth account -/
def exEarn : St :=
  { found := true, tot := 6 * P,
    sh := fun a => if a = 0 then 3 * P else if a = 1 then 2 * P else if a = 2 then P else 0,
    val := 10, loose := 0, bal := fun _ => 100 }

example : Inv [0, 1, 2, 3] exEarn :=
  ⟨fun a => ite_nonneg (by decide) (ite_nonneg (by decide) (ite_nonneg (by decide) (by decide))),
    by decide, by decide, by decide⟩

example : NoStranded exEarn := by intro h; cases h
example : (deposit exEarn 3 7 true true true).isOk = true := by decide
example : (withdraw exEarn 0 4 true true).isOk = true := by decide        -- partial
example : (withdraw exEarn 0 5 true true).isOk = true := by decide        -- full (value 5)
example : (withdraw exEarn 0 6 true true).isOk = false := by decide       -- over-sized
example : (step exEarn (.accrue 3)).isOk = true := by decide
example : ¬ NoStranded cexState := by unfold NoStranded; decide

def exSav : Savings.St :=
  { bal := fun _ _ => 50, mod := fun d => if d = 0 then 30 else if d = 1 then 5 else 0,
    has := fun a => decide (a = 0 ∨ a = 1),
    dep := fun a d => if a = 0 then (if d = 0 then 10 else if d = 1 then 5 else 0)
                      else if a = 1 then (if d = 0 then 20 else 0) else 0 }

example : Savings.SInv [0, 1, 2] [0, 1] exSav := by
  refine ⟨fun a d => ite_nonneg (ite_nonneg (by decide) (ite_nonneg (by decide) (by decide)))
    (ite_nonneg (ite_nonneg (by decide) (by decide)) (by decide)), ?_, ?_, ?_⟩
  · intro d; unfold exSav; simp only [sumOver]
    by_cases h0 : d = 0
    · subst h0; decide
    · by_cases h1 : d = 1
      · subst h1; decide
      · simp [h0, h1]
  · intro a d hd
    have h0 : d ≠ 0 := fun e => hd (by simp [e])
    have h1 : d ≠ 1 := fun e => hd (by simp [e])
    unfold exSav; simp [h0, h1]
  · intro a; unfold exSav
    by_cases h0 : a = 0
    · subst h0; decide
    · by_cases h1 : a = 1
      · subst h1; decide
      · simp [h0, h1]

example : (Savings.withdraw [0, 1] exSav 0 [(0, 99), (1, 2)]).isOk = true := by decide   -- capped + partial
example : (Savings.deposit (fun d => decide (d < 2)) exSav 2 [(1, 7)]).isOk = true := by decide

/-- an account holding vaults 0 and 3 opens a position in vault 2 (between), tops it up, withdraws
    part of it and all of it: `VaultShares.Add/Sub` on concrete records -/
example : add [(0, 5), (3, 7)] [(2, 1)] = .ok [(0, 5), (2, 1), (3, 7)] := by
  simp [add, merge, isSorted, removeZero]
example : add [(0, 5), (2, 1), (3, 7)] [(2, 4)] = .ok [(0, 5), (2, 5), (3, 7)] := by
  simp [add, merge, isSorted, removeZero]
example : sub [(0, 5), (2, 5), (3, 7)] [(2, 5)] = .ok [(0, 5), (3, 7)] := by
  simp [sub, negative, add, merge, isSorted, removeZero]
example : Valid [(0, 5), (2, 5), (3, 7)] := (isValid_iff _).mp (by decide)

/-! ### app wiring (regenerated from app/app.go on every run) -/

/-- "In savings the module account balance always equals the sum of all recorded deposits" presupposes that coins
    reach the savings module account only through the module's own Deposit: the account must be a blocked
    address of x/bank, i.e. NOT among the module accounts app.go exempts from the blocked list (the earn module
    account is exempt by design: its funds sit in the strategies, not in its own balance). -/
theorem C11_savings_module_account_blocked :
    "savingstypes.ModuleAccountName" ∉ KV.Gen.C07.unblockedModuleAccounts ∧
    "savingstypes.ModuleName" ∉ KV.Gen.C07.unblockedModuleAccounts := by decide

end KV.C11
