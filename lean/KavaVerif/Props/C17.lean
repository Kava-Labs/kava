/-
  C17 — Committees enact only what permissions allow, once, and only when passed.

  "A committee can enact only proposals its permissions allow: an enacted parameter-change proposal
   alters only the parameter fields explicitly listed as changeable for that committee and leaves every
   other field and record unchanged. Submitting or voting never applies the proposal's effects; a
   proposal is enacted at most once, only on a passing tally (threshold, plus quorum for token
   committees) of votes cast before its deadline (at once for first-past-the-post committees,
   otherwise in the first block at or after the deadline), and is closed afterwards. A proposal whose
   handler would fail is rejected at submission or closed as invalid without halting the chain."

  Two models. (a) `KV.Perm` (Model/Permissions.lean): x/committee/types/permissions.go — the permission
  checker over decoded JSON — and the amino-JSON applier used by the params proposal handler.
  (b) `KV.Com` (Model/Committee.lean): submit / vote / begin block / committee change.
  `KV.Gen.committeeRouterRoutes` is regenerated from app/app.go on every run.
  Only property statements live here; helper lemmas are in Proofs/CommitteePerm.lean and
  Proofs/CommitteeLife.lean.
-/
import KavaVerif.Proofs.CommitteePerm
import KavaVerif.Proofs.CommitteeLife
import KavaVerif.Generated.C17Router
import KavaVerif.Proofs.TieFnCommittee
set_option linter.unusedSimpArgs false
set_option linter.unusedVariables false

namespace KV.C17
open KV KV.Perm KV.Com

/-- "alters only the parameter fields explicitly listed as changeable … leaves every other field …
    unchanged", for one record, over ALL current and incoming documents, schemas and allow-lists:
    whenever the checker accepts, every field that is not on the allow-list reads back, after the applier
    decoded the incoming document, exactly as the store held it. `base` is what the destination held
    before decoding: the current record (top-level struct parameter) or the zero record (element of an
    array parameter).
    (History: false before fix 0a0bfec58 — an incoming document could drop an allow-listed key and add an
    `omitempty` field the current document omits; see findings/C17-omitted-field-set.md.) -/
theorem C17_only_allowed_fields (sch : Schema) (base : String → Json) (cur inc : Obj)
    (allow : List String) (hb : ∀ k, base k = recOf cur k ∨ base k = .null)
    (h : validate cur inc allow = true) (k : String) (hk : k ∉ allow) :
    applyRec sch base inc k = recOf cur k := by
  obtain ⟨_, hsub, hv⟩ := validate_spec h
  unfold applyRec recOf
  cases hl : inc.lookup k with
  | some v =>
    simp only
    have hin : k ∈ keys inc := hasKey_iff_mem_keys.1 (by rw [hasKey_iff_lookup, hl]; rfl)
    rw [hv k (hsub k hin) hk, get_of_lookup_some hl]
  | none =>
    simp only
    have hcur : get cur k = .null := by
      by_cases hm : k ∈ keys cur
      · rw [hv k hm hk, get_of_lookup_none hl]
      · exact get_null_of_not_mem_keys hm
    split
    · rcases hb k with h1 | h1
      · rw [h1]; rfl
      · rw [h1, hcur]
    · rw [hcur]

/-- …and the accepted document has exactly the keys of the current one (nothing added, nothing dropped). -/
theorem C17_only_allowed_fields_same_keys (cur inc : Obj) (allow : List String)
    (h : validate cur inc allow = true) :
    cur.length = inc.length ∧ ∀ k, k ∈ keys inc → k ∈ keys cur :=
  ⟨(validate_spec h).1, (validate_spec h).2.1⟩

/-- non-vacuity: an accepted change of an allow-listed field; a protected change, a dropped allow-listed
    key swapped for a new key (the former finding) and an extra key are refused -/
example : validate [("a", .str "x"), ("b", .num "1")] [("a", .str "x"), ("b", .num "2")] ["b"] = true := by decide +kernel
example : validate [("a", .str "x"), ("b", .num "1")] [("a", .str "y"), ("b", .num "1")] ["b"] = false := by decide +kernel
example : validate [("market_id", .str "bnb:usd"), ("oracles", .arr [.str "kava1…"])]
    [("active", .bool true), ("market_id", .str "bnb:usd")] ["oracles"] = false := by decide +kernel

/-- Duplicate keys: the document the checker compares (and the one amino's `map[string]json.RawMessage`
    gives the applier) maps every key to its LAST occurrence in the raw text. -/
theorem C17_duplicate_keys_last_wins (kvs : List (String × Json)) (o : Obj) (h : asMap (.obj kvs) = some o)
    (k : String) : o.lookup k = lastValue kvs k := by
  simp only [asMap, Option.some.injEq] at h
  subst h
  exact decodeObj_lookup kvs k

/-- What an accepting `allowsParamChange` has established about the raw documents: the current value
    is an object (or null) and the decoded pair passed `validate` with the single-record allow-list,
    or the current value is an array and the decoded lists passed `allowsMulti` — so the statements
    above apply to every raw document (reordered, missing, extra, duplicated keys and records). -/
theorem C17_checker_dispatch (a : APC) (curJ incJ : Json) (h : checkAgainst a (some curJ) (some incJ) = .yes) :
    (isArrayRaw (some curJ) = false ∧ ∃ cur inc, asMap curJ = some cur ∧ asMap incJ = some inc ∧
        validate cur inc a.single = true) ∨
    (isArrayRaw (some curJ) = true ∧ ∃ cur inc, asMaps curJ = some cur ∧ asMaps incJ = some inc ∧
        allowsMulti a.multi cur inc = true) := by
  rw [checkAgainst_eq] at h
  cases harr : isArrayRaw (some curJ) with
  | true => rw [harr, if_pos rfl] at h; exact Or.inr ⟨rfl, decodeCompare_eq_yes h⟩
  | false => rw [harr, if_neg Bool.false_ne_true] at h; exact Or.inl ⟨rfl, decodeCompare_eq_yes h⟩

/-- non-vacuity of the dispatch: a duplicated key, the later (unchanged) value wins, accepted -/
example : checkAgainst { subspace := "s", key := "k", single := ["b"], multi := [] }
    (some (.obj [("a", .str "x"), ("b", .num "1")]))
    (some (.obj [("a", .str "EVIL"), ("b", .num "2"), ("a", .str "x")])) = .yes := by decide +kernel

/-- Multi-record parameters ("every current record matched by its requirement key to exactly one incoming
    record, each pair satisfying the single-record statement, nothing added or removed"): an accepted
    change has as many records as the current value, and the loop's assignment current ↦ incoming index
    is one-to-one and ONTO the incoming records; each current record and its incoming record satisfy the
    same requirement (the first one the current record satisfies) and obey the single-record statement.
    (History: the matching was not one-to-one before fix 060540892; see findings/C17-record-replaced.md.) -/
theorem C17_multi_bijection (sch : Schema) (reqs : List Req) (cur inc : List Obj)
    (h : allowsMulti reqs cur inc = true) :
    cur.length = inc.length ∧
    ∃ idxs : List Nat, idxs.length = cur.length ∧ idxs.Nodup ∧ (∀ j, j < inc.length → j ∈ idxs) ∧
      ∀ p, p ∈ cur.zip idxs → ∃ r i, r ∈ reqs ∧ inc[p.2]? = some i ∧
        matchesReq p.1 r = true ∧ matchesReq i r = true ∧
        ∀ k, k ∉ r.allowed → applyRec sch zeroRec i k = recOf p.1 k := by
  obtain ⟨hl, idxs, ha⟩ := allowsMulti_spec h
  obtain ⟨hlen, hbound, hnd, hpairs⟩ := assign_spec ha
  refine ⟨hl, idxs, hlen, hnd, ?_, ?_⟩
  · exact pigeonhole inc.length idxs hnd (fun x hx => (hbound x hx).1) (by rw [hlen, hl])
  · intro p hp
    obtain ⟨r, v, hr, hv, hm, hval⟩ := hpairs p hp
    refine ⟨r, v, List.mem_of_find?_eq_some hr, hv, List.find?_some hr, hm, ?_⟩
    intro k hk
    exact C17_only_allowed_fields sch zeroRec p.1 v r.allowed (fun _ => Or.inr rfl) hval k hk

/-- non-vacuity: a reordered two-record change is accepted; the former finding (two current records of
    the same requirement, second incoming record arbitrary) is refused -/
example : allowsMulti [{ key := "type", val := "a", allowed := ["fee"] }, { key := "type", val := "b", allowed := [] }]
    [[("fee", .str "1"), ("type", .str "a")], [("fee", .str "2"), ("type", .str "b")]]
    [[("fee", .str "2"), ("type", .str "b")], [("fee", .str "9"), ("type", .str "a")]] = true := by decide +kernel
example : allowsMulti [{ key := "denom", val := "bnb", allowed := ["type"] }]
    [[("denom", .str "bnb"), ("type", .str "a")], [("denom", .str "bnb"), ("type", .str "b")]]
    [[("denom", .str "bnb"), ("type", .str "a")], [("denom", .str "EVIL"), ("type", .str "z")]] = false := by decide +kernel

/-- A parameter (subspace, key) for which the permission lists no `AllowedParamsChange` is refused,
    whatever else the proposal contains and whatever the documents are. -/
theorem C17_unlisted_param_refused (apcs : List APC) (st : Store) (cs : List Change) (c : Change)
    (hc : c ∈ cs) (h : ∀ a, a ∈ apcs → ¬ (a.subspace = c.subspace ∧ a.key = c.key)) :
    (Permission.paramsChange apcs).allows st (.paramChange cs) ≠ .yes :=
  allowsChanges_unlisted hc h

/-- …and so is it by a committee none of whose permissions is the god permission or a params
    permission listing that parameter. -/
theorem C17_unlisted_param_refused_committee (perms : List Permission) (st : Store) (cs : List Change)
    (c : Change) (hc : c ∈ cs)
    (h : ∀ p, p ∈ perms → match p with
      | .god => False
      | .paramsChange apcs => ∀ a, a ∈ apcs → ¬ (a.subspace = c.subspace ∧ a.key = c.key)
      | _ => True) :
    hasPermissionsFor st (.paramChange cs) perms ≠ .yes := by
  fun_induction hasPermissionsFor st (.paramChange cs) perms with
  | case1 | case3 => exact nofun
  | case2 p ps hyes =>
    have hp := h p List.mem_cons_self
    cases p with
    | god => exact hp.elim
    | paramsChange apcs => exact absurd hyes (allowsChanges_unlisted hc hp)
    | _ => cases hyes
  | case4 p ps _ ih => exact ih fun q hq => h q (List.mem_cons_of_mem _ hq)

/-- non-vacuity: a listed parameter with no sub-rules is allowed -/
example : (Permission.paramsChange [{ subspace := "cdp", key := "DebtParam", single := [], multi := [] }]).allows
    (fun _ _ => none) (.paramChange [{ subspace := "cdp", key := "DebtParam", value := none }]) = .yes := by decide +kernel

/-- The permission check returns a verdict (does not panic) whenever the stored value is an object,
    `null`, or an array of objects/nulls — i.e. for every parameter whose Go type is a struct or a slice
    of structs. -/
theorem C17_checker_no_panic_partial (a : APC) (st : Store) (c : Change)
    (h : ∀ raw, st c.subspace c.key = some raw →
      ∃ j, raw = some j ∧ ((asMap j).isSome = true ∨ ((∃ xs, j = .arr xs) ∧ (asMaps j).isSome = true))) :
    allowsParamChange a st c ≠ .panic := by
  fun_cases allowsParamChange a st c with
  | case1 | case2 | case3 => exact nofun
  | case4 _ _ raw hraw =>
    obtain ⟨j, rfl, hj⟩ := h raw hraw
    rw [checkAgainst_eq]
    rcases hj with hm | ⟨⟨xs, rfl⟩, hms⟩
    · -- object or null: a value that `asMap` accepts is not an array
      have hna : isArrayRaw (some j) = false := by
        cases j with
        | arr xs => cases hm
        | _ => rfl
      rw [hna, if_neg Bool.false_ne_true]
      exact decodeCompare_ne_panic hm
    · rw [if_pos (show isArrayRaw (some (.arr xs)) = true from rfl)]
      exact decodeCompare_ne_panic hms

/-- FALSE in general ("the permission check always returns a verdict"): sub-rules attached to a
    parameter that is a list of strings make `json.Unmarshal(currentRaw, &[]map…)` fail → `panic(err)`,
    while the same check returned `true` when the list was still empty. -/
theorem C17_checker_no_panic_counterexample :
    ¬ (∀ (a : APC) (st : Store) (c : Change), allowsParamChange a st c ≠ .panic) := by
  intro h
  exact h { subspace := "savings", key := "SupportedDenoms", single := [], multi := [{ key := "x", val := "y", allowed := [] }] }
    (fun _ _ => some (some (.arr [.str "ukava"])))
    { subspace := "savings", key := "SupportedDenoms", value := some (.arr []) } (by decide +kernel)

/-- The committee module's own proposals (create / change / delete a committee) have no route on the
    committee router built in app.go: a committee cannot edit committees. -/
theorem C17_no_committee_route :
    KV.Gen.committeeRouterKey ∉ KV.Gen.committeeRouterRoutes ∧
    KV.Gen.committeeRouterKey ∈ KV.Gen.govRouterRoutes := by decide +kernel

/-- …hence such a proposal is refused at submission and could not be enacted if it were stored. -/
theorem C17_no_committee_route_refused {Ext C Pm : Type} (env : Env Ext C Pm) (s : St Ext C Pm)
    (hr : env.routes = KV.Gen.committeeRouterRoutes) (c : C) (hc : env.route c = KV.Gen.committeeRouterKey)
    (now : Int) (pr : Addr) (cid : Nat) (p : Proposal C) (hp : p.content = c) :
    (∀ s', submit env s now pr cid c ≠ .ok s') ∧ (∀ s', enact env s p ≠ .ok s') := by
  have hv : ∀ e, validatePub env e c = false := by
    intro e
    unfold validatePub
    rw [hr, hc]
    rw [Bool.eq_false_iff.2 fun hin => C17_no_committee_route.1 (List.contains_iff_mem.1 hin),
      Bool.and_false, Bool.false_and]
  constructor
  · intro s' h
    obtain ⟨_, hs⟩ := submit_ok_shape h
    cases (hv _).symm.trans hs.valid
  · intro s' h
    rcases enact_cases env s p with ⟨_, _, hen, _⟩ | heq
    · cases (hv _).symm.trans (hp ▸ hen.valid)
    · rw [heq] at h; cases h

variable {Ext C Pm : Type}

/-- Submitting and voting touch nothing but the proposal and vote stores: the external state (params,
    balances, …), the committees and the event log are unchanged — the handler only ran as a dry run
    whose result is discarded. -/
theorem C17_submit_vote_no_effect (env : Env Ext C Pm) (s s' : St Ext C Pm) (op : Op Ext C Pm)
    (hop : (∃ now pr cid c, op = .submit now pr cid c) ∨ (∃ now pid v vt, op = .vote now pid v vt))
    (h : step env s op = .ok s') :
    s'.ext = s.ext ∧ s'.committees = s.committees ∧ s'.log = s.log := by
  rcases hop with ⟨now, pr, cid, c, rfl⟩ | ⟨now, pid, v, vt, rfl⟩
  · obtain ⟨_, hs⟩ := submit_ok_shape h
    rw [hs.state]; exact ⟨rfl, rfl, rfl⟩
  · obtain ⟨_, _, hv⟩ := vote_ok_shape h
    rw [hv.state]; exact ⟨rfl, rfl, rfl⟩

/-- A re-vote replaces the earlier vote: after an accepted vote the store holds exactly one vote of that
    voter on that proposal — the option just cast — and every other vote is as before. The tally
    therefore counts the votes cast last. -/
theorem C17_revote_replaces (s s' : St Ext C Pm) (now : Int) (pid : Nat) (voter : Addr) (vt : VoteType)
    (h : vote s now pid voter vt = .ok s') :
    (⟨pid, voter, vt⟩ : Vote) ∈ s'.votes ∧
    (∀ v, v ∈ s'.votes → v.pid = pid → v.voter = voter → v = ⟨pid, voter, vt⟩) ∧
    (∀ v : Vote, ¬ (v.pid = pid ∧ v.voter = voter) → (v ∈ s'.votes ↔ v ∈ s.votes)) := by
  obtain ⟨_, _, hs⟩ := vote_ok_shape h
  rw [hs.state]
  refine ⟨mem_setVote.2 (Or.inr rfl), fun v hv hp hvo => ?_, fun v hne => ?_⟩
  · rcases mem_setVote.1 hv with ⟨_, hne⟩ | rfl
    · exact absurd ⟨hp, hvo⟩ hne
    · rfl
  · rw [mem_setVote]
    exact ⟨fun hv => hv.elim And.left fun e => absurd (e ▸ ⟨rfl, rfl⟩) hne, fun hm => Or.inl ⟨hm, hne⟩⟩

/-- non-vacuity: yes then no by the same voter leaves a single `no` vote -/
example : setVote (setVote [] ⟨1, 0, .yes⟩) ⟨1, 0, .no⟩ = [⟨1, 0, .no⟩] := by decide +kernel

/-- a refused submit / vote changes nothing at all (the message is rolled back) -/
theorem C17_refused_no_effect (env : Env Ext C Pm) (s s' : St Ext C Pm) (op : Op Ext C Pm)
    (h : step env s op = .err) (hr : run env s [op] = some s') : s' = s := by
  simp only [run, h] at hr; cases hr; rfl

/-- Over every history from a well-formed state (e.g. genesis: empty log): every proposal is enacted
    at most once and closed at most once; an enacted proposal is closed (as passed); a closed
    proposal is no longer in the store and has no votes left. -/
theorem C17_enact_once (env : Env Ext C Pm) (s0 s : St Ext C Pm) (ops : List (Op Ext C Pm))
    (h0 : Inv s0) (hr : run env s0 ops = some s) :
    (enactedPids s.log).Nodup ∧ (closedPids s.log).Nodup ∧
    (∀ pid, Event.enacted pid ∈ s.log → Event.closed pid .passed ∈ s.log) ∧
    (∀ e, e ∈ s.log → (∀ p, p ∈ s.proposals → p.id ≠ e.pid) ∧ (∀ v, v ∈ s.votes → v.pid ≠ e.pid)) := by
  have h := inv_run h0 hr
  refine ⟨h.enacted_nodup, h.closed_nodup, h.enacted_closed, ?_⟩
  intro e he
  refine ⟨fun p hp heq => h.open_not_logged p hp e he heq.symm, ?_⟩
  intro v hv heq
  obtain ⟨p, hp, hpv⟩ := h.votes_open v hv
  exact h.open_not_logged p hp e he (by rw [hpv, heq])

/-- non-vacuity: a genesis state (committees, no proposals, empty log) satisfies the invariant -/
example (cs : List (Committee Pm)) (e : Ext) :
    Inv ({ committees := cs, proposals := [], votes := [], nextId := 1, ext := e, log := [] } : St Ext C Pm) := by
  constructor <;> simp [closedPids, enactedPids]

/-- Enactment happens only while a begin block processes that proposal, and only if, on the state at
    that moment, the committee still exists and still has permission, the tally passes, the proposal
    is due (deadline reached, or first-past-the-post), and the handler succeeds; the new external
    state is exactly the handler's result. -/
theorem C17_enact_only_if_passed (env : Env Ext C Pm) (now : Int) (s s' : St Ext C Pm) (p : Proposal C)
    (h : processOne env now s p = .ok s') (hne : s'.log ≠ s.log ++ [.closed p.id .failed])
    (hni : s'.log ≠ s.log ++ [.closed p.id .invalid]) (hch : s'.log ≠ s.log) :
    ∃ com e, getCommittee s p.cid = some com ∧ result env s com p.id = true ∧
      (p.deadline ≤ now ∨ com.fptp = true) ∧
      env.permits com.perms p.content s.ext = true ∧ env.handler p.content s.ext = some e ∧
      s'.ext = e ∧ s'.log = s.log ++ [.enacted p.id, .closed p.id .passed] := by
  cases processOne_inv h with
  | orphan => exact absurd rfl hne
  | waiting => exact absurd rfl hch
  | failed => exact absurd rfl hne
  | invalid => exact absurd rfl hni
  | enacted com e hres hdue hen =>
    exact ⟨com, e, hen.committee, hres, hdue, hen.permitted, hen.handled, rfl, List.append_assoc _ _ _⟩

/-- the passing tally of a member committee: number of recorded votes ≥ threshold · number of members
    (sdk.Dec arithmetic, `Mul` rounding half-even at 10⁻¹⁸) -/
theorem C17_member_tally (env : Env Ext C Pm) (s : St Ext C Pm) (com : Committee Pm) (pid : Nat)
    (hm : com.token = false) :
    result env s com pid = true ↔
      (com.threshold.mul (Dec.ofInt com.members.length)).m ≤ ((votesFor s pid).length : Int) * P := by
  simp only [result, hm, Bool.false_eq_true, ite_false, memberResult, Dec.le, Dec.ofInt]
  exact decide_eq_true_iff

/-- the passing tally of a token committee: quorum first (total voted weight ≥ quorum · supply), then at
    least one yes or no weight counted, then threshold (yes ≥ threshold · (yes + no)); weights are the
    voters' balances at the time of tally -/
theorem C17_token_tally (env : Env Ext C Pm) (s : St Ext C Pm) (com : Committee Pm) (pid : Nat)
    (ht : com.token = true) :
    result env s com pid = true ↔
      (com.quorum.mul (Dec.ofInt (env.supply s.ext com.denom))).m
          ≤ sumBal env s.ext com.denom (votesFor s pid) * P ∧
      0 < sumBal env s.ext com.denom ((votesFor s pid).filter (fun v => v.vt == .yes)) * P
          + sumBal env s.ext com.denom ((votesFor s pid).filter (fun v => v.vt == .no)) * P ∧
      (((Dec.ofInt (sumBal env s.ext com.denom ((votesFor s pid).filter (fun v => v.vt == .yes)))).add
          (Dec.ofInt (sumBal env s.ext com.denom ((votesFor s pid).filter (fun v => v.vt == .no))))).mul com.threshold).m
          ≤ sumBal env s.ext com.denom ((votesFor s pid).filter (fun v => v.vt == .yes)) * P := by
  simp only [result, ht, ite_true, tokenResult, Dec.le, Dec.ofInt, Dec.add]
  by_cases hq : (com.quorum.mul ⟨env.supply s.ext com.denom * P⟩).m ≤ sumBal env s.ext com.denom (votesFor s pid) * P
  · simp only [hq, decide_true, ite_true, true_and, Bool.and_eq_true]
    exact and_congr decide_eq_true_iff decide_eq_true_iff
  · simp only [hq, decide_false, Bool.false_eq_true, ite_false, false_and]

/-- "only on a passing tally": a token-committee tally in which no yes and no no weight was counted —
    everybody abstained, or nobody voted and the quorum is zero — does not pass, whatever the threshold and
    quorum are (repaired defect: the code compared `0 ≥ 0 · threshold` and enacted such proposals). -/
theorem C17_token_tally_needs_votes (env : Env Ext C Pm) (s : St Ext C Pm) (com : Committee Pm) (pid : Nat)
    (ht : com.token = true)
    (h0 : sumBal env s.ext com.denom ((votesFor s pid).filter (fun v => v.vt == .yes))
        + sumBal env s.ext com.denom ((votesFor s pid).filter (fun v => v.vt == .no)) = 0) :
    result env s com pid = false := by
  cases hr : result env s com pid with
  | false => rfl
  | true =>
    have h2 := ((C17_token_tally env s com pid ht).1 hr).2.1
    rw [← Int.add_mul, h0, Int.zero_mul] at h2
    exact absurd h2 (Int.lt_irrefl 0)

/-- non-vacuity: a token committee with quorum 0.1 and threshold 0.5; holders of 60 of 100 tokens abstain
    (quorum met) — the tally does not pass; with one holder of 30 voting yes instead it passes -/
example :
    let env : Env Unit Unit Unit := {
      route := (fun _ => "r"), routes := ["r"], validBasic := (fun _ => true),
      permits := (fun _ _ _ => true), handler := (fun _ e => some e),
      bal := (fun _ _ a => if a = 0 then 30 else if a = 1 then 30 else 40), supply := (fun _ _ => 100) }
    let com : Committee Unit := {
      id := 1, token := true, members := [0], perms := (), threshold := ⟨P / 2⟩,
      quorum := ⟨P / 10⟩, duration := 0, fptp := true, denom := "hard" }
    let s (vt : VoteType) : St Unit Unit Unit := {
      committees := [com], proposals := [⟨7, 1, 10, ()⟩],
      votes := [⟨7, 0, vt⟩, ⟨7, 1, .abstain⟩], nextId := 8, ext := (), log := [] }
    result env (s .abstain) com 7 = false ∧ result env (s .yes) com 7 = true := by
  decide +kernel

/-- no operation other than the begin block enacts anything -/
theorem C17_enact_only_by_begin_block (env : Env Ext C Pm) (s s' : St Ext C Pm) (op : Op Ext C Pm)
    (hnb : ∀ now, op ≠ .beginBlock now) (h : step env s op = .ok s') :
    enactedPids s'.log = enactedPids s.log := by
  cases op with
  | submit now pr cid c =>
    obtain ⟨_, hs⟩ := submit_ok_shape h
    rw [hs.state]
  | vote now pid v vt =>
    obtain ⟨_, _, hv⟩ := vote_ok_shape h
    rw [hv.state]
  | beginBlock now => exact absurd rfl (hnb now)
  | setCommittee com => cases h; exact closeAll_log_enacted _ s
  | deleteCommittee cid => cases h; exact closeAll_log_enacted _ s
  | ext f => cases h; rfl

/-- Timing, message side: a vote at or after the deadline is refused. -/
theorem C17_timing_vote_refused_at_deadline (s : St Ext C Pm) (now : Int) (pid : Nat) (voter : Addr)
    (vt : VoteType) (pr : Proposal C) (hp : getProposal s pid = some pr) (hd : pr.deadline ≤ now) :
    vote s now pid voter vt = .err := by
  unfold vote
  rw [hp]
  simp only [ge_iff_le, hd, ite_true]

/-- Timing, begin-block side, for one proposal of an existing committee: it is closed in this block
    iff the deadline is reached or (first-past-the-post and the tally passes now); otherwise it is left
    exactly as it was. -/
theorem C17_timing (env : Env Ext C Pm) (now : Int) (s s' : St Ext C Pm) (p : Proposal C)
    (com : Committee Pm) (hc : getCommittee s p.cid = some com) (h : processOne env now s p = .ok s') :
    (p.deadline ≤ now ∨ (com.fptp = true ∧ result env s com p.id = true) → ∀ q, q ∈ s'.proposals → q.id ≠ p.id) ∧
    (¬ (p.deadline ≤ now ∨ (com.fptp = true ∧ result env s com p.id = true)) → s' = s) := by
  have hsome : ∀ {com'}, getCommittee s p.cid = some com' → com' = com :=
    fun h' => Option.some.inj (h'.symm.trans hc)
  cases processOne_inv h with
  | orphan hc' => rw [hc] at hc'; cases hc'
  | waiting com' hc' hearly hno =>
    cases hsome hc'
    refine ⟨fun hcond => ?_, fun _ => rfl⟩
    rcases hcond with hdue | ⟨hf, hres⟩
    · exact absurd hdue (Int.not_le.2 hearly)
    · rw [hno hf] at hres; cases hres
  | failed com' hc' hdue => exact ⟨fun _ => close_removes, fun hn => absurd (Or.inl hdue) hn⟩
  | invalid com' hc' hres hdue =>
    cases hsome hc'
    exact ⟨fun _ => close_removes, fun hn => absurd (hdue.imp_right fun hf => ⟨hf, hres⟩) hn⟩
  | enacted com' e hres hdue hen =>
    cases hsome hen.committee
    exact ⟨fun _ => close_removes, fun hn => absurd (hdue.imp_right fun hf => ⟨hf, hres⟩) hn⟩

/-- Whole begin block: a proposal whose deadline is reached is gone after the block; a proposal of a
    committee that tallies at the deadline survives every earlier block untouched — so it can only be
    closed (and enacted) by the first begin block with time ≥ deadline. -/
theorem C17_timing_block (env : Env Ext C Pm) (now : Int) (s s' : St Ext C Pm) (hi : Inv s)
    (h : beginBlock env now s = .ok s') (p : Proposal C) (hp : p ∈ s.proposals) :
    (p.deadline ≤ now → ∀ q, q ∈ s'.proposals → q.id ≠ p.id) ∧
    (∀ com, getCommittee s p.cid = some com → com.fptp = false → now < p.deadline → p ∈ s'.proposals) := by
  constructor
  · intro hdue
    exact processAll_due_closed hp hdue h
  · intro com hc hf hearly
    exact processAll_early_kept hp hi.ids_nodup hp hc hf hearly h

/-- The begin block never panics and never fails — whatever the handlers do: a proposal whose
    handler fails at enactment time (or whose committee lost the permission) is closed with outcome
    `Invalid`, nothing of it applied. The "unexpected handler error" panic in `enactProposal` is
    unreachable because the dry run has just succeeded on the same state. -/
theorem C17_invalid_closed_not_halting (env : Env Ext C Pm) (now : Int) (s : St Ext C Pm) :
    beginBlock env now s ≠ .panic ∧ beginBlock env now s ≠ .err ∧
    ∀ p, enact env s p = .err → enactAndClose env s p = .ok (close s p.id .invalid) := by
  rw [beginBlock, processAll_eq]
  refine ⟨nofun, nofun, fun p he => ?_⟩
  unfold enactAndClose; rw [he]

/-- Sequential semantics of a begin block in which several proposals finish: for EVERY proposal `p` of the block
    (`pre` = the proposals with smaller ids, `post` = the later ones) there is the state `si` left by processing `pre`
    — in particular by the enactments before `p` in the same block — and `p` is decided on `si`, not on the state at
    the start of the block: it is left alone, closed without effect, or enacted, and it is enacted only if on `si` its
    committee exists and has permission for it and its handler runs, the handler's result on `si` being the new
    external state.  So when the committee has lost the permission on `si`, or the handler fails on `si` — because an
    earlier proposal of the same block used up what it needs — nothing of `p` is applied (and the block still neither
    panics nor fails: `C17_invalid_closed_not_halting`). -/
theorem C17_sequential_enactment (env : Env Ext C Pm) (now : Int) (s s' : St Ext C Pm)
    (pre post : List (Proposal C)) (p : Proposal C) (hps : s.proposals = pre ++ p :: post)
    (h : beginBlock env now s = .ok s') :
    ∃ si si', processAll env now s pre = .ok si ∧ processOne env now si p = .ok si' ∧
      processAll env now si' post = .ok s' ∧
      (si' = si ∨ (∃ o, o ≠ Outcome.passed ∧ si' = close si p.id o) ∨
        ∃ com e, getCommittee si p.cid = some com ∧ env.permits com.perms p.content si.ext = true ∧
          env.handler p.content si.ext = some e ∧
          si' = close { si with ext := e, log := si.log ++ [.enacted p.id] } p.id .passed) ∧
      (((∀ com, getCommittee si p.cid = some com → env.permits com.perms p.content si.ext = false) ∨
          env.handler p.content si.ext = none) →
        si'.ext = si.ext ∧ Event.enacted p.id ∉ si'.log.drop si.log.length) := by
  unfold beginBlock at h
  rw [hps] at h
  obtain ⟨si, si', ha, hb, hc⟩ := processAll_split h
  have he := processOne_effect hb
  refine ⟨si, si', ha, hb, hc, he, ?_⟩
  intro hbad
  rcases he with rfl | ⟨o, _, rfl⟩ | ⟨com, e, hcom, hperm, hh, _⟩
  · exact ⟨rfl, by rw [List.drop_length]; exact List.not_mem_nil⟩
  · exact ⟨rfl, by rw [close, List.drop_left]; exact fun hin => nomatch List.mem_singleton.1 hin⟩
  · rcases hbad with hnp | hnh
    · rw [hnp com hcom] at hperm; cases hperm
    · rw [hnh] at hh; cases hh

/-- non-vacuity (the shape of the seeded defect this statement excludes): the external state is a lend position of
    1000; two proposals to withdraw it all finish in the same block with passing tallies; the handler fails when
    nothing is left.  The first is enacted, the second — valid on the state at the start of the block — is closed as
    Invalid on the state the first one left, and the block does not panic. -/
example :
    let env : Env Nat Nat Unit := {
      route := (fun _ => "r"), routes := ["r"], validBasic := (fun _ => true),
      permits := (fun _ _ _ => true),
      handler := (fun amt dep => if dep = 0 then none else some (dep - min amt dep)),
      bal := (fun _ _ _ => 0), supply := (fun _ _ => 0) }
    let com : Committee Unit := {
      id := 1, token := false, members := [0], perms := (), threshold := ⟨P / 2⟩,
      quorum := ⟨0⟩, duration := 10, fptp := false, denom := "" }
    let s : St Nat Nat Unit := {
      committees := [com], proposals := [⟨1, 1, 10, 1000⟩, ⟨2, 1, 10, 2000⟩],
      votes := [⟨1, 0, .yes⟩, ⟨2, 0, .yes⟩], nextId := 3, ext := 1000, log := [] }
    (env.handler 1000 s.ext).isSome = true ∧ (env.handler 2000 s.ext).isSome = true ∧
    (match beginBlock env 10 s with
      | .ok s' => decide (s'.ext = 0) && decide (s'.log = [.enacted 1, .closed 1 .passed, .closed 2 .invalid]) &&
          s'.proposals.isEmpty
      | _ => false) = true := by
  decide +kernel

/-- a failing handler (or a missing permission) at enactment time does give `.err` -/
theorem C17_handler_failure_is_invalid (env : Env Ext C Pm) (s : St Ext C Pm) (p : Proposal C)
    (h : env.handler p.content s.ext = none) : enact env s p = .err := by
  rcases enact_cases env s p with ⟨_, _, hen, _⟩ | heq
  · cases h.symm.trans hen.handled
  · exact heq

/-- …and a handler that would fail at submission makes the submission fail. -/
theorem C17_handler_failure_rejected_at_submit (env : Env Ext C Pm) (s : St Ext C Pm) (now : Int)
    (pr : Addr) (cid : Nat) (c : C) (h : env.handler c s.ext = none) : ∀ s', submit env s now pr cid c ≠ .ok s' := by
  intro s' hs
  obtain ⟨_, hsub⟩ := submit_ok_shape hs
  cases (validatePub_of_handler_none h).symm.trans hsub.valid

/-! ## source tie (regenerated)

    `GoFn.Committee.*` (Generated/FnCommittee.lean) is regenerated on every run from the Go source of
    x/committee/types/committee.go by the function translator (tools/extract/fn*.go).
    Proof: Proofs/TieFnCommittee.lean. -/

/-- `Proposal.HasExpiredBy(now)` is `now ≥ deadline` — the deadline test the model's `vote` / close paths write
    inline ("all votes must be cast before deadline, those cast at time == deadline are not valid") -/
theorem C17_source_tie_HasExpiredBy (id cid deadline now : Int) :
    GoFn.Committee.HasExpiredBy_translated = true ∧
    GoFn.Committee.HasExpiredBy ⟨id, cid, deadline⟩ now = Go.R.ok (decide (now ≥ deadline)) :=
  TieFn.committee_HasExpiredBy id cid deadline now

end KV.C17
