/-
  C02 — Blocks always process and registered invariants hold at every height.

  "For every state reachable through accepted transactions, begin-block and end-block processing completes
   without aborting, so user activity cannot halt the chain. After every block every registered invariant
   (Kava's module invariants and the bank, staking and distribution invariants they feed) holds, so nodes
   that assert invariants periodically never halt and an invariant-verification transaction never finds one
   broken."

  Two obligation tables regenerated from the source on every run (tools/extract/c02.go):
    * every `panic(` reachable from a begin/end blocker (Generated/C02PanicSites.lean) must be a reviewed site:
      codec round trip, configuration excluded by validation, unreachable under the owning module's proved
      invariant (C03/C04/C06/C09/C19 carry those theorems), a documented finding, or "monitored only";
    * every invariant route registered with the crisis keeper (Generated/C02Wiring.lean) must be covered by the
      inductive-invariant theorems of its owning property (C03, C07, C10, C11).
  The full statement is FALSE on the current code at one reviewed site (F11 kavadist partner rewards, a
  configuration); the F10 site (issuance seizure of locked coins) sits in a blocker that is never called;
  F2 (cdp debt split) and F12 (kavadist nil amount on a zero mint) have been fixed in /repo and are now
  theorems. For F2, F11 and F12 the arithmetic is transcribed and the theorem / counterexample proved here; the witnesses are replayed on the real app by harness/cmd/c02.
  PARTIAL: SDK invariants (bank, staking, distribution), the SDK's own begin/end blockers, gas, and the
  modules' full transition systems are not modelled here; they are explored by the history runner, which
  asserts every registered invariant after every EndBlock and treats any begin/end-block panic as a violation.

  Only property statements live here; helper lemmas are in KavaVerif/Proofs/BlockSafety.lean.
-/
import KavaVerif.Proofs.BlockSafety
set_option linter.unusedSimpArgs false
set_option linter.unusedVariables false

namespace KV.Safe
open KV KV.Gen.C02

/-- "errors in block hooks are fatal by construction, so they must be unreachable": every panic reachable
    (call depth ≤ 2) from a Kava begin/end blocker has been reviewed. A new `panic(` or a new escalated call
    changes the generated table and this stops checking. -/
theorem C02_all_panic_sites_reviewed : ∀ s ∈ panicSites, reviewed s = true :=
  sites_reviewed_and_findings.1

/-- non-vacuity: the translator found the blockers and the sites -/
theorem C02_sites_nonempty :
    40 ≤ panicSites.length ∧ callDepth = 2 ∧
    ∀ b ∈ ["auction.BeginBlocker", "bep3.BeginBlocker", "cdp.BeginBlocker", "committee.BeginBlocker",
           "community.BeginBlocker", "hard.BeginBlocker", "incentive.BeginBlocker",
           "kavadist.BeginBlocker", "pricefeed.EndBlocker"], b ∈ wiredBlockers := by decide +kernel

/-- exactly one reviewed site is NOT discharged: it fires on a reachable configuration (finding F11).
    The prose property is false at these sites; see the counterexamples below and findings/C02-*.md. -/
theorem C02_undischarged_sites_are_the_known_findings :
    findingSites = [("x/kavadist", "k.MintPeriodInflation")] :=
  sites_reviewed_and_findings.2

/-- DESIGN F10 settled: the issuance begin blocker (seizure of blocked addresses, which would panic on
    vesting-locked coins) is defined but never called — `AppModule.BeginBlock` of x/issuance is empty. It is
    the only such blocker; if it is ever wired, its panic sites lose their `deadCode` review and
    `C02_all_panic_sites_reviewed` fails. -/
theorem C02_unwired_blockers : unwiredBlockers = ["issuance.BeginBlocker"] := rfl

/-- "module accounting predicates registered with the crisis keeper": the module manager hands the routes to
    the crisis keeper, and every registered Kava route is covered by its owning property's invariant theorems -/
theorem C02_all_routes_covered :
    crisisRegistration = true ∧ ∀ r ∈ invariantRoutes, routeCovered r = true := by decide +kernel

/-- the only routes defined but not registered are auction's three (reported in evidence; C06 proves them) -/
theorem C02_unregistered_routes_known : ∀ r ∈ unregisteredRoutes, (r.1, r.2.1) ∈ knownUnregistered := by
  simp [unregisteredRoutes, knownUnregistered]

/-- fixed block-hook order the modules rely on: committee enacts parameter changes before any Kava module
    runs, auctions close before cdp nets debt and starts new ones, kavadist mints before incentive accrues,
    and prices are set in the end blocker after gov -/
theorem C02_blocker_order :
    before beginBlockerOrder "committeetypes.ModuleName" "cdptypes.ModuleName" = true ∧
    before beginBlockerOrder "auctiontypes.ModuleName" "cdptypes.ModuleName" = true ∧
    before beginBlockerOrder "kavadisttypes.ModuleName" "incentivetypes.ModuleName" = true ∧
    before beginBlockerOrder "cdptypes.ModuleName" "incentivetypes.ModuleName" = true ∧
    before endBlockerOrder "govtypes.ModuleName" "pricefeedtypes.ModuleName" = true ∧
    before initGenesisOrder "pricefeedtypes.ModuleName" "cdptypes.ModuleName" = true ∧
    before initGenesisOrder "cdptypes.ModuleName" "incentivetypes.ModuleName" = true ∧
    before initGenesisOrder "banktypes.ModuleName" "precisebanktypes.ModuleName" = true := by decide +kernel

/-- The debt shares handed to the per-deposit collateral auctions add up to exactly the debt the liquidator
    received in `SeizeCollateral` — for every deposit set and every debt — so the auctions can always be
    funded and `LiquidateCdps` cannot fail for lack of debt coins. -/
theorem C02_cdp_debt_split_exact (deps : List Int) (debt : Int) (h : deps ≠ []) :
    sumInts (debtShares deps debt) = debt := by
  unfold debtShares
  exact splitCapped_sum h

/-- non-vacuity on the witness of F2: two equal deposits, debt 10000003 -/
example : debtShares [3000000, 3000000] 10000003 = [5000002, 5000001] := by decide

/-- with a single deposit the share is the debt -/
theorem C02_cdp_debt_split_single (d debt : Int) : debtShares [d] debt = [debt] := by
  unfold debtShares splitCapped; rfl

/-- what the fix repaired (finding F2, reproduced on the unfixed tree as a begin-block panic "spendable
    balance 5000001debt is smaller than 5000002debt"): independently rounded shares can exceed the debt -/
theorem C02_cdp_debt_split_before_fix_witness :
    debtSharesBeforeFix [3000000, 3000000] 10000003 = [5000002, 5000002] ∧
    sumInts (debtSharesBeforeFix [3000000, 3000000] 10000003) > 10000003 := by decide

/-- F12, after the fix in /repo ("return a well-formed zero coin"): accumulating the coin returned by
    `mintInflationaryCoins` never panics, whatever the amount (zero when two blocks share a second) -/
theorem C02_kavadist_mint_step_never_panics (minted amount : Int) :
    infraStep minted amount = .ok (minted + amount) := by
  by_cases h : amount = 0 <;> simp [infraStep, mintResult, infraAccumulate, h]

example : infraStep 10 0 = .ok 10 := by decide

/-- F11, FULL STATEMENT (false): "paying the partners never panics",
      `∀ minted elapsed partners, 0 ≤ elapsed → (∀ r ∈ partners, 0 ≤ r) → payPartners minted elapsed partners ≠ .panic`.
    Counterexample: 100 coins minted in 6 s, one partner at 50 per second. Params validation does not relate
    partner rewards to the infrastructure inflation, so this is a reachable configuration. -/
theorem C02_kavadist_partner_rewards_counterexample :
    ¬ (∀ (minted elapsed : Int) (partners : List Int), 0 ≤ elapsed → (∀ r ∈ partners, 0 ≤ r) →
        payPartners minted elapsed partners ≠ .panic) := by
  intro h
  exact h 100 6 [50] (by decide) (by decide) (by decide)

/-- F11 PARTIAL: when the minted amount covers all partner rewards for the elapsed time, the partner loop
    succeeds and hands the rest to the core-reward loop -/
theorem C02_kavadist_partner_rewards_partial (elapsed : Int) (partners : List Int) (minted : Int)
    (h : sumInts (partners.map (· * elapsed)) ≤ minted) (hn : ∀ r ∈ partners, 0 ≤ r * elapsed) :
    payPartners minted elapsed partners = .ok (minted - sumInts (partners.map (· * elapsed))) := by
  induction partners generalizing minted with
  | nil => simp [payPartners, sumInts]
  | cons r rest ih =>
    rw [List.map_cons, sumInts_cons] at h ⊢
    have hn' : ∀ q ∈ rest, 0 ≤ q * elapsed := fun q hq => hn q (List.mem_cons_of_mem _ hq)
    have hrest := sumInts_nonneg (List.forall_mem_map.mpr hn')
    rw [payPartners, if_neg (by omega), ih _ (by omega) hn']
    congr 1; omega

example : payPartners 1000 6 [50, 20] = .ok 580 := by decide

end KV.Safe
