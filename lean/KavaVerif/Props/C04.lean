/-
  C04 — CDP: collateral custody, stablecoin/debt accounting and indexes stay coherent.

  "At all times the CDP module account holds exactly the sum of all recorded deposits of each collateral,
   each CDP's collateral equals the sum of its deposits, and each CDP is indexed exactly once by owner and
   exactly once under its current collateral-to-debt ratio. The stable asset issued by the module never
   exceeds the internal debt coin held by the cdp, liquidator and auction module accounts, the per-collateral
   total principal equals the sum of CDP debt up to interest rounding, and closing a fully repaid CDP returns
   to every depositor exactly what they deposited. Failed operations change nothing."

  Model: KavaVerif/Model/Cdp.lean — create, deposit (owner / third party), withdraw, draw, repay (partial,
  exact, over-payment), keeper liquidation, begin block (accumulate interest → bulk sync of risky CDPs →
  block liquidation → net surplus and debt, debt / surplus auction starts), price changes; several
  collateral types (possibly sharing a denom).  `CalculateInterestFactor` is a parameter of `beginBlock`.
  The invariant `Inv` (KavaVerif/Proofs/CdpInv.lean) is proved inductive over *all* operation histories;
  the clauses of the prose are read off it below.  Helper lemmas live in KavaVerif/Proofs/Cdp*.lean.
-/
import KavaVerif.Proofs.CdpExample
import KavaVerif.Proofs.CdpGov
import KavaVerif.Proofs.CdpMore
import KavaVerif.Proofs.CdpDrift
import KavaVerif.Generated.CdpFacts
import KavaVerif.Proofs.TieFnCdp
set_option linter.unusedVariables false

namespace KV.Cdp
open KV

/-! ### source tables (regenerated from /repo on every run) -/

/-- The code paths that rewrite the ratio index are the ones the model transcribes: the helper path is used
    by AddCdp, AddPrincipal, DepositCollateral, RepayPrincipal, SeizeCollateral, SynchronizeInterest,
    WithdrawCollateral and payoutKeeperLiquidationReward; the only hand-rolled path is
    `SynchronizeInterestForRiskyCDPs` (`calculateCollateralRatio`); the five user operations synchronise
    interest first; each deposit's share of the debt is rounded with `RoundInt` and then capped at the remaining
    debt, the last deposit taking the remainder (7 assignments in `AuctionCollateral` since bfd342e03).  A source edit that adds or removes a path regenerates the table
    and re-opens this obligation. -/
theorem C04_source_index_paths :
    KV.Gen.cdpBulkRatioCallers = ["SynchronizeInterestForRiskyCDPs"] ∧
    KV.Gen.cdpRatioIndexHelperCallers = ["AddCdp", "AddPrincipal", "DepositCollateral", "RepayPrincipal",
      "SeizeCollateral", "SetCdpAndCollateralRatioIndex", "SynchronizeInterest", "UpdateCdpAndCollateralRatioIndex",
      "WithdrawCollateral", "payoutKeeperLiquidationReward", "removeOldCollateralRatioIndex"] ∧
    KV.Gen.cdpSyncCallers = ["AddPrincipal", "AttemptKeeperLiquidation", "DepositCollateral", "RepayPrincipal",
      "WithdrawCollateral"] ∧
    KV.Gen.cdpDebtShareRounding = "RoundInt" ∧ KV.Gen.cdpAuctionCollateralAssignments = 7 :=
  ⟨rfl, rfl, rfl, rfl, rfl⟩

/-! ### the invariant holds along every history -/

/-- a state without CDPs satisfies the invariant (genesis) -/
theorem C04_genesis_inv (E : Env) (g : Int) (s : St) (h1 : s.cdp = fun _ => none) (h2 : s.idx = [])
    (h3 : s.own = fun _ => []) (h4 : s.dep = fun _ _ => 0) (h5 : ∀ d, 2 ≤ d → s.bal MCDP d = 0)
    (h6 : s.supply USDX - g ≤ debtHeld s) : Inv E g s := by
  refine ⟨?_, ?_, ?_, h6⟩
  · rw [h1, h2]
    refine ⟨?_, List.nodup_nil, List.Pairwise.nil⟩
    intro e; simp
  · rw [h1, h3]
    refine ⟨?_, fun _ => List.nodup_nil⟩
    intro o id; simp
  · rw [h1, h4]
    refine ⟨fun id c h => by simp at h, fun _ _ _ => rfl, fun _ _ _ => rfl, ?_, fun _ _ => rfl⟩
    intro d hd
    rw [h5 d hd]
    exact (sumAcc_zero _ _ (fun _ _ => rfl)).symm

/-- `Inv4` is preserved by every successful operation — create, deposit, withdraw, draw, repay, keeper
    liquidation, begin block, price change — and failed operations leave the state as it was; hence it holds
    after every history.  (`OpOk`: depositors / creators are accounts of the universe, keepers are user accounts.) -/
theorem C04_invariant_all_histories {E : Env} {g : Int} (hW : WF E) (s0 : St) (ops : List Op)
    (h0 : Inv E g s0) (hops : ∀ op, op ∈ ops → OpOk E op) : Inv E g (run E s0 ops) :=
  run_inv hW ops s0 h0 hops

/-- one step (used by the harness-independent reading "after every operation") -/
theorem C04_invariant_step {E : Env} {g : Int} {s s' : St} {op : Op} (hW : WF E) (hI : Inv E g s) (hop : OpOk E op)
    (h : step E s op = .ok s') : Inv E g s' := step_inv hW hI hop h

/-- non-vacuity: the example world is well formed, its genesis satisfies the invariant, every operation of
    the history succeeds on the way and the CDP exists at the end with collateral 34 -/
example : WF exEnv ∧ Inv exEnv 200000000 exGenesis ∧ (∀ op, op ∈ exHistory → OpOk exEnv op) ∧
    ((run exEnv exGenesis exHistory).cdp 1).map (·.coll) = some 3400000000 := by
  refine ⟨exEnv_wf, C04_genesis_inv _ _ _ rfl rfl rfl rfl (fun _ _ => by simp [exGenesis]) (by decide +kernel), ?_, by decide +kernel⟩
  intro op hop
  simp only [exHistory, List.mem_cons, List.mem_nil_iff, or_false] at hop
  rcases hop with rfl | rfl | rfl | rfl | rfl | rfl <;> simp [OpOk, exEnv]

/-! ### the clauses of the prose, read off the invariant -/

/-- "the CDP module account holds exactly the sum of all recorded deposits of each collateral" -/
theorem C04_custody {E : Env} {g : Int} {s : St} (hI : Inv E g s) (d : Denom) (hd : 2 ≤ d) :
    s.bal MCDP d = depositsIn E s d := by
  rw [hI.coll.2.2.2.1 d hd]
  unfold depositsIn
  apply sumAcc_congr
  intro id _
  cases hc : s.cdp id with
  | none => simp only [collOf, hc]
  | some c =>
    simp only [collOf, hc]
    split
    · exact hI.coll.1 id c hc
    · rfl

/-- there are no deposit records outside CDPs: a deposit belongs to an existing CDP and a known account -/
theorem C04_no_orphan_deposits {E : Env} {g : Int} {s : St} (hI : Inv E g s) (id : Nat) (a : Acct)
    (h : s.dep id a ≠ 0) : (s.cdp id).isSome = true ∧ a ∈ E.accts := by
  refine ⟨?_, mem_accts_of_dep hI.coll h⟩
  cases hc : s.cdp id with
  | none => exact absurd (hI.coll.2.1 id hc a) h
  | some c => rfl

/-- "each CDP's collateral equals the sum of its deposits" (also after the keeper-reward deduction,
    which changes one deposit and the CDP's collateral together — see `liquidate_inv`) -/
theorem C04_cdp_collateral_eq_deposits {E : Env} {g : Int} {s : St} (hI : Inv E g s) (id : Nat) (c : Cdp)
    (h : s.cdp id = some c) : c.coll = sumAcc E.accts (s.dep id) := hI.coll.1 id c h

/-- "each CDP is indexed exactly once by owner": the owner's id list contains `id` iff `id` is a CDP of that
    owner, and no list has duplicates -/
theorem C04_owner_index_exact {E : Env} {g : Int} {s : St} (hI : Inv E g s) :
    (∀ o id, id ∈ s.own o ↔ ∃ c, s.cdp id = some c ∧ c.owner = o) ∧ ∀ o, (s.own o).Nodup := hI.own

/-- "… and exactly once under its current collateral-to-debt ratio": the ratio index is exactly the image of
    the CDP table under `cdp ↦ (type, sortable ratio of its collateral and total debt, id)`, without
    duplicates, in store order -/
theorem C04_ratio_index_exact {E : Env} {g : Int} {s : St} (hI : Inv E g s) :
    (∀ e : Entry, e ∈ s.idx ↔ ∃ c, s.cdp e.2.2 = some c ∧ e.1 = c.ty ∧ e.2.1 = keyOf E c) ∧
    s.idx.Nodup ∧ Sorted s.idx := hI.idx

/-- the two separately written routines that compute the index key — the helper path
    (`CalculateCollateralToDebtRatio`) and the bulk interest-sync path (`calculateCollateralRatio`) — agree -/
theorem C04_ratio_index_paths_agree {E : Env} {cp : CollParam} {c : Cdp} (h : E.P.colls[c.ty]? = some cp) :
    keyBulk E cp c = keyOf E c := keyBulk_eq h

/-- "The stable asset issued by the module never exceeds the internal debt coin held by the cdp, liquidator
    and auction module accounts" (`g` = usdx supply at genesis) -/
theorem C04_stable_le_debt {E : Env} {g : Int} {s : St} (hI : Inv E g s) :
    s.supply USDX - g ≤ s.bal MCDP DEBT + s.bal MLIQ DEBT + s.bal MAUC DEBT := hI.debt

/-- "closing a fully repaid CDP returns to every depositor exactly what they deposited": if a repay makes the
    CDP disappear, every account's balance of the collateral denom grows by exactly its recorded deposit, and
    the CDP's deposit records, owner-index entry and ratio-index entries are gone -/
theorem C04_close_returns_deposits {E : Env} {g : Int} {now : Int} {s s' : St} {owner : Acct} {ty : Nat} {pay : Int}
    {pd : Denom} {id : Nat} {c0 : Cdp} {cp : CollParam}
    (hW : WF E) (hI : Inv E g s) (hcp : E.P.colls[ty]? = some cp) (hf : findCdp s owner ty = some (id, c0))
    (h : repay E now s owner ty pay pd = .ok s') (hgone : s'.cdp id = none) :
    (∀ a, a ∈ E.accts → s'.bal a cp.denom = s.bal a cp.denom + s.dep id a) ∧
    (∀ a, s'.dep id a = 0) ∧ (∀ o, id ∉ s'.own o) ∧ (∀ e, e ∈ s'.idx → e.2.2 ≠ id) := by
  have hI' := repay_inv hW hI h
  refine ⟨repay_close_balances hW hcp hf h hgone, hI'.coll.2.1 id hgone, ?_, ?_⟩
  · intro o hin
    obtain ⟨c, hc, -⟩ := (hI'.own.1 o id).1 hin
    rw [hgone] at hc; cases hc
  · intro e he hid
    obtain ⟨c, hc, -, -⟩ := (hI'.idx.1 e).1 he
    rw [hid, hgone] at hc; cases hc

/-- non-vacuity: the closing over-payment in the example world returns both deposits -/
example : let s := run exEnv exGenesis exHistory
    let s' := apply exEnv s (.repay 200 3 0 20000000 0)
    (s.cdp 1).isSome = true ∧ (s'.cdp 1).isNone = true ∧
    s'.bal 3 2 = s.bal 3 2 + s.dep 1 3 ∧ s'.bal 4 2 = s.bal 4 2 + s.dep 1 4 ∧ s.dep 1 4 = 400000000 := by
  decide +kernel

/-! ### "the per-collateral total principal equals the sum of CDP debt up to interest rounding"

  `sumDebt s ty` = Σ (principal + accumulated fees) over the CDPs of type `ty`.  The theorems below give, for
  every operation, how the total principal and the debt side move.  They move by the same amounts except for
  the interest terms: an accrual adds `round(f·T) − T` to the total (one half-even rounding, error ≤ ½), every
  synchronisation of a CDP (`SynchronizeInterest` inside the user operations, one iteration of the bulk loop)
  adds `round(d·quo(G, g)) − d` to that CDP — that is the "interest rounding" of the prose — and the clamp of
  `DecrementTotalPrincipal` at zero can only bind when the total is already below the debt side.
  What is NOT proved is a closed bound on the accumulated difference over a history (it depends on the
  amounts: each `quo(G, g)` carries a relative error of 10⁻¹⁸); the correspondence check evaluates
  `|total − Σ synchronised debt| ≤ #roundings` on every real post-state instead. -/

/-- create: both sides grow by the principal (no interest term) -/
theorem C04_total_principal_create {E : Env} {g : Int} {now : Int} {s s' : St} {owner : Acct} {ty : Nat} {c : Int}
    {cd : Denom} {p : Int} {pd : Denom} (hI : Inv E g s) (h : create E now s owner ty c cd p pd = .ok s') :
    (∀ t, s'.tprin t = s.tprin t + (if t = ty then p else 0)) ∧
    ∀ t, sumDebt s' t = sumDebt s t + (if t = ty then p else 0) := create_drift h

/-- deposit: total untouched; debt side + the interest synchronised on the CDP -/
theorem C04_total_principal_deposit {E : Env} {g : Int} {now : Int} {s s' : St} {owner depositor : Acct} {ty : Nat}
    {c : Int} {cd : Denom} (hI : Inv E g s) (h : deposit E now s owner depositor ty c cd = .ok s') :
    ∃ id c0 s1 c1, findCdp s owner ty = some (id, c0) ∧ syncInterest E now s id c0 = .ok (s1, c1) ∧
      s'.tprin = s.tprin ∧ ∀ t, sumDebt s' t = sumDebt s t + (if t = ty then c1.fees - c0.fees else 0) :=
  deposit_drift hI h

/-- withdraw: as deposit -/
theorem C04_total_principal_withdraw {E : Env} {g : Int} {now : Int} {s s' : St} {owner depositor : Acct} {ty : Nat}
    {c : Int} {cd : Denom} (hI : Inv E g s) (h : withdraw E now s owner depositor ty c cd = .ok s') :
    ∃ id c0 s1 c1, findCdp s owner ty = some (id, c0) ∧ syncInterest E now s id c0 = .ok (s1, c1) ∧
      s'.tprin = s.tprin ∧ ∀ t, sumDebt s' t = sumDebt s t + (if t = ty then c1.fees - c0.fees else 0) :=
  withdraw_drift hI h

/-- draw: both sides + the drawn amount; debt side + the synchronised interest -/
theorem C04_total_principal_draw {E : Env} {g : Int} {now : Int} {s s' : St} {owner : Acct} {ty : Nat} {p : Int}
    {pd : Denom} (hI : Inv E g s) (h : draw E now s owner ty p pd = .ok s') :
    ∃ id c0 s1 c1, findCdp s owner ty = some (id, c0) ∧ syncInterest E now s id c0 = .ok (s1, c1) ∧
      (∀ t, s'.tprin t = s.tprin t + (if t = ty then p else 0)) ∧
      ∀ t, sumDebt s' t = sumDebt s t + (if t = ty then c1.fees - c0.fees + p else 0) := draw_drift hI h

/-- repay (partial, exact or over-payment; CDP updated or closed): with `amt` = the fee + principal payment
    actually taken, total − `amt` (clamped at 0), debt side + synchronised interest − `amt` -/
theorem C04_total_principal_repay {E : Env} {g : Int} {now : Int} {s s' : St} {owner : Acct} {ty : Nat} {pay : Int}
    {pd : Denom} (hI : Inv E g s) (h : repay E now s owner ty pay pd = .ok s') :
    ∃ id c0 s1 c1, findCdp s owner ty = some (id, c0) ∧ syncInterest E now s id c0 = .ok (s1, c1) ∧
      (∀ t, s'.tprin t = if t = ty then
          (if s.tprin ty - ((calcPayment (c1.prin + c1.fees) c1.fees pay).1 + (calcPayment (c1.prin + c1.fees) c1.fees pay).2) < 0 then 0
           else s.tprin ty - ((calcPayment (c1.prin + c1.fees) c1.fees pay).1 + (calcPayment (c1.prin + c1.fees) c1.fees pay).2))
        else s.tprin t) ∧
      ∀ t, sumDebt s' t = sumDebt s t + (if t = ty then c1.fees - c0.fees -
          ((calcPayment (c1.prin + c1.fees) c1.fees pay).1 + (calcPayment (c1.prin + c1.fees) c1.fees pay).2) else 0) :=
  repay_drift hI h

/-- keeper liquidation: total − synchronised debt of the CDP (clamped at 0); the CDP's recorded debt leaves the
    debt side (i.e. + synchronised interest − synchronised debt) -/
theorem C04_total_principal_liquidate {E : Env} {g : Int} {now : Int} {s s' : St} {keeper owner : Acct} {ty : Nat}
    (hW : WF E) (hI : Inv E g s) (hk : (3 : Nat) ≤ keeper) (h : liquidate E now s keeper owner ty = .ok s') :
    ∃ id c0 s1 c1, findCdp s owner ty = some (id, c0) ∧ syncInterest E now s id c0 = .ok (s1, c1) ∧
      (∀ t, s'.tprin t = if t = ty then (if s.tprin ty - (c1.prin + c1.fees) < 0 then 0 else s.tprin ty - (c1.prin + c1.fees))
          else s.tprin t) ∧
      ∀ t, sumDebt s' t = sumDebt s t - (if t = ty then c0.prin + c0.fees else 0) := liquidate_drift hW hI hk h

/-- block seizure of one CDP: both sides − the CDP's debt (total clamped at 0) -/
theorem C04_total_principal_seize {E : Env} {s s' : St} {id : Nat} {c : Cdp} {deps : List (Acct × Int)}
    (hlt : id < s.nextId) (ho : s.cdp id = some c) (h : seize E s id c deps = .ok s') :
    (∀ t, s'.tprin t = if t = c.ty then (if s.tprin c.ty - (c.prin + c.fees) < 0 then 0 else s.tprin c.ty - (c.prin + c.fees))
        else s.tprin t) ∧
    ∀ t, sumDebt s' t = sumDebt s t - (if c.ty = t then c.prin + c.fees else 0) := seize_drift hlt ho h

/-- one iteration of the bulk synchronisation: total untouched; debt side + the interest booked on that CDP -/
theorem C04_total_principal_bulk_sync {E : Env} {g : Int} {s s' : St} {ty : Nat} {cp : CollParam} {gf : Dec}
    {prev : Int} {id : Nat} (hI : Inv E g s) (h : syncOne E s ty cp gf prev id = .ok s') :
    ∃ c, s.cdp id = some c ∧ c.ty = ty ∧ s'.tprin = s.tprin ∧
      ((s' = s) ∨ ∀ t, sumDebt s' t = sumDebt s t + (if t = ty then bulkInterest gf c else 0)) := syncOne_drift hI h

/-- interest accrual: the total principal is multiplied by the period's factor and rounded half-to-even once
    (error ≤ ½ unit), never decreases for a factor ≥ 1, and no CDP record and no other type is touched -/
theorem C04_total_principal_partial {now : Int} {s s' : St} {ty : Nat} {cp : CollParam} {f : Dec}
    (hf : P ≤ f.m) (h : accumulate now s ty cp f = .ok s') :
    s'.cdp = s.cdp ∧ s.tprin ty ≤ s'.tprin ty ∧
    (s'.tprin ty = s.tprin ty ∨
      (2 * (s'.tprin ty * P - f.m * s.tprin ty) ≤ P ∧ 2 * (f.m * s.tprin ty - s'.tprin ty * P) ≤ P)) ∧
    (∀ t, t ≠ ty → s'.tprin t = s.tprin t) :=
  accumulate_tprin hf h

/-- non-vacuity: in the example history the total principal and the debt side agree at the end
    (no interest accrued: the only block uses factor 1) -/
example : (run exEnv exGenesis exHistory).tprin 0 = 10500000 ∧ sumDebt (run exEnv exGenesis exHistory) 0 = 10500000 := by
  decide +kernel

/-- "Failed operations change nothing": in the model of (keeper ∘ baseapp) a message whose keeper call
    returns an error or panics leaves the state untouched -/
theorem C04_failed_noop (E : Env) (s : St) (op : Op) (h : (step E s op).isOk = false) : apply E s op = s := by
  unfold apply
  split
  · rename_i s' hs; rw [hs] at h; cases h
  · rfl

/-- non-vacuity: drawing past the ratio fails and changes nothing -/
example : (step exEnv exAtRatio (.draw 100 3 0 1 0)).isOk = false := by decide +kernel

/-! ### parameter changes by governance while CDPs exist

    On a live chain the x/cdp parameters change between two blocks (governance end blocker, committee begin
    blocker).  Every operation of the model takes the parameters in force as an argument, so a change is a
    change of that argument between two steps; the harness reads the parameters from the x/params store before
    every case.  The invariant only depends on the *shape* of the environment (`SameShape`: account universe,
    debt conversion factor, per type its denom and conversion factor — the quantities the stored ratio-index
    keys and the custody sums were computed with).  A change of a conversion factor or of a type's denom is
    outside the shape: the code then recomputes "old" index keys with the new factor and the stored keys go
    stale (no migration exists), which is why the harness never generates it. -/

/-- a parameter change that leaves denoms and conversion factors alone — liquidation ratio, stability fee,
    debt limits, debt floor, keeper reward, index count, market ids, auction thresholds / lots, the order of the
    list, removing a type (`active := false`) and adding it again — keeps `Inv4` as it is: nothing is migrated
    and nothing needs to be -/
theorem C04_param_change_preserves_inv {E E' : Env} {g : Int} {s : St} (h : SameShape E E') :
    Inv E g s ↔ Inv E' g s :=
  ⟨inv_shape h, inv_shape h.symm⟩

/-- the checkable form of the hypothesis: same accounts, same debt conversion factor, and the type lists agree
    position by position on (denom, conversion factor); every other field, the `active` flags and the loop order
    are free -/
theorem C04_param_change_shape {E E' : Env} (ha : E'.accts = E.accts) (hd : E'.P.debtCf = E.P.debtCf)
    (hm : E'.P.colls.map (fun (cp : CollParam) => (cp.denom, cp.cf)) = E.P.colls.map (fun (cp : CollParam) => (cp.denom, cp.cf))) :
    SameShape E E' := sameShape_of_lists ha hd hm

/-- `Inv4` holds after every history in which the parameters change (within the shape) before any step:
    in particular after removing a collateral type while CDPs of it exist, any number of operations and
    blocks, and adding it again -/
theorem C04_invariant_all_histories_gov {E0 : Env} {g : Int} (s0 : St) (steps : List (Env × Op))
    (h0 : Inv E0 g s0) (hsteps : ∀ E op, (E, op) ∈ steps → WF E ∧ SameShape E0 E ∧ OpOk E op) :
    Inv E0 g (runG s0 steps) :=
  runG_inv steps s0 h0 hsteps

/-- while a collateral type is not listed, every user operation on it fails (so, by `C04_failed_noop`, changes
    nothing): `ValidateCollateral` / `GetCDP` do not find the type -/
theorem C04_removed_type_refuses {E : Env} {s : St} {ty : Nat} (h : isActive E ty = false) (now : Int) :
    (∀ o c cd p pd, (create E now s o ty c cd p pd).isOk = false) ∧
    (∀ o d c cd, (deposit E now s o d ty c cd).isOk = false) ∧
    (∀ o d c cd, (withdraw E now s o d ty c cd).isOk = false) ∧
    (∀ o p pd, (draw E now s o ty p pd).isOk = false) ∧
    (∀ o p pd, (repay E now s o ty p pd).isOk = false) ∧
    (∀ k o, (liquidate E now s k o ty).isOk = false) :=
  inactive_refuses h now

/-- … and the begin blocker only visits listed types -/
theorem C04_removed_type_not_visited {E : Env} {facs : List Dec} {ty : Nat} {cp : CollParam} {f : Dec}
    (hm : (ty, cp, f) ∈ blockTypes E facs) : isActive E ty = true := blockTypes_active hm

/-- … and leaves every CDP of a type that is not listed exactly as it was: not synchronised, not seized, whatever
    the prices (the CDPs of a removed type are frozen until the type is listed again) -/
theorem C04_removed_type_untouched_by_begin_block {E : Env} {g : Int} {now : Int} {skip : Bool} {facs : List Dec}
    {s s' : St} (hW : WF E) (hI : Inv E g s) (h : beginBlock E now skip facs s = .ok s')
    (id : Nat) (c : Cdp) (hc : s.cdp id = some c) (hu : isActive E c.ty = false) : s'.cdp id = some c :=
  beginBlock_keeps_unlisted hW hI h id c hc hu

/-- non-vacuity: both are parameter changes within the shape; with the type removed the owner can neither
    repay nor deposit and a begin block leaves the CDP alone even after a price crash; with the type back under
    the ratio 2.0 the position created at exactly 150 % is seized by the next begin block, and in the original
    world it is not -/
example : SameShape exEnv exEnvRemoved ∧ SameShape exEnv exEnvRaised ∧
    (repay exEnvRemoved 100 exAtRatio 3 0 10000000 0).isOk = false ∧
    (deposit exEnvRemoved 100 exAtRatio 3 3 0 1 2).isOk = false ∧
    (repay exEnv 100 exAtRatio 3 0 10000000 0).isOk = true ∧
    ((apply exEnvRemoved { exAtRatio with price := fun _ => some ⟨1000000000000000⟩ } (.beginBlock 101 false [Dec.one])).cdp 1).isSome = true ∧
    ((apply exEnvRaised exAtRatio (.beginBlock 101 false [Dec.one])).cdp 1).isNone = true ∧
    ((apply exEnv exAtRatio (.beginBlock 101 false [Dec.one])).cdp 1).isSome = true := by
  refine ⟨sameShape_of_lists rfl rfl rfl, sameShape_of_lists rfl rfl rfl, ?_⟩
  decide +kernel

/-! ## source tie (regenerated)

    `GoFn.Cdp.*` (Generated/FnCdp.lean) is regenerated on every run from the Go source by the function
    translator (tools/extract/fn*.go); the theorem says that the regenerated definition IS the hand-written
    model function the theorems above are about.  A source edit of the function re-opens this obligation.
    Proof: Proofs/TieFnCdp.lean. -/

/-- `calculatePayment` of x/cdp/keeper/draw.go (coins as amounts, equal denominations by the function's
    CONTRACT) equals `calcPayment` and never panics, for every `owed ≥ 0` (= principal + fees of a stored CDP).
    For `owed < 0 < payment` the Go function panics in `sdk.Coin.Sub` where the total model function returns
    `owed`; that domain is excluded here rather than papered over. -/
theorem C04_source_tie_calculatePayment (owed fees pay : Int) (h : 0 ≤ owed) :
    GoFn.Cdp.calculatePayment_translated = true ∧
    GoFn.Cdp.calculatePayment owed fees pay = Go.R.ok (calcPayment owed fees pay) :=
  TieFn.cdp_calculatePayment owed fees pay h

/-- `calculateCollateralRatio` (the bulk path of `SynchronizeInterestForRiskyCDPs`) = `c2dBulk` on the CDP's collateral
    amount and `Principal + AccumulatedFees`, and never panics, for conversion factors in 0 … 18 (outside,
    `sdk.NewDecFromIntWithPrec` panics) -/
theorem C04_source_tie_calculateCollateralRatio (dp : GoFn.Cdp.DebtParam) (cp : GoFn.Cdp.CollateralParam)
    (cdp : GoFn.Cdp.CDP) (hd : 0 ≤ dp.ConversionFactor ∧ dp.ConversionFactor ≤ 18)
    (hc : 0 ≤ cp.ConversionFactor ∧ cp.ConversionFactor ≤ 18) :
    GoFn.Cdp.calculateCollateralRatio_translated = true ∧
    GoFn.Cdp.calculateCollateralRatio dp cp cdp
      = Go.R.ok (c2dBulk cdp.Collateral cp.ConversionFactor.toNat (cdp.Principal + cdp.AccumulatedFees)
          dp.ConversionFactor.toNat) :=
  TieFn.cdp_calculateCollateralRatio dp cp cdp hd hc

end KV.Cdp
