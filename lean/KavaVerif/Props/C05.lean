/-
  C05 — CDP: seized only when under-collateralized; users cannot go below the ratio.

  "No successful draw or collateral withdrawal leaves a CDP below its liquidation ratio at the current price,
   and creation, draw, deposit and withdrawal are refused while the collateral's price feed is down. A CDP
   whose collateralization ratio at the liquidation price is at or above the liquidation ratio is never
   seized, neither by the block-level liquidator nor by a keeper message, while the lowest-ratio CDPs below
   it (beyond 18-decimal rounding) are seized when the liquidation interval comes round. A seizure removes
   the whole position, and exactly its collateral (minus the keeper reward) and its debt enter auctions."

  Model: KavaVerif/Model/Cdp.lean (x/cdp keeper transcribed; `calcCR` = CalculateCollateralizationRatio,
  `c2d` = CalculateCollateralToDebtRatio, `normRatio` = LiquidateCdps' normalizedRatio, `blockSkips` = the
  value-ratio re-check inside LiquidateCdps, `cappedShare` = the debt share a deposit gets in
  AuctionCollateral; bit-exact sdk.Dec).  Only property statements live here; helper lemmas are in
  KavaVerif/Proofs/Cdp*.lean.

  The three parts of the prose that were false on the original code are full theorems on the code as fixed
  by bfd342e03 (debt shares), b28e8ed21 (block re-check), cb3596bb2 (draw gate); the former witnesses are
  kept as `example`s showing the fixed model handles them.
-/
import KavaVerif.Proofs.CdpExample
import KavaVerif.Proofs.CdpGov
import KavaVerif.Proofs.CdpGate
import KavaVerif.Proofs.CdpAuctions
import KavaVerif.Generated.CdpFacts

namespace KV.Cdp
open KV

/-! ### source tables (regenerated from /repo on every run) -/

/-- The comparison shapes and the set of gated functions the model transcribes are the ones in the source:
    `ValidateCollateralizationRatio` and `WithdrawCollateral` refuse on `ratio.LT(L)` (model: `r.m < L.m → err`),
    `ValidateLiquidation` refuses on `ratio.GTE(L)` (model: `r.m ≥ L.m → err`), `LiquidateCdps` skips a selected
    CDP on `valueRatio.GTE(L)` (model: `blockSkips`), and exactly `AddCdp`, `AddPrincipal`, `DepositCollateral`,
    `WithdrawCollateral` call `ValidateCollateral` (the model's `validateCollateral`).  A source edit that
    changes one of these regenerates the table and re-opens this obligation. -/
theorem C05_source_gate_table :
    KV.Gen.cdpUserGateRefuses = "LT" ∧ KV.Gen.cdpWithdrawGateRefuses = "LT" ∧ KV.Gen.cdpKeeperGateRefuses = "GTE" ∧
    KV.Gen.cdpBlockRecheckSkips = "GTE" ∧
    KV.Gen.cdpFeedGateCallers = ["AddCdp", "AddPrincipal", "DepositCollateral", "WithdrawCollateral"] :=
  ⟨rfl, rfl, rfl, rfl, rfl⟩

/-! ### user gate -/

/-- "No successful … collateral withdrawal leaves a CDP below its liquidation ratio at the current price":
    after a successful withdraw the stored CDP has `CalculateCollateralizationRatio(spot) ≥ L`
    (and both market status flags were up). -/
theorem C05_user_gate_withdraw {E : Env} {now : Int} {s s' : St} {owner depositor : Acct} {ty : Nat} {c : Int} {cd : Denom}
    (h : withdraw E now s owner depositor ty c cd = .ok s') :
    ∃ cp id c0 c2, E.P.colls[ty]? = some cp ∧ findCdp s owner ty = some (id, c0) ∧ s'.cdp id = some c2 ∧
      c2.ty = ty ∧ GateOk E s cp c2 ∧ s.status cp.spot = true ∧ s.status cp.liq = true :=
  withdraw_gate h

/-- "No successful draw … leaves a CDP below its liquidation ratio at the current price"
    (and both market status flags were up) -/
theorem C05_user_gate_draw {E : Env} {now : Int} {s s' : St} {owner : Acct} {ty : Nat} {p : Int} {pd : Denom}
    (h : draw E now s owner ty p pd = .ok s') :
    ∃ cp id c0 c2, E.P.colls[ty]? = some cp ∧ findCdp s owner ty = some (id, c0) ∧ s'.cdp id = some c2 ∧
      c2.ty = ty ∧ GateOk E s cp c2 ∧ s.status cp.spot = true ∧ s.status cp.liq = true :=
  draw_gate h

/-- a created CDP starts at or above the ratio -/
theorem C05_user_gate_create {E : Env} {now : Int} {s s' : St} {owner : Acct} {ty : Nat} {c : Int} {cd : Denom}
    {p : Int} {pd : Denom} (h : create E now s owner ty c cd p pd = .ok s') :
    ∃ cp c2, E.P.colls[ty]? = some cp ∧ s'.cdp s.nextId = some c2 ∧ c2.ty = ty ∧ c2.owner = owner ∧
      GateOk E s cp c2 ∧ s.status cp.spot = true ∧ s.status cp.liq = true :=
  create_gate h

/-- non-vacuity: the creation at exactly 150 % succeeds -/
example : (create exEnv 100 exGenesis 3 0 3000000000 2 10000000 0).isOk = true := by decide +kernel

/-! ### price-feed gate: "creation, draw, deposit and withdrawal are refused while the collateral's price feed is down" -/

/-- creation is refused when either market status flag is down -/
theorem C05_feed_gate_create {E : Env} {now : Int} {s : St} {owner : Acct} {ty : Nat} {c : Int} {cd : Denom}
    {p : Int} {pd : Denom} {cp : CollParam} (hcp : E.P.colls[ty]? = some cp)
    (hdown : s.status cp.spot = false ∨ s.status cp.liq = false) :
    create E now s owner ty c cd p pd = .err := create_refused (feed_gate_validate hcp hdown)

/-- deposit is refused when either market status flag is down -/
theorem C05_feed_gate_deposit {E : Env} {now : Int} {s : St} {owner depositor : Acct} {ty : Nat} {c : Int} {cd : Denom}
    {cp : CollParam} (hcp : E.P.colls[ty]? = some cp)
    (hdown : s.status cp.spot = false ∨ s.status cp.liq = false) :
    deposit E now s owner depositor ty c cd = .err := deposit_refused (feed_gate_validate hcp hdown)

/-- withdrawal is refused when either market status flag is down -/
theorem C05_feed_gate_withdraw {E : Env} {now : Int} {s : St} {owner depositor : Acct} {ty : Nat} {c : Int} {cd : Denom}
    {cp : CollParam} (hcp : E.P.colls[ty]? = some cp)
    (hdown : s.status cp.spot = false ∨ s.status cp.liq = false) :
    withdraw E now s owner depositor ty c cd = .err := withdraw_refused (feed_gate_validate hcp hdown)

/-- draw is refused when either market status flag is down (since cb3596bb2 `AddPrincipal` starts with
    `ValidateCollateral`) -/
theorem C05_feed_gate_draw {E : Env} {now : Int} {s : St} {owner : Acct} {ty : Nat} {p : Int} {pd : Denom}
    {cp : CollParam} (hcp : E.P.colls[ty]? = some cp)
    (hdown : s.status cp.spot = false ∨ s.status cp.liq = false) :
    draw E now s owner ty p pd = .err := draw_refused (fun _ => feed_gate_validate hcp hdown)

/-- the former witness (finding F12): liquidation market down, spot market up, CDP at 300 % — the draw of
    1 usdx that the original code accepted is now refused; with both feeds up it is accepted -/
example : exLiqDownDeposited.status exColl.liq = false ∧
    (draw exEnv 200 exLiqDownDeposited 3 0 1000000 0).isOk = false ∧
    (draw exEnv 200 (apply exEnv exAtRatio (.deposit 100 3 3 0 3000000000 2)) 3 0 1000000 0).isOk = true := by
  decide +kernel

/-! ### keeper liquidation -/

/-- "A CDP whose collateralization ratio at the liquidation price is at or above the liquidation ratio is
    never seized … by a keeper message": a successful MsgLiquidate implies `CR_liq < L` for the synchronised
    CDP; afterwards the CDP and all its deposit records are gone ("a seizure removes the whole position"). -/
theorem C05_keeper_sound {E : Env} {g : Int} {now : Int} {s s' : St} {keeper owner : Acct} {ty : Nat}
    (hW : WF E) (hI : Inv E g s) (hk : (3 : Nat) ≤ keeper)
    (h : liquidate E now s keeper owner ty = .ok s') :
    ∃ cp id c0 s1 c1 r, E.P.colls[ty]? = some cp ∧ findCdp s owner ty = some (id, c0) ∧
      syncInterest E now s id c0 = .ok (s1, c1) ∧
      calcCR c1.coll cp.cf c1.prin c1.fees E.P.debtCf (s.price cp.liq) = .ok r ∧ r.m < cp.liqRatio.m ∧
      s'.cdp id = none ∧ (∀ a, s'.dep id a = 0) :=
  liquidate_sound hW hI hk h

/-- the keeper gate refuses the position that sits exactly at 150 % -/
example : (liquidate exEnv 100 exAtRatio 4 3 0).isOk = false := by decide +kernel

/-! ### block liquidation -/

/-- "A CDP whose collateralization ratio at the liquidation price is at or above the liquidation ratio is
    never seized … by the block-level liquidator" — function level: a CDP that `LiquidateCdps` does not skip
    (the only ones it hands to `SeizeCollateral`) has `CalculateCollateralizationRatio(liquidation price) < L`. -/
theorem C05_block_sound (E : Env) (c : Cdp) (price L : Dec) (hL : 0 < L.m)
    (h : blockSkips E c price L = false) (r : Dec)
    (hr : collRatio c.coll (cfOf E c.ty) c.prin c.fees E.P.debtCf price = some r) : r.m < L.m :=
  blockSkips_sound E c price L hL h r hr

/-- … state level: every CDP that disappears in a `LiquidateCdps` pass had `CR_liq < L` at that moment -/
theorem C05_block_sound_state {E : Env} {g : Int} {s s' : St} {ty : Nat} {cp : CollParam} {price : Dec}
    (hW : WF E) (hI : Inv E g s) (hL : 0 < cp.liqRatio.m) (h : liquidateBlock E s ty cp price = .ok s')
    (id : Nat) (c : Cdp) (ho : s.cdp id = some c) (hgone : s'.cdp id = none) (r : Dec)
    (hr : collRatio c.coll (cfOf E c.ty) c.prin c.fees E.P.debtCf price = some r) : r.m < cp.liqRatio.m :=
  blockSkips_sound E c price cp.liqRatio hL (liquidateBlock_sound hW hI h id c ho hgone) r hr

/-- the former witness (finding F3: price 0.5, ratio 1.5, collateral 30, debt 10): the index scan still reaches
    the CDP (`normalizedRatio = 3.000000000000000003 > 3.0`), the re-check skips it (`CR = 1.5 ≥ L`), and one
    begin block with unchanged prices leaves it in place; after a price drop to 0.49 it is seized -/
example : blockSelects (sortKey (c2d 3000000000 8 10000000 6)) ⟨500000000000000000⟩ ⟨1500000000000000000⟩ = true ∧
    (exAtRatio.cdp 1).map (fun c => blockSkips exEnv c ⟨500000000000000000⟩ exColl.liqRatio) = some true ∧
    ((apply exEnv exAtRatio (.beginBlock 101 false [Dec.one])).cdp 1).isSome = true ∧
    ((apply exEnv { exAtRatio with price := fun _ => some ⟨490000000000000000⟩ } (.beginBlock 101 false [Dec.one])).cdp 1).isNone = true := by
  decide +kernel

/-- the index bound (soundness direction): a CDP the range scan reaches has `CR_liq < L + ε` with the explicit
    bound `ε = 2 + L²·(10^18 + 2) / (2·price·10^36 − L·10^18 − 2L)` ulp, i.e.
    `(CR − L − 2)·(2·price·P² − L·P − 2L) < L²·(P + 2)` — how far the scan can overshoot before the re-check. -/
theorem C05_block_index_bound (c d : Int) (cf dcf : Nat) (price L : Dec) (hc : 0 ≤ c)
    (hd : P ≤ (baseUnits d dcf).m) (hd2 : (baseUnits d dcf).m < maxSortable.m)
    (hp : 0 < price.m) (hpU : price.m ≤ P * P) (hL : 0 < L.m)
    (hM : 0 < 2 * price.m * P * P - L.m * P - 2 * L.m)
    (hsel : blockSelects (sortKey (c2d c cf d dcf)) price L = true) :
    ∃ r, collRatio c cf d 0 dcf price = some r ∧
      (r.m - 2 - L.m) * (2 * price.m * P * P - L.m * P - 2 * L.m) < L.m * L.m * (P + 2) := by
  have hD0 : (baseUnits d dcf).m ≠ 0 := by have := P_pos; omega
  have hlt : (Dec.quo (baseUnits c cf) (baseUnits d dcf)).m < (normRatio price L).m := by
    rw [← c2d_eq_quo c d cf dcf hD0 hd2]
    exact sortKey_lt_imp _ _ (of_decide_eq_true hsel)
  have hbound := block_bound_m (baseUnits c cf) (baseUnits d dcf) price L (baseUnits_nonneg c cf hc) hd hp hpU hL hM hlt
  by_cases hc0 : c = 0
  · subst hc0
    refine ⟨Dec.zero, by simp [collRatio], ?_⟩
    have h1 : (Dec.zero.m - 2 - L.m) * (2 * price.m * P * P - L.m * P - 2 * L.m) ≤ 0 :=
      Int.mul_nonpos_of_nonpos_of_nonneg (by simp [Dec.zero]; omega) (by omega)
    have h2 : 0 < L.m * L.m * (P + 2) := Int.mul_pos (Int.mul_pos hL hL) (by have := P_pos; omega)
    omega
  · exact ⟨_, collRatio_eq_quo c d cf dcf price hc0 hD0, hbound⟩

/-- the bound is not vacuous: the former witness satisfies every hypothesis, and there `CR = L` exactly -/
example : blockSelects (sortKey (c2d 3000000000 8 10000000 6)) ⟨500000000000000000⟩ ⟨1500000000000000000⟩ = true ∧
    collRatio 3000000000 8 10000000 0 6 ⟨500000000000000000⟩ = some ⟨1500000000000000000⟩ ∧
    P ≤ (baseUnits 10000000 6).m ∧ (0:Int) < 2 * 500000000000000000 * P * P - 1500000000000000000 * P - 2 * 1500000000000000000 := by
  decide

/-- "the lowest-ratio CDPs below it … are seized when the liquidation interval comes round":
    `LiquidateCdps` walks exactly the first `max(count,1)` entries of the type's ratio index whose stored ratio is
    below `normalizedRatio`; each of them is gone afterwards unless the re-check found `CR_liq ≥ L` (then it is
    left untouched), every entry below the bound that was not taken comes later in index order (lowest first),
    and the number taken is min(count, #below). -/
theorem C05_block_complete {E : Env} {g : Int} {s s' : St} {ty : Nat} {cp : CollParam} {price : Dec}
    (hW : WF E) (hI : Inv E g s) (h : liquidateBlock E s ty cp price = .ok s') :
    let K := sortKey (normRatio price cp.liqRatio)
    let sel := takeCount cp.checkCount (below s.idx ty K)
    (∀ e, e ∈ sel → ∃ c, s.cdp e.2.2 = some c ∧
        (if blockSkips E c price cp.liqRatio = true then s'.cdp e.2.2 = some c else s'.cdp e.2.2 = none)) ∧
    (∀ e, e ∈ sel → ∀ e', e' ∈ below s.idx ty K → e' ∉ sel → eLt e e' = true) ∧
    sel.length = min (if cp.checkCount ≤ 1 then 1 else cp.checkCount.toNat) (below s.idx ty K).length :=
  liquidateBlock_complete hW hI h

/-- "… (beyond 18-decimal rounding)": the range scan cannot miss a CDP that is below the liquidation ratio by
    more than the rounding — a CDP whose stored index ratio is NOT below `normalizedRatio` has
    `CR_liq > L − ε'`, `ε' = 2 + L²/(price·P + L) + price·(P+1)/P²` ulp
    (`(CR + 2)·P²·(price·P + L) > price·(P³·L − (P+1)(price·P + L))` on mantissas).  With `C05_block_complete`
    and `C05_block_sound`: every CDP with `CR_liq ≤ L − ε'` lies in the scan range, is not skipped by the
    re-check, and is seized unless `count` lower index entries precede it. -/
theorem C05_block_complete_bound (c d : Int) (cf dcf : Nat) (price L : Dec) (hc : 0 < c)
    (hd : P ≤ (baseUnits d dcf).m) (hd2 : (baseUnits d dcf).m < maxSortable.m)
    (hp : 0 < price.m) (hL : 0 < L.m)
    (hkey : (c2d c cf d dcf).m < maxSortable.m)
    (hnsel : blockSelects (sortKey (c2d c cf d dcf)) price L = false) :
    ∃ r, collRatio c cf d 0 dcf price = some r ∧
      price.m * (P * P * P * L.m - (P + 1) * (price.m * P + L.m)) < (r.m + 2) * (P * P) * (price.m * P + L.m) := by
  have hD0 : (baseUnits d dcf).m ≠ 0 := by have := P_pos; omega
  have hc2d := c2d_eq_quo c d cf dcf hD0 hd2
  have hn : ¬ (Dec.quo (baseUnits c cf) (baseUnits d dcf)).m < (normRatio price L).m := by
    intro hlt
    unfold blockSelects at hnsel
    have hk : sortKey (c2d c cf d dcf) = (c2d c cf d dcf).m := if_neg (by omega)
    rw [hk, hc2d] at hnsel
    have : (Dec.quo (baseUnits c cf) (baseUnits d dcf)).m < sortKey (normRatio price L) := by
      unfold sortKey
      split
      · rw [← hc2d]; exact hkey
      · exact hlt
    simp [this] at hnsel
  exact ⟨_, collRatio_eq_quo c d cf dcf price (by omega) hD0,
    block_bound_rev_m (baseUnits c cf) (baseUnits d dcf) price L (baseUnits_nonneg c cf (by omega)) hd hp hL hn⟩

/-- the bound is not vacuous: 30 collateral / 10 debt at price 0.6 (CR = 1.8 ≥ 1.5) is outside the scan range -/
example : blockSelects (sortKey (c2d 3000000000 8 10000000 6)) ⟨600000000000000000⟩ ⟨1500000000000000000⟩ = false ∧
    (c2d 3000000000 8 10000000 6).m < maxSortable.m := by decide

/-- non-vacuity: in `exAtRatio` the scan selects the CDP and the pass succeeds -/
example : (liquidateBlock exEnv exAtRatio 0 exColl ⟨500000000000000000⟩).isOk = true ∧
    (below exAtRatio.idx 0 (sortKey (normRatio ⟨500000000000000000⟩ exColl.liqRatio))).length = 1 := by
  decide +kernel

/-! ### the ratio in force; collateral types that are not listed -/

/-- Governance changes the liquidation ratio (and every other parameter) between two blocks while CDPs exist.
    Every statement above is about ONE step under the environment `E` of that step, so "the liquidation ratio"
    is the ratio in force when the action happens: after a change to `E'`, a begin block seizes a CDP only if its
    ratio at the liquidation price is below the NEW ratio (instance of `C05_block_sound_state` at `E'`; a position
    that a lowered ratio made safe is not seized in the block after the change, one that a raised ratio put below
    is inside the scan range by `C05_block_complete_bound`).  What needs a statement of its own is a collateral
    type that is removed from the parameters while CDPs of it exist: neither the block liquidator nor a keeper
    message can seize them, and no user action on them is accepted, until the type is listed again. -/
theorem C05_unlisted_type_never_seized {E : Env} {g : Int} {now : Int} {s : St} {ty : Nat}
    (hW : WF E) (hI : Inv E g s) (hu : isActive E ty = false) :
    (∀ skip facs s', beginBlock E now skip facs s = .ok s' →
        ∀ id c, s.cdp id = some c → c.ty = ty → s'.cdp id = some c) ∧
    (∀ k o, (liquidate E now s k o ty).isOk = false) ∧
    (∀ o p pd, (draw E now s o ty p pd).isOk = false) ∧
    (∀ o d c cd, (withdraw E now s o d ty c cd).isOk = false) ∧
    (∀ o d c cd, (deposit E now s o d ty c cd).isOk = false) ∧
    (∀ o c cd p pd, (create E now s o ty c cd p pd).isOk = false) := by
  obtain ⟨h1, h2, h3, h4, -, h6⟩ := inactive_refuses (s := s) hu now
  refine ⟨?_, h6, h4, h3, h2, h1⟩
  intro skip facs s' h id c hc hty
  exact beginBlock_keeps_unlisted hW hI h id c hc (by rw [hty]; exact hu)

/-- non-vacuity: the example position at 150 % with its type removed survives a begin block after a price crash
    to 0.001 and the keeper is refused; with the type listed under the ratio 2.0 the same position is seized at
    unchanged prices, and under the original ratio 1.5 it is not -/
example : isActive exEnvRemoved 0 = false ∧
    ((apply exEnvRemoved { exAtRatio with price := fun _ => some ⟨1000000000000000⟩ } (.beginBlock 101 false [Dec.one])).cdp 1).isSome = true ∧
    (liquidate exEnvRemoved 101 { exAtRatio with price := fun _ => some ⟨1000000000000000⟩ } 4 3 0).isOk = false ∧
    ((apply exEnvRaised exAtRatio (.beginBlock 101 false [Dec.one])).cdp 1).isNone = true ∧
    ((apply exEnv exAtRatio (.beginBlock 101 false [Dec.one])).cdp 1).isSome = true := by
  decide +kernel

/-! ### a seizure takes the whole position; the debt shares -/

/-- `AuctionCollateral` (since bfd342e03): the debt shares handed to the deposits add up to exactly the debt to
    distribute, no share exceeds what is left at its turn, and none is negative -/
theorem C05_debt_split_exact (total debt : Int) :
    (∀ (l : List (Acct × Int)) (remaining : Int), l ≠ [] → sumShares total debt remaining l = remaining) ∧
    (∀ share remaining isLast, cappedShare share remaining isLast ≤ remaining) ∧
    (∀ share remaining isLast, 0 ≤ share → 0 ≤ remaining → 0 ≤ cappedShare share remaining isLast) :=
  ⟨sumShares_exact total debt, cappedShare_le, cappedShare_nonneg⟩

/-- … hence `AuctionCollateral` can no longer fail for lack of debt coins (the begin-block panic of finding F2):
    if the liquidator account holds the deposits' collateral and at least the debt to distribute, all sends succeed -/
theorem C05_debt_split_never_short (cd : Denom) (total debt : Int) (hcd : cd ≠ DEBT) (ht : 0 < total) (hd : 0 ≤ debt)
    (l : List (Acct × Int)) (remaining : Int) (s : St) (hpos : ∀ a v, (a, v) ∈ l → 0 < v)
    (h0 : 0 ≤ remaining) (h1 : remaining ≤ s.bal MLIQ DEBT) (h2 : sumDeps l ≤ s.bal MLIQ cd) :
    ∃ s', auctionDeps s cd total debt remaining l = .ok s' :=
  auctionDeps_ok cd total debt hcd ht hd l remaining s hpos h0 h1 h2

/-- "A seizure removes the whole position, and exactly its collateral (minus the keeper reward) and its debt
    enter auctions": after `SeizeCollateral` the CDP, its deposits (and, by the invariant, both index entries) are
    gone, the auction module received exactly the deposit records handed to the seizure (these sum to the CDP's
    collateral, after the keeper reward has been deducted from one of them), and exactly
    `min(debt, debt coins held by the cdp module)` debt coins — exactly the CDP's debt whenever the cdp module
    holds that many (the `min` is `SeizeCollateral`'s own clamp against interest-rounding drift of the module's
    debt-coin balance). -/
theorem C05_seize_whole {E : Env} {g : Int} {s s' : St} {id : Nat} {c : Cdp} {deps : List (Acct × Int)}
    (hW : WF E) (hI : Inv E g s) (ho : s.cdp id = some c)
    (hsum : sumDeps deps = sumAcc E.accts (s.dep id))
    (hkeys : ∀ a, s.dep id a ≠ 0 → a ∈ deps.map Prod.fst) (hne : deps ≠ [])
    (h : seize E s id c deps = .ok s') :
    s'.cdp id = none ∧ (∀ a, s'.dep id a = 0) ∧ Inv E g s' ∧
    sumDeps deps = c.coll ∧
    s'.bal MAUC (denomOf E c.ty) = s.bal MAUC (denomOf E c.ty) + sumDeps deps ∧
    s'.bal MAUC DEBT = s.bal MAUC DEBT + (if c.prin + c.fees < s.bal MCDP DEBT then c.prin + c.fees else s.bal MCDP DEBT) ∧
    (c.prin + c.fees ≤ s.bal MCDP DEBT → s'.bal MAUC DEBT = s.bal MAUC DEBT + (c.prin + c.fees)) := by
  have SP := seize_spec hW hI ho hsum hkeys h
  have hd := SP.aucDebt
  rw [sumShares_exact _ _ deps _ hne] at hd
  refine ⟨SP.gone, SP.deps0, SP.inv, by rw [hsum]; exact (hI.coll.1 id c ho).symm, SP.aucColl, hd, ?_⟩
  intro hle
  rw [hd]
  split <;> omega

/-- the former witness (finding F2): two equal deposits of 10 and the odd debt 10000003 — the rounded shares
    are 5000002 + 5000002, the capped shares 5000002 + 5000001 = the debt; on the state machine the begin block
    after a price crash now succeeds and exactly the debt enters the auction module -/
example : sumShares 2000000000 10000003 10000003 [(3, 1000000000), (4, 1000000000)] = 10000003 ∧
    debtCovered 1000000000 2000000000 10000003 = 5000002 ∧
    (beginBlock exEnv 102 false [Dec.one] exTwoDeposits).isOk = true ∧
    (apply exEnv exTwoDeposits (.beginBlock 102 false [Dec.one])).bal MAUC DEBT = 10000003 ∧
    ((apply exEnv exTwoDeposits (.beginBlock 102 false [Dec.one])).cdp 1).isNone = true := by
  decide +kernel

/-! ### the auctions of a seizure, lot by lot (`AuctionCollateral`, `CreateAuctionsFromDeposit`) -/

/-- One deposit `c > 0` with debt share `d ≥ 0`, auction size `A > 0`: `CreateAuctionsFromDeposit` creates
    `⌈c / A⌉` auctions whose lots add up to exactly the deposit and whose corresponding debts add up to exactly the
    share; every lot is returned to the depositor, is positive and at most `A`; its debt is its proportional share
    `d·lot / c` rounded down or up; and its max bid is its own debt plus the liquidation penalty ON ITS OWN DEBT
    (`round-half-even(debt_i · penalty)`), lot by lot. -/
theorem C05_seize_lots_deposit (ret : Acct) (c d A : Int) (pen : Dec) (hc : 0 < c) (hd : 0 ≤ d) (hA : 0 < A) :
    ∃ L, createAuctions ret c d A pen = .ok L ∧
      lotSum L = c ∧ lotDebtSum L = d ∧ (L.length : Int) = (c + A - 1) / A ∧
      (∀ x ∈ L, x.ret = ret ∧ 0 < x.lot ∧ x.lot ≤ A ∧ 0 ≤ x.debt ∧
        d * x.lot / c ≤ x.debt ∧ x.debt ≤ d * x.lot / c + 1 ∧ x.maxBid = x.debt + penaltyOf x.debt pen) := by
  obtain ⟨L, h, sp⟩ := createAuctions_spec ret c d A pen hc hd hA
  exact ⟨L, h, sp.lotSum, sp.lotDebtSum, sp.count, sp.each⟩

/-- … and only the last lot may be smaller than the auction size: `c / A` whole lots of exactly `A`, the first `k`
    of them carrying `⌊d·A / c⌋ + 1` and the others `⌊d·A / c⌋` (largest-remainder distribution: any two whole lots
    differ by at most one unit of debt, the extra units go to the lots created first), then — iff `A` does not divide
    `c` — one lot `c % A` carrying `⌊d·(c % A) / c⌋` or that plus one. -/
theorem C05_seize_lots_shape (ret : Acct) (c d A : Int) (pen : Dec) (hc : 0 < c) (hd : 0 ≤ d) (hA : 0 < A) :
    ∃ L, createAuctions ret c d A pen = .ok L ∧
      (∃ (W last : List Lot) (k : Nat), L = W ++ last ∧ (W.length : Int) = c / A ∧ k ≤ W.length ∧
        (∀ x ∈ W, x.lot = A) ∧
        W.map (·.debt) = List.replicate k (d * A / c + 1) ++ List.replicate (W.length - k) (d * A / c) ∧
        ((last = [] ∧ c % A = 0) ∨
         (∃ x, last = [x] ∧ x.lot = c % A ∧ 0 < x.lot ∧ x.lot < A ∧
            (x.debt = d * (c % A) / c ∨ x.debt = d * (c % A) / c + 1)))) ∧
      (∀ x ∈ L, ∀ y ∈ L, x.lot = A → y.lot = A → x.debt - y.debt ≤ 1 ∧ y.debt - x.debt ≤ 1) := by
  obtain ⟨L, h, sp⟩ := createAuctions_spec ret c d A pen hc hd hA
  exact ⟨L, h, sp.shape, fun x hx y hy hxl hyl => sp.spread x y hx hy hxl hyl⟩

/-- "A seizure removes the whole position, and exactly its collateral (minus the keeper reward) and its debt enter
    auctions", lot by lot: the auctions `SeizeCollateral` creates from the deposit records `deps` (all positive) and
    the debt `debt` it moved to the liquidator have lots that add up to exactly the deposits and corresponding debts
    that add up to exactly the debt; they are, deposit by deposit in depositor order, the lots of
    `C05_seize_lots_deposit` for exactly the amounts the state machine of `C05_seize_whole` moves for that deposit
    (`LotsOfDeps`: the deposit and its capped share of the debt); every lot goes back to one of the depositors, is at
    most the auction size, and asks for its own debt plus the penalty on its own debt. -/
theorem C05_seize_lots (A : Int) (pen : Dec) (deps : List (Acct × Int)) (debt : Int) (hA : 0 < A) (hd : 0 ≤ debt)
    (hne : deps ≠ []) (hpos : ∀ a v, (a, v) ∈ deps → 0 < v) :
    ∃ L, seizeLots A pen deps debt = .ok L ∧ LotsOfDeps A pen (sumDeps deps) debt debt deps L ∧
      lotSum L = sumDeps deps ∧ lotDebtSum L = debt ∧
      (∀ x ∈ L, x.ret ∈ deps.map Prod.fst ∧ 0 < x.lot ∧ x.lot ≤ A ∧ 0 ≤ x.debt ∧
        x.maxBid = x.debt + penaltyOf x.debt pen) :=
  seizeLots_spec A pen deps debt hA hd hne hpos

/-- "(minus the keeper reward)": the records a keeper liquidation hands to the seizure are the stored records with
    the reward taken out of exactly one of them (or unchanged when no single deposit can pay it) -/
theorem C05_seize_lots_keeper_reward (r : Int) (deps : List (Acct × Int)) :
    sumDeps (depsAfterReward (some r) deps) = sumDeps deps - r ∨ depsAfterReward (some r) deps = deps :=
  depsAfterReward_sum r deps

/-- non-vacuity (the input of seeded change C05 round 5): 0.35 btc-sized deposit, auction size 0.1, debt share
    1820000071, penalty 2.5 %: three whole lots and a remainder lot; debt per whole lot 520000020, one unit left over
    goes to the FIRST lot, whose penalty is `round(520000021 · 0.025) = round(13000000.525) = 13000001` while the
    others pay `round(13000000.5) = 13000000` (half-even): max bids 533000022, 533000020, 533000020, 266500010 -/
example : lotsOrNil (createAuctions 3 35000000 1820000071 10000000 ⟨25000000000000000⟩) =
    [⟨3, 10000000, 520000021, 533000022⟩, ⟨3, 10000000, 520000020, 533000020⟩,
     ⟨3, 10000000, 520000020, 533000020⟩, ⟨3, 5000000, 260000010, 266500010⟩] ∧
    penaltyOf 520000021 ⟨25000000000000000⟩ = 13000001 ∧ penaltyOf 520000020 ⟨25000000000000000⟩ = 13000000 := by
  decide +kernel

/-- non-vacuity, the largest-remainder rule.  Deposit 25, auction size 10, debt 7: whole lots 2.8 → 2 each (error
    20/25), remainder lot 1.4 → 1 (error 10/25), two units left over: the whole lots have the larger error and take
    both — (10, 3) (10, 3) (5, 1); at 50 % penalty `round(1.5) = 2`, `round(0.5) = 0` (half-even).  Deposit 15, debt 8:
    whole 5.33 → 5, remainder 2.67 → 2, one unit left and the remainder's error is the larger: (10, 5) (5, 3).
    A zero debt share gives lots with debt 0 and max bid 0; a zero deposit is a Go panic (division by zero). -/
example : lotsOrNil (createAuctions 3 25 7 10 ⟨500000000000000000⟩) =
      [⟨3, 10, 3, 5⟩, ⟨3, 10, 3, 5⟩, ⟨3, 5, 1, 1⟩] ∧
    lotsOrNil (createAuctions 3 15 8 10 ⟨500000000000000000⟩) = [⟨3, 10, 5, 7⟩, ⟨3, 5, 3, 5⟩] ∧
    lotsOrNil (createAuctions 3 20 0 10 ⟨500000000000000000⟩) = [⟨3, 10, 0, 0⟩, ⟨3, 10, 0, 0⟩] ∧
    (createAuctions 3 0 5 10 ⟨500000000000000000⟩).isOk = false := by
  decide +kernel

/-- non-vacuity, a whole seizure: two depositors (25 and 10), debt 11, auction size 10, penalty 50 %: shares
    `round(25/35 · 11) = 8` and the remainder 3; lots (10,3) (10,3) (5,2) for the first, (10,3) for the second -/
example : lotsOrNil (seizeLots 10 ⟨500000000000000000⟩ [(3, 25), (5, 10)] 11) =
    [⟨3, 10, 3, 5⟩, ⟨3, 10, 3, 5⟩, ⟨3, 5, 2, 3⟩, ⟨5, 10, 3, 5⟩] := by
  decide +kernel

end KV.Cdp
