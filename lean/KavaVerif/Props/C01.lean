/-
  C01 — Deterministic replication: the same blocks give the same state and results.

  "Given the same genesis and the same ordered blocks of transactions, every node computes the same
   application hash, the same per-transaction results and the same events at every height. This holds
   across independent replicas, across repeated executions inside one process, and for a node that is
   restarted from its committed database at any height and then continues."

  A Lean function is deterministic by construction, so the theorems here are about the *enumerable
  sources* of nondeterminism in the Go code, listed from the source on every run by tools/extract/c01.go:
    * every `range` over a map (Generated/C01MapRanges.lean) must be a reviewed site whose loop body still has
      an order-independent shape, and for each order-sensitive shape the semantic fact is proved: the
      transcribed loop is invariant under every permutation of the map's entries;
    * wall clock, randomness, goroutines, package-level mutable state, keeper-level caches, sticky closure
      variables, sort calls (Generated/C01Sources.lean) must stay inside the reviewed tables.
  PARTIAL: that the Go runtime, the SDK, IAVL/goleveldb and protobuf add no other nondeterminism is not
  modelled; it is explored by the replica / restart differential of harness/cmd/c01.

  Only property statements live here; helper lemmas are in KavaVerif/Proofs/Determinism.lean.
-/
import KavaVerif.Proofs.Determinism
set_option linter.unusedSimpArgs false
set_option linter.unusedVariables false

namespace KV.Det
open KV.Gen.C01 List

/-- "maps are never iterated for effect without sorting keys first": every map range found in consensus
    code is a reviewed site, and its body still has a shape its reviewed class admits. A new map range, a
    removed sort, or a side effect added to a loop body changes the generated table and this stops checking. -/
theorem C01_all_sites_discharged : ∀ s ∈ mapRanges, dischargedSite s = true := by decide +kernel

/-- non-vacuity: the translator found the sites (the scan is not empty) and scanned the whole tree -/
theorem C01_sites_nonempty : 20 ≤ mapRanges.length ∧ 400 ≤ rangeStmtsScanned ∧ 2000 ≤ functionsScanned := by decide

/-- every order-sensitive reviewed site names the lemma (below) that discharges it -/
theorem C01_reviewed_sites_name_their_lemma :
    ∀ e ∈ expected, (e.cls = .sortedBeforeUse ∨ e.cls = .commutativeFold ∨ e.cls = .genesisValidationErrorTextOnly) →
      e.lemma ≠ "" := by decide +kernel

/-- "block time comes from the header, never the wall clock": every `time.Now()` in x/ and app/ is a direct
    argument of a `telemetry.*` call -/
theorem C01_wall_clock_only_feeds_telemetry : ∀ c ∈ timeNowCalls, c.2.2 = "telemetry" := by decide

/-- "the same on every node" also means: independent of the HOST's time zone.  `time.Unix` & co. return times
    in `time.Local`; calendar fields (`Day`, `Hour`, `Month`, `AddDate`) of such a value differ between hosts.
    Every call that builds a time in the host's zone (or consults its zone database) in x/ and app/ is either
    converted to UTC at once or one of the reviewed sites below: the four `GetDeadline` methods of x/swap
    messages, whose result is only ever compared as an instant (`DeadlineExceeded`: `blockTime.Unix() >= Deadline`). -/
theorem C01_no_host_time_zone :
    ∀ c ∈ localTimeCalls, c.2.2.endsWith ":utc" = true ∨
      c ∈ [("x/swap/types/msg.go", "MsgDeposit.GetDeadline", "time.Unix:local"),
           ("x/swap/types/msg.go", "MsgWithdraw.GetDeadline", "time.Unix:local"),
           ("x/swap/types/msg.go", "MsgSwapExactForTokens.GetDeadline", "time.Unix:local"),
           ("x/swap/types/msg.go", "MsgSwapForExactTokens.GetDeadline", "time.Unix:local")] := by decide +kernel

/-- randomness appears only in the test helper and the client-side bep3 secret generator -/
theorem C01_no_randomness_in_consensus_code : ∀ r ∈ randUses, (r.1, r.2.1) ∈ randAllowed := by
  simp [randUses, randAllowed]

/-- no goroutine and no `select` in x/ and app/ -/
theorem C01_no_goroutines : goAndSelect = [] := by decide

/-- "no keeper-level caches": no package-level variable is written outside `init`, and every keeper field
    is a store key, codec, keeper, subspace, hook set or router, or one of the reviewed constructor-time
    constants -/
theorem C01_no_memory_only_state :
    pkgVarWrites = [] ∧
    ∀ f ∈ keeperFields, f.2.2 ∈ ["storeKey", "codec", "keeper", "subspace", "hooks", "router"] ∨
      (f.1, f.2.1) ∈ keeperFieldAllowed := by decide +kernel

/-- the only variables captured and written by invariant closures are the nine known sticky `broken` flags -/
theorem C01_sticky_closure_variables_reviewed : ∀ c ∈ invariantCaptures, c ∈ stickyAllowed := by
  simp [invariantCaptures, stickyAllowed]

/-- every `sort.*` call site has been reviewed for tie handling -/
theorem C01_sort_sites_reviewed : ∀ c ∈ sortCalls, sortSiteReviewed c.1 c.2.1 = true := by
  simp [sortCalls, sortSiteReviewed, sortReviewed]

/-- commutativeFold, general form: a fold whose step is right-commutative gives the same result for every
    permutation of the entries -/
theorem C01_fold_perm_invariant {α β : Type} (f : β → α → β) (hc : ∀ z x y, f (f z x) y = f (f z y) x)
    (l l' : List α) (h : l.Perm l') (a : β) : l.foldl f a = l'.foldl f a :=
  h.foldl_eq' (fun x _ y _ z => hc z x y) a

/-- sortedBeforeUse, general form: sorting by a total, transitive, antisymmetric order is canonical -/
theorem C01_sort_canonical {α : Type} (le : α → α → Bool)
    (htrans : ∀ a b c, le a b = true → le b c = true → le a c = true)
    (htotal : ∀ a b, (le a b || le b a) = true)
    (hanti : ∀ a b, le a b = true → le b a = true → a = b)
    (l l' : List α) (h : l.Perm l') : l.mergeSort le = l'.mergeSort le :=
  mergeSort_eq_of_perm htrans htotal h fun a b _ _ => hanti a b

/-- `ValuationMap.Sum` (x/hard/types/liquidation.go) -/
theorem C01_site_valuation_sum_perm_invariant (l l' : List (String × Int)) (h : l.Perm l') :
    valuationSum l = valuationSum l' := by
  unfold valuationSum
  exact C01_fold_perm_invariant _ (fun z x y => by omega) _ _ h 0

example : valuationSum [("bnb", 5), ("usdx", 7)] = valuationSum [("usdx", 7), ("bnb", 5)] := by decide

/-- second validator loop of `TallyHandler.Tally` (app/tally_handler.go) -/
theorem C01_site_tally_validators_perm_invariant (t0 : Tally) (l l' : List (String × ValEntry)) (h : l.Perm l') :
    tallyValidators t0 l = tallyValidators t0 l' := by
  unfold tallyValidators
  refine C01_fold_perm_invariant _ ?_ _ _ h t0
  intro z x y
  unfold tallyStep
  by_cases hx : x.2.voted <;> by_cases hy : y.2.voted <;>
    simp only [hx, hy, Bool.not_true, Bool.not_false, Bool.false_eq_true, ite_true, ite_false, Tally.mk.injEq] <;>
    omega

example : tallyValidators ⟨0, 0, 0, 0, 0⟩ [("v1", ⟨true, 3, 0, 0, 0, 3⟩), ("v2", ⟨false, 9, 9, 9, 9, 9⟩), ("v3", ⟨true, 0, 0, 2, 0, 2⟩)]
    = ⟨3, 0, 2, 0, 5⟩ := by decide

/-- `validateParamChangesAreAllowed`, loop over the incoming attributes (x/committee/types/permissions.go) -/
theorem C01_site_param_keys_known_perm_invariant (inCurrent : String → Bool)
    (l l' : List (String × String)) (h : l.Perm l') : keysAllKnown inCurrent l = keysAllKnown inCurrent l' := by
  rw [keysAllKnown_eq_all, keysAllKnown_eq_all]
  exact h.all_eq

/-- `validateParamChangesAreAllowed`, loop over the current attributes (x/committee/types/permissions.go) -/
theorem C01_site_param_changes_allowed_perm_invariant (allowed : String → Bool) (incoming : String → Option String)
    (l l' : List (String × String)) (h : l.Perm l') :
    paramChangesAllowed allowed incoming l = paramChangesAllowed allowed incoming l' := by
  rw [paramChangesAllowed_eq_all, paramChangesAllowed_eq_all]
  exact h.all_eq

/-- swap `PoolSharesInvariant` and earn `VaultSharesInvariant` (invariant routes) -/
theorem C01_site_shares_invariant_perm_invariant (b0 : Bool) (l l' : List (String × Int × Int)) (h : l.Perm l') :
    sharesBroken b0 l = sharesBroken b0 l' := by
  rw [sharesBroken_eq_any, sharesBroken_eq_any, h.any_eq]

/-- swap `GenesisState.Validate`: whether genesis is accepted does not depend on the order … -/
theorem C01_site_swap_genesis_accept_perm_invariant (l l' : List (String × Int × Int)) (h : l.Perm l') :
    (swapGenesisCheck l).isSome = (swapGenesisCheck l').isSome := by
  rw [swapGenesisCheck_isSome, swapGenesisCheck_isSome, h.any_eq]

/-- … but the error text (which pool is named) does: two mismatching pools, two orders, two texts.
    Only reached while validating a genesis file (InitChain panics on either text, before any state exists). -/
theorem C01_site_swap_genesis_text_counterexample :
    ∃ l l' : List (String × Int × Int), l.Perm l' ∧ swapGenesisCheck l ≠ swapGenesisCheck l' :=
  ⟨[("a:b", 1, 2), ("c:d", 3, 4)], [("c:d", 3, 4), ("a:b", 1, 2)], by decide, by decide⟩

/-- `ValuationMap.GetSortedKeys`, `removeDuplicates`, `accumulateEarnBkavaRewards`: keys then `sort.Strings` -/
theorem C01_site_sorted_keys_perm_invariant {α : Type} (l l' : List (String × α)) (h : l.Perm l') :
    sortedKeys l = sortedKeys l' := by
  unfold sortedKeys
  exact C01_sort_canonical sle sle_trans sle_total sle_antisymm _ _ (h.map _)

example : sortedKeys [("usdx", 1), ("bnb", 2), ("kava", 3)] = sortedKeys [("kava", 3), ("usdx", 1), ("bnb", 2)] :=
  C01_site_sorted_keys_perm_invariant _ _ (by decide)

/-- `NewSelectionsFromMap` (x/incentive/types/multipliers.go) -/
theorem C01_site_selections_perm_invariant (l l' : List (String × String)) (h : l.Perm l') :
    selections l = selections l' := by
  unfold selections
  exact C01_sort_canonical selLe selLe_trans selLe_total selLe_antisymm _ _ h

/-- `bkavaByDenom.toCoins` (app/tally_handler.go): for any `Coins.Add` that returns some arrangement of the
    old coins plus the new one (denoms are distinct map keys), the final `Sort()` makes the result canonical -/
theorem C01_site_toCoins_perm_invariant (add : List (String × Int) → String × Int → List (String × Int))
    (hadd : ∀ cs c, (add cs c).Perm (c :: cs))
    (l l' : List (String × Int)) (hk : (l.map (·.1)).Nodup) (h : l.Perm l') :
    toCoins add l = toCoins add l' := by
  unfold toCoins
  have p1 := foldl_add_perm add hadd l []
  have p2 := foldl_add_perm add hadd l' []
  rw [List.append_nil] at p1 p2
  -- `coinLe` is antisymmetric on the entries because their denoms are pairwise distinct
  exact mergeSort_eq_of_perm (le := coinLe) (fun a b c => sle_trans a.1 b.1 c.1) (fun a b => sle_total a.1 b.1)
    (p1.trans (h.trans p2.symm)) fun a b ha hb hab hba =>
      eq_of_nodup_keys hk (p1.subset ha) (p1.subset hb) (sle_antisymm _ _ hab hba)

example : toCoins (fun cs c => c :: cs) [("bkava-b", 2), ("bkava-a", 1)] = toCoins (fun cs c => c :: cs) [("bkava-a", 1), ("bkava-b", 2)] :=
  C01_site_toCoins_perm_invariant _ (fun _ _ => Perm.refl _) _ _ (by decide) (by decide)

end KV.Det
