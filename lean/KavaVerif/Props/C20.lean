/-
  C20 — Time-locked reward payouts unlock exactly on schedule; schedules stay valid.

  "A reward claimed with a lock-up is delivered so that the claimed coins become spendable exactly at the
   lock-up end and not before, while coins the recipient already held and the unlock times of previously
   locked coins are unchanged. The recipient's vesting schedule stays well formed: period amounts sum to
   the total originally locked and period lengths sum to end time minus start time. Payouts to module
   accounts or continuously vesting accounts, or exceeding the incentive account's balance, are refused
   without moving funds."

  Model: KavaVerif/Model/Vesting.lean (payout.go `SendTimeLockedCoinsToAccount`,
  `addCoinsToVestingSchedule`, `GetPeriodLength`; the SDK's periodic `GetVestedCoins`/`LockedCoins`; the
  bank's `spendableCoins`; a civil-calendar model).  The pay-day constants are the ones regenerated from
  payout.go (`KV.Gen.incentive…`).  Only property statements live here; helper lemmas are in
  KavaVerif/Proofs/Vesting.lean and KavaVerif/Proofs/VestingCalendar.lean.

  Quantification: every theorem is for all accounts (any number of periods, any lengths and amounts
  satisfying `WF`), all block times `now` (before the start, inside, on a boundary, after the end), all
  lock-up lengths `> 0`, all observation times `t ≥ now`, all denoms `d`, all amounts.
-/
import KavaVerif.Proofs.Vesting
import KavaVerif.Proofs.VestingCalendar
set_option linter.unusedVariables false

namespace KV.Vest

/-! ## "the claimed coins become spendable exactly at the lock-up end and not before, while … the unlock
        times of previously locked coins are unchanged" -/

/-- Schedule level (`GetVestingCoins`): after `addCoinsToVestingSchedule` the coins still vesting at any
    time `t ≥ now` are exactly the old ones plus the claimed coins until `now + length`.  All five
    branches of the merge (schedule finished, not yet started, lock-up beyond the end, on a period
    boundary, inside a period), for every layout. -/
theorem C20_unlock_exact (now : Int) (a : PVA) (amt : Coins) (length : Int)
    (hwf : WF a) (hlen : 0 < length) (t : Int) (ht : now ≤ t) (d : Denom) :
    vesting (addCoins now a amt length) t d =
      vesting a t d + (if t < now + length then amt d else 0) :=
  addCoins_vesting now a amt length hwf hlen t d

/-- a base account is converted: its vesting coins are exactly the claimed coins until `now + length`
    (for every `t`, also before `now`) -/
theorem C20_unlock_exact_base (now : Int) (amt : Coins) (length : Int) (hlen : 0 < length) (t : Int) (d : Denom) :
    vesting (newPVA now amt length) t d = if t < now + length then amt d else 0 :=
  newPVA_vesting now amt length hlen t d

/-- "all … repeated claims": after any history of payouts (each with its own block time, coins and
    lock-up), at any time not before the payouts, the vesting coins are the original ones plus exactly
    those claimed coins whose lock-up has not ended. -/
theorem C20_unlock_exact_history (a : PVA) (cs : List Claim) (hwf : WF a) (hlen : ∀ c ∈ cs, 0 < c.length)
    (t : Int) (ht : ∀ c ∈ cs, c.now ≤ t) (d : Denom) :
    vesting (applyClaims a cs) t d = vesting a t d + stillLocked t cs d :=
  applyClaims_vesting cs a hwf hlen t d

/-- a concrete three-period account (start 100, end 130; 5 + 7 + 11 of denom 0, 2 of denom 1) used as
    witness that the hypotheses are satisfiable -/
def exAcct : PVA :=
  { start := 100, endT := 130,
    ov := fun d => if d = 0 then 23 else if d = 1 then 2 else 0,
    dv := fun _ => 0,
    periods := [⟨10, fun d => if d = 0 then 5 else 0⟩, ⟨10, fun d => if d = 0 then 7 else if d = 1 then 2 else 0⟩,
                ⟨10, fun d => if d = 0 then 11 else 0⟩] }

theorem C20_witness_wf : WF exAcct := by
  refine ⟨by decide, ⟨by decide, by decide, by decide, trivial⟩, by decide, ?_⟩
  intro d
  simp only [exAcct, totalAmt]
  split
  · rename_i h; subst h; simp
  · split
    · rename_i h; subst h; simp
    · rename_i h1 h2; simp

/-- non-vacuity: inside a period (now = 112, unlock at 117 splits the second period) -/
example : (addCoins 112 exAcct (fun _ => 9) 5).periods.map (·.length) = [10, 7, 3, 10] := by decide
/-- non-vacuity: on a boundary, beyond the end, before the start, after the end -/
example : (addCoins 112 exAcct (fun _ => 9) 8).periods.map (·.length) = [10, 10, 10] := by decide
example : (addCoins 112 exAcct (fun _ => 9) 30).periods.map (·.length) = [10, 10, 10, 12] := by decide
example : (addCoins 90 exAcct (fun _ => 9) 15).periods.map (·.length) = [15, 5, 10, 10] := by decide
example : (addCoins 140 exAcct (fun _ => 9) 5).periods.map (·.length) = [10, 10, 10, 15] := by decide

/-! ## "The recipient's vesting schedule stays well formed" -/

/-- `WF` = start before end, all lengths positive, Σ lengths = end − start, Σ amounts = original vesting;
    preserved by every payout, and the original vesting grows by exactly the claimed coins. -/
theorem C20_wellformed_preserved (now : Int) (a : PVA) (amt : Coins) (length : Int)
    (hwf : WF a) (hlen : 0 < length) :
    WF (addCoins now a amt length) ∧ (∀ d, (addCoins now a amt length).ov d = a.ov d + amt d) ∧
    (addCoins now a amt length).dv = a.dv :=
  ⟨addCoins_WF now a amt length hwf hlen, fun d => by rw [addCoins_ov]; rfl, addCoins_dv now a amt length⟩

theorem C20_wellformed_base (now : Int) (amt : Coins) (length : Int) (hlen : 0 < length) :
    WF (newPVA now amt length) ∧ (newPVA now amt length).ov = amt :=
  ⟨newPVA_WF now amt length hlen, rfl⟩

theorem C20_wellformed_history (a : PVA) (cs : List Claim) (hwf : WF a) (hlen : ∀ c ∈ cs, 0 < c.length) :
    WF (applyClaims a cs) ∧ ∀ d, (applyClaims a cs).ov d = a.ov d + (cs.map (fun c => c.amt d)).sum :=
  ⟨applyClaims_WF cs a hwf hlen, fun d => applyClaims_ov cs a d⟩

/-- The hypothesis `start < end` (which `PeriodicVestingAccount.Validate` enforces, and which makes the
    period list non-empty) is needed: on an empty schedule whose start lies in the future the merge loop
    has nothing to insert into and the claimed coins are not locked at all. Such an account cannot be
    produced by genesis validation, by the (ante-blocked) vesting messages or by this module. -/
theorem C20_wellformed_needs_periods :
    let a : PVA := ⟨50, 50, fun _ => 0, fun _ => 0, []⟩
    (addCoins 10 a (fun _ => 9) 5).periods.length = 0 ∧ (addCoins 10 a (fun _ => 9) 5).ov 0 = 9 := by
  decide

/-! ## bank level: `LockedCoins` and spendable coins -/

/- Full statement (false on the current code, which is the SDK's delegated-vesting accounting):
     ∀ now a amt length t d, WF a → 0 < length → now ≤ t → 0 ≤ amt d →
       locked (addCoins now a amt length) t d = locked a t d + (if t < now + length then amt d else 0)
   `LockedCoins = vesting − min(vesting, DelegatedVesting)`: when the account has more coins recorded as
   delegated-vesting than are still vesting (it staked locked coins that have since vested and never
   unbonded them), the surplus absorbs newly locked coins, so they are spendable at once. -/
theorem C20_locked_exact_counterexample :
    ¬ (∀ (now : Int) (a : PVA) (amt : Coins) (length t : Int) (d : Denom),
        WF a → 0 < length → now ≤ t → 0 ≤ amt d →
        locked (addCoins now a amt length) t d = locked a t d + (if t < now + length then amt d else 0)) := by
  intro h
  have hwf : WF ⟨0, 10, fun _ => 100, fun _ => 100, [⟨10, fun _ => 100⟩]⟩ :=
    ⟨by decide, ⟨by decide, trivial⟩, by decide, fun _ => by simp [totalAmt]⟩
  have := h 20 ⟨0, 10, fun _ => 100, fun _ => 100, [⟨10, fun _ => 100⟩]⟩ (fun _ => 50) 5 20 0
    hwf (by decide) (by decide) (by decide)
  revert this
  decide

/-- strongest true statement (1): if the delegated-vesting record does not exceed the coins still vesting
    at `t`, the bank-level lock at `t` grows by exactly the claimed coins until `now + length`. -/
theorem C20_locked_exact_partial (now : Int) (a : PVA) (amt : Coins) (length : Int)
    (hwf : WF a) (hlen : 0 < length) (t : Int) (ht : now ≤ t) (d : Denom)
    (hamt : 0 ≤ amt d) (hdv : a.dv d ≤ vesting a t d) :
    locked (addCoins now a amt length) t d =
      locked a t d + (if t < now + length then amt d else 0) :=
  (locked_add (addCoins_vesting now a amt length hwf hlen t d) (addCoins_dv now a amt length) (by omega)).2.2 hdv

/-- strongest true statement (2), unconditional: no previously locked coin is released earlier, never more
    than the claimed coins is added, and nothing is added from `now + length` on. -/
theorem C20_locked_bounds (now : Int) (a : PVA) (amt : Coins) (length : Int)
    (hwf : WF a) (hlen : 0 < length) (t : Int) (ht : now ≤ t) (d : Denom) (hamt : 0 ≤ amt d) :
    locked a t d ≤ locked (addCoins now a amt length) t d ∧
    locked (addCoins now a amt length) t d ≤ locked a t d + (if t < now + length then amt d else 0) :=
  have h := locked_add (addCoins_vesting now a amt length hwf hlen t d) (addCoins_dv now a amt length) (by omega)
  ⟨h.1, h.2.1⟩

/-- non-vacuity of the partial statement: the witness account has nothing delegated, and its vesting
    coins are never negative (denom 0 at t = 112: 23 − 5 = 18 still vesting) -/
example : exAcct.dv 0 ≤ vesting exAcct 112 0 ∧ vesting exAcct 112 0 = 18 := by decide

/-! ## `SendTimeLockedCoinsToAccount`: dispatch, refusals, frame -/

/-- "exceeding the incentive account's balance [is] refused": checked first, for every recipient kind,
    lock-up or not. (A refusal is `.err` here: this transactional model carries no post-state for it. That
    the keeper call itself has moved nothing when it returns the error is `C20_refused_no_move` below, over
    the rollback-free model `sendTimeLockedK`, and is evaluated on the implementation by the harness.) -/
theorem C20_dispatch_insufficient (now : Int) (w : World) (amt : Coins) (length : Int)
    (h : isAllGTE w.modBal amt = false) : sendTimeLocked now w amt length = .err := by
  rw [sendTimeLocked_eq, accepts, h]
  rfl

/-- "Payouts to module accounts or continuously vesting accounts … are refused": with a lock-up, every
    recipient other than a base account or a periodic vesting account is refused (module, continuous,
    delayed, permanent-locked, any other account type, no account). -/
theorem C20_dispatch_refused (now : Int) (w : World) (amt : Coins) (length : Int) (hl : length ≠ 0) :
    (w.acct = .module ∨ w.acct = .continuous ∨ w.acct = .delayed ∨ w.acct = .permanent ∨
      w.acct = .other ∨ w.acct = .none) → sendTimeLocked now w amt length = .err := by
  intro h
  have hk : w.acct.lockable = false := by
    rcases h with h | h | h | h | h | h <;> rw [h] <;> rfl
  simp only [sendTimeLocked_eq, accepts, hl, hk, ite_false, Bool.and_false, Bool.false_eq_true]

/-- recipients on the bank's blocked list are refused -/
theorem C20_dispatch_blocked (now : Int) (w : World) (amt : Coins) (length : Int)
    (hb : w.blocked = true) : sendTimeLocked now w amt length = .err := by
  simp only [sendTimeLocked_eq, accepts, hb, Bool.not_true, Bool.and_false, Bool.false_and, Bool.false_eq_true,
    ite_false]

/-- every other payout with a lock-up succeeds, moves exactly `amt` from the module account to the
    recipient, and turns the recipient into the periodic vesting account described above. -/
theorem C20_dispatch_ok (now : Int) (w : World) (amt : Coins) (length : Int)
    (hl : length ≠ 0) (hs : isAllGTE w.modBal amt = true) (hb : w.blocked = false)
    (hk : w.acct = .base ∨ ∃ a, w.acct = .periodic a) :
    sendTimeLocked now w amt length =
      .ok { w with modBal := Coins.sub w.modBal amt, bal := Coins.add w.bal amt,
                   acct := w.acct.after now amt length } := by
  simp only [sendTimeLocked_eq, accepts, paid, hl, hs, hb, (lockable_iff _).2 hk, ite_false, Bool.not_false,
    Bool.and_self, ite_true]

/-- success and refusal are exhaustive and exclusive for a lock-up payout -/
theorem C20_dispatch_iff (now : Int) (w : World) (amt : Coins) (length : Int) (hl : length ≠ 0) :
    (sendTimeLocked now w amt length).isOk = true ↔
      (isAllGTE w.modBal amt = true ∧ w.blocked = false ∧ w.acct.lockable = true) := by
  have e : (if accepts w amt length then Res.ok (paid now w amt length) else Res.err).isOk = accepts w amt length := by
    cases accepts w amt length <;> rfl
  rw [sendTimeLocked_eq, e]
  simp only [accepts, hl, ite_false, Bool.and_eq_true, Bool.not_eq_true', and_assoc]

/-- a concrete world: module account holds (500, 40), recipient holds (7, 0) -/
def exWorld (k : Acct) (blocked : Bool) : World :=
  { modBal := fun d => if d = 0 then 500 else if d = 1 then 40 else 0,
    bal := fun d => if d = 0 then 7 else 0, acct := k, blocked := blocked }
def exAmt : Coins := fun d => if d = 0 then 9 else if d = 1 then 40 else 0

/-- non-vacuity: each clause of the dispatch theorems is met by a concrete payout -/
example : (sendTimeLocked 112 (exWorld (.periodic exAcct) false) exAmt 5).isOk = true := by decide
example : (sendTimeLocked 112 (exWorld .base false) exAmt 5).isOk = true := by decide
example : (sendTimeLocked 112 (exWorld .continuous false) exAmt 5).isOk = false := by decide
example : (sendTimeLocked 112 (exWorld .module false) exAmt 5).isOk = false := by decide
example : (sendTimeLocked 112 (exWorld .module false) exAmt 0).isOk = true := by decide
example : (sendTimeLocked 112 (exWorld .base true) exAmt 5).isOk = false := by decide
example : isAllGTE (exWorld .base false).modBal (fun d => if d = 1 then 41 else 0) = false ∧
    (sendTimeLocked 112 (exWorld .base false) (fun d => if d = 1 then 41 else 0) 5).isOk = false := by decide

/-! ## Refusals move nothing — on the keeper's own context, without any rollback

`sendTimeLockedK` returns what the keeper's context holds after the call. The bank underneath debits the
sender coin by coin and stores every new balance before it looks at the next coin (`subUnlockedFrom`), so a
bank-level failure in the middle of a multi-denom amount leaves earlier denoms debited. -/

/-- "… exceeding the incentive account's balance are refused without moving funds": EVERY refusal of the
    keeper call (whatever the reason: module balance short in any denom, recipient blocked, missing or of a
    refused kind; any lock-up length incl. 0; amounts with any number of denoms) leaves the module account's
    balances, the recipient's balances and the recipient's account (type, vesting schedule) exactly as they
    were. No rollback is assumed. -/
theorem C20_refused_no_move (now : Int) (w : World) (amt : Coins) (length : Int)
    (h : (sendTimeLockedK now w amt length).2 = false) : (sendTimeLockedK now w amt length).1 = w := by
  rw [sendTimeLockedK_eq] at h ⊢
  split at h
  · cases h
  · rw [if_neg ‹_›]

/-- multi-denom amounts: exceeding the module account's balance in ANY ONE denom (the denom may be absent
    from the module account altogether, the other denoms may be amply covered) ⇒ error and state unchanged,
    for every recipient kind and every lock-up length -/
theorem C20_refused_exceeds_any_denom (now : Int) (w : World) (amt : Coins) (length : Int)
    (d : Denom) (hd : d < ND) (h : w.modBal d < amt d) :
    sendTimeLockedK now w amt length = (w, false) := by
  rw [sendTimeLockedK_eq, accepts, isAllGTE_false_of_lt w.modBal amt d hd h]
  rfl

/-- the rollback-free semantics and the transactional one (`sendTimeLocked`, used by the dispatch theorems)
    agree: same verdict, and on success the same post-state -/
theorem C20_keeper_context_refines (now : Int) (w : World) (amt : Coins) (length : Int)
    (hsupp : ∀ d, ND ≤ d → amt d = 0) :
    sendTimeLocked now w amt length =
      if (sendTimeLockedK now w amt length).2 then .ok (sendTimeLockedK now w amt length).1 else .err := by
  rw [sendTimeLocked_eq, sendTimeLockedK_eq]
  cases accepts w amt length
  · rfl
  · -- outside the denom universe nothing is debited
    have e : (fun e => if e < ND then w.modBal e - amt e else w.modBal e) = Coins.sub w.modBal amt := by
      funext e
      unfold Coins.sub
      split
      · rfl
      · rw [hsupp e (Nat.le_of_not_lt ‹_›), Int.sub_zero]
    simp only [ite_true, e]
    rfl

/-- module account holds 1000 of denom 0 and nothing else; the payout asks for 100 of denom 0 and 100 of denom 2 -/
def gapWorld (k : Acct) : World :=
  { modBal := fun d => if d = 0 then 1000 else 0, bal := fun _ => 0, acct := k, blocked := false }
def gapAmt : Coins := fun d => if d = 0 then 100 else if d = 2 then 100 else 0

/-- The guard over ALL denoms is what makes the refusal clean: the bank on its own, given the same
    over-balance two-denom amount, answers with an error *after* it has debited the covered denom (the module
    account is left with 900, the recipient got nothing). A guard that lets an amount through whose denom is
    absent from the module account therefore breaks `C20_refused_no_move`. -/
theorem C20_bank_alone_moves_funds_on_refusal :
    (bankSendK (gapWorld .base) gapAmt).2 = false ∧ (bankSendK (gapWorld .base) gapAmt).1.modBal 0 = 900 ∧
      (bankSendK (gapWorld .base) gapAmt).1.bal 0 = 0 := by decide

/-- non-vacuity: the keeper refuses that payout for base and periodic recipients, with and without a
    lock-up, and its context still holds the 1000 -/
example : (sendTimeLockedK 112 (gapWorld .base) gapAmt 5).2 = false ∧
    (sendTimeLockedK 112 (gapWorld .base) gapAmt 5).1.modBal 0 = 1000 := by decide
example : (sendTimeLockedK 112 (gapWorld (.periodic exAcct)) gapAmt 5).2 = false ∧
    (sendTimeLockedK 112 (gapWorld (.periodic exAcct)) gapAmt 0).2 = false ∧
    (sendTimeLockedK 112 (gapWorld (.periodic exAcct)) gapAmt 0).1.modBal 0 = 1000 := by decide
/-- … and a covered multi-denom payout goes through in the rollback-free semantics as well -/
example : (sendTimeLockedK 112 (exWorld .base false) exAmt 5).2 = true ∧
    (sendTimeLockedK 112 (exWorld .base false) exAmt 5).1.modBal 0 = 491 ∧
    (sendTimeLockedK 112 (exWorld .base false) exAmt 5).1.modBal 1 = 0 ∧
    (sendTimeLockedK 112 (exWorld .base false) exAmt 5).1.bal 1 = 40 := by decide

/-- Keeper level, all together: a successful lock-up payout to a base account or a well-formed periodic
    vesting account leaves the recipient with a well-formed periodic vesting account whose vesting coins at
    every `t ≥ now` are the previous ones plus the claimed coins until `now + length`; the module account
    pays exactly `amt` and the recipient's balance grows by exactly `amt`. -/
theorem C20_payout (now : Int) (w w' : World) (amt : Coins) (length : Int) (hlen : 0 < length)
    (hwf : ∀ a, w.acct = .periodic a → WF a)
    (hok : sendTimeLocked now w amt length = .ok w') :
    (∀ t d, now ≤ t → w'.acct.vesting t d = w.acct.vesting t d + (if t < now + length then amt d else 0)) ∧
    (∃ a', w'.acct = .periodic a' ∧ WF a') ∧
    (∀ d, w'.modBal d = w.modBal d - amt d) ∧ (∀ d, w'.bal d = w.bal d + amt d) := by
  have hl : length ≠ 0 := by omega
  rw [sendTimeLocked_eq] at hok
  cases hacc : accepts w amt length <;> rw [hacc] at hok
  · exact absurd hok (by simp only [reduceCtorEq, Bool.false_eq_true, ite_false, not_false_eq_true])
  · injection hok with hok
    subst hok
    simp only [accepts, hl, ite_false, Bool.and_eq_true] at hacc
    simp only [paid, hl, ite_false]
    rcases (lockable_iff _).1 hacc.2 with h | ⟨a, h⟩ <;> rw [h]
    · exact ⟨fun t d _ => (newPVA_vesting now amt length hlen t d).trans (Int.zero_add _).symm,
        ⟨_, rfl, newPVA_WF now amt length hlen⟩, fun d => rfl, fun d => rfl⟩
    · exact ⟨fun t d _ => addCoins_vesting now a amt length (hwf a h) hlen t d,
        ⟨_, rfl, addCoins_WF now a amt length (hwf a h) hlen⟩, fun d => rfl, fun d => rfl⟩

/-- "coins the recipient already held … are unchanged": at every `t ≥ now` the spendable coins (bank rule
    `balance − LockedCoins`) are the previous spendable coins, plus the claimed coins from `now + length`
    on. Stated for accounts whose delegated-vesting record does not exceed their vesting coins (see
    `C20_locked_exact_counterexample`) and whose locked coins are covered by the balance (bank invariant). -/
theorem C20_held_coins_untouched (now : Int) (a : PVA) (bal amt : Coins) (length : Int)
    (hwf : WF a) (hlen : 0 < length) (t : Int) (ht : now ≤ t)
    (hamt : ∀ e, 0 ≤ amt e) (hdv : ∀ e, a.dv e ≤ vesting a t e) (hbal : ∀ e, locked a t e ≤ bal e) (d : Denom) :
    spendable (Coins.add bal amt) (locked (addCoins now a amt length) t) d =
      spendable bal (locked a t) d + (if t < now + length then 0 else amt d) := by
  have hl : ∀ e, locked (addCoins now a amt length) t e = locked a t e + (if t < now + length then amt e else 0) :=
    fun e => C20_locked_exact_partial now a amt length hwf hlen t ht e (hamt e) (hdv e)
  rw [spendable_noNeg bal (locked a t) hbal d,
      spendable_noNeg (Coins.add bal amt) (locked (addCoins now a amt length) t)
        (by intro e; rw [hl e]; have := hbal e; have := hamt e; simp only [Coins.add]; split <;> omega) d,
      hl d]
  simp only [Coins.add]
  split <;> omega

/-! ## pay days: `GetPeriodLength` -/

namespace Cal

/-- the pay-day constants of the property prose are the ones in payout.go -/
theorem C20_payday_constants : BeginningOfMonth = 1 ∧ MidMonth = 15 ∧ PaymentHour = 14 := by decide

/-- "pay dates are always the 1st or 15th of the month at 14:00 UTC": for a positive number of months the
    end of the lock-up `now + GetPeriodLength(now, months)` is, in the model calendar, the 15th (when `now`
    is before the 15th 14:00 of its month) or the 1st (otherwise) of the month `months` (resp. `months+1`)
    months after the month of `now`, at 14:00:00. -/
theorem C20_payday (now months : Int) (hm : 0 < months) :
    ∃ len, getPeriodLength now months = .ok len ∧
      civilFromDays ((now + len) / 86400) = ⟨(payMonthOf now months).1, (payMonthOf now months).2, payDayOf now⟩ ∧
      (payDayOf now = 1 ∨ payDayOf now = 15) ∧
      (now + len) % 86400 = 14 * 3600 ∧
      12 * (payMonthOf now months).1 + (payMonthOf now months).2 =
        12 * (civilFromDays (now / 86400)).y + (civilFromDays (now / 86400)).m + months + payOffOf now ∧
      1 ≤ (payMonthOf now months).2 ∧ (payMonthOf now months).2 ≤ 12 := by
  refine ⟨payDate now months - now, getPeriodLength_pos now months hm, ?_⟩
  rw [show now + (payDate now months - now) = payDate now months by omega]
  obtain ⟨c1, c2⟩ := payDate_civil now months
  obtain ⟨n1, n2, n3⟩ := payMonthOf_index now months
  refine ⟨c1, ?_, by rw [c2, Hour_val], by omega, n2, n3⟩
  rcases pay_cases now with h | h
  · exact Or.inr h.1
  · exact Or.inl h.1

/-- the lock-up is strictly positive: the pay date lies strictly after the block time -/
theorem C20_payday_after (now months : Int) (hm : 0 < months) :
    ∃ len, getPeriodLength now months = .ok len ∧ 0 < len := by
  have := payDate_after now months hm
  exact ⟨payDate now months - now, getPeriodLength_pos now months hm, by omega⟩

/-- monotone in the number of months (strictly: each extra month adds at least 28 days); zero months is
    no lock-up; negative months panic -/
theorem C20_payday_monotone (now m1 m2 : Int) (h0 : 0 ≤ m1) (h : m1 ≤ m2) :
    ∃ l1 l2, getPeriodLength now m1 = .ok l1 ∧ getPeriodLength now m2 = .ok l2 ∧ l1 ≤ l2 ∧
      (0 < m1 → l1 + 28 * 86400 * (m2 - m1) ≤ l2) := by
  have ha : 0 < m2 → now < payDate now m2 := payDate_after now m2
  have hm := payDate_mono now m1 m2 h
  exact ⟨_, _, getPeriodLength_nonneg now m1 h0, getPeriodLength_nonneg now m2 (by omega), by omega, by omega⟩

theorem C20_payday_zero_and_negative (now months : Int) :
    (months = 0 → getPeriodLength now months = .ok 0) ∧ (months < 0 → getPeriodLength now months = .panic) := by
  unfold getPeriodLength
  constructor
  · intro h; subst h; rfl
  · intro h; simp only [h, ite_true]

/-- the calendar model used above is the proleptic Gregorian calendar: day numbers and civil dates are in
    bijection, day 0 is 1970-01-01, and months have their Gregorian lengths (leap years by the
    4/100/400 rule) -/
theorem C20_calendar (z y m d : Int) :
    daysFromCivil (civilFromDays z).y (civilFromDays z).m (civilFromDays z).d = z ∧
    (1 ≤ m → m ≤ 12 → 1 ≤ d → d ≤ daysInMonth y m → civilFromDays (daysFromCivil y m d) = ⟨y, m, d⟩) ∧
    daysFromCivil 1970 1 1 = 0 ∧
    daysFromCivil y m (d + 1) = daysFromCivil y m d + 1 ∧
    (1 ≤ m → m ≤ 11 → daysFromCivil y (m + 1) 1 = daysFromCivil y m 1 + daysInMonth y m) ∧
    daysFromCivil (y + 1) 1 1 = daysFromCivil y 12 1 + 31 :=
  ⟨daysFromCivil_civilFromDays z, civilFromDays_daysFromCivil y m d, epoch, next_day y m d,
   month_length y m, december_length y⟩

/-- non-vacuity / sanity on literals: 2024-01-01 00:00 with 1 month pays 2024-02-15 14:00;
    2024-01-15 14:00 with 1 month pays 2024-03-01 14:00 -/
example : getPeriodLength 1704067200 1 = .ok (1708005600 - 1704067200) := by decide
example : getPeriodLength 1705327200 1 = .ok (1709301600 - 1705327200) := by decide
example : getPeriodLength 1705327199 12 = .ok (1736949600 - 1705327199) := by decide

end Cal

end KV.Vest
