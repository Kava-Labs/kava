/-
  C14 — Genesis export/import round-trips every reachable state.

  "For any reachable state, exporting genesis and initialising a fresh chain from it passes validation and
   reproduces the same state of every Kava module … re-exporting yields identical genesis apart from records
   that are inert by construction …, and all invariants hold. The imported chain then behaves like the
   original …"

  Theorems: for the simple modules precisebank, savings, swap and bep3 the export / validate / import
  functions are transcribed (Model/GenesisModels.lean) and the round trip is proved for every state that
  satisfies the module's invariant: validation accepts the export, import succeeds, and the imported state
  IS the original state — primary records are rewritten in store order and the derived indexes (bep3's
  by-block and long-term indexes) are functions of the primary records. Re-export is then identical.
  Each theorem comes with a concrete non-trivial state (non-vacuity) and, for the import-time balance /
  supply checks, a rejected state showing the hypothesis is needed.
  The second half (Model/GenesisMore.lean) adds kavadist, community, issuance, auction, committee, incentive
  (one reward kind), hard, pricefeed and cdp in the same style.
  PARTIAL: earn, evmutil and every SDK module, JSON/protobuf serialisation and InitChain plumbing are
  NOT modelled; they are only explored by the history runner (harness/cmd/c14): real export → validation →
  InitChain on a fresh app → re-export compared module by module → common follow-up blocks → invariants.

  Only property statements live here; helper lemmas are in KavaVerif/Proofs/GenesisModels.lean and
  KavaVerif/Proofs/GenesisMore.lean.
-/
import KavaVerif.Proofs.GenesisModels
import KavaVerif.Proofs.GenesisMore
import KavaVerif.Model.BlockSafety
set_option linter.unusedSimpArgs false
set_option linter.unusedVariables false

namespace KV.Gx
open List

/-- the generated conversion factor is the 10^12 of the property text -/
theorem C14_conversion_factor : C = 10 ^ 12 := by decide

/-- "import order respects cross-module reads" (app/app.go SetOrderInitGenesis, regenerated): accounts and
    balances exist before any Kava module is imported, x/bank before precisebank compares its reserve,
    pricefeed before cdp reads prices, cdp before incentive reads cdp params, savings/hard before earn's
    strategies, and the crisis module (which asserts all invariants at genesis) last -/
theorem C14_import_order :
    let o := KV.Gen.C02.initGenesisOrder
    KV.Safe.before o "authtypes.ModuleName" "banktypes.ModuleName" = true ∧
    KV.Safe.before o "banktypes.ModuleName" "kavadisttypes.ModuleName" = true ∧
    KV.Safe.before o "banktypes.ModuleName" "precisebanktypes.ModuleName" = true ∧
    KV.Safe.before o "pricefeedtypes.ModuleName" "cdptypes.ModuleName" = true ∧
    KV.Safe.before o "cdptypes.ModuleName" "incentivetypes.ModuleName" = true ∧
    KV.Safe.before o "hardtypes.ModuleName" "earntypes.ModuleName" = true ∧
    KV.Safe.before o "savingstypes.ModuleName" "earntypes.ModuleName" = true ∧
    KV.Safe.before o "precisebanktypes.ModuleName" "crisistypes.ModuleName" = true ∧
    o.getLast? = some "crisistypes.ModuleName" := by decide +kernel

/-- export → validate → import reproduces the state, for every state satisfying the C03 invariant
    (`reserve` = the module account's ukava balance, exported and imported by x/bank) -/
theorem C14_precisebank_roundtrip (s : PBState) (reserve : Int) (h : PBInv s reserve) :
    pbValidate (pbExport s) = true ∧ pbInit (pbExport s) reserve = some s := by
  obtain ⟨hs, hr, h0, h1, hres⟩ := h
  have ht : pbTotal (pbExport s) = reserve * C := hres.symm
  refine init_roundtrip ?_ ?_
  · unfold pbValidate
    rw [ht, Int.mul_emod_left]
    unfold pbExport
    simp only [Bool.and_eq_true, List.all_eq_true, decide_eq_true_eq, and_assoc, and_true]
    exact ⟨hr, noDup_of_sorted hs, h0, h1⟩
  · rw [ht]
    simp only [pbExport, fromList_sorted _ hs, bne_self_eq_false, Bool.false_eq_true, ite_false]

/-- re-export after import is the identical document -/
theorem C14_precisebank_reexport (s s' : PBState) (reserve : Int) (h : PBInv s reserve)
    (hi : pbInit (pbExport s) reserve = some s') : pbExport s' = pbExport s := by
  rw [(C14_precisebank_roundtrip s reserve h).2] at hi
  cases hi; rfl

/-- non-vacuity: two fractional balances, a remainder, reserve 1 ukava -/
example : PBInv ⟨[(3, 400000000000), (7, 599999999990)], 10⟩ 1 := by
  unfold PBInv Sorted; decide

/-- the reserve hypothesis is needed: import refuses a state whose reserve does not back the fractions -/
theorem C14_precisebank_unbacked_rejected :
    pbInit (pbExport ⟨[(3, 400000000000), (7, 600000000000)], 0⟩) 2 = none := by decide

theorem C14_savings_roundtrip (s : SavState) (h : SavInv s) :
    savValidate (savExport s) = true ∧ savInit (savExport s) = some s := by
  obtain ⟨hd, hs, hc⟩ := h
  refine init_roundtrip ?_ ?_
  · unfold savValidate savExport
    simp only [Bool.and_eq_true, List.all_eq_true, and_assoc]
    exact ⟨hd, hc, noDup_of_sorted hs⟩
  · simp only [savExport, fromList_sorted _ hs]

example : SavInv ⟨[1, 2], [(4, [(1, 10), (2, 5)]), (9, [(2, 1)])]⟩ := by
  unfold SavInv Sorted; decide

theorem C14_swap_roundtrip (s : SwapState) (h : SwapInv s) :
    swapValidate (swapExport s) = true ∧ swapInit (swapExport s) = some s := by
  simp only [SwapInv, imp_and, forall_and] at h
  obtain ⟨hp, hsh, ⟨hA, hB, ht, hown⟩, hpos, hkey⟩ := h
  refine init_roundtrip ?_ ?_
  · unfold swapValidate swapExport
    simp only [Bool.and_eq_true, List.all_eq_true, decide_eq_true_eq, List.contains_iff_mem, imp_and, forall_and,
      and_assoc]
    exact ⟨hA, hB, ht, noDup_of_sorted hp, hpos, noDup_of_sorted hsh, hown, hkey⟩
  · simp only [swapExport, fromList_sorted _ hp, fromList_sorted _ hsh]

/-- non-vacuity: one pool with two depositors -/
example : SwapInv ⟨[(5, ⟨1000, 2000, 30⟩)], [(11, (5, 10)), (12, (5, 20))]⟩ := by
  unfold SwapInv Sorted; decide

/-- the pool-shares invariant is needed: a state whose depositor shares do not add up is refused on import -/
theorem C14_swap_share_mismatch_rejected :
    swapInit (swapExport ⟨[(5, ⟨1000, 2000, 30⟩)], [(11, (5, 10))]⟩) = none := by decide

theorem C14_bep3_roundtrip (s : Bep3State) (h : Bep3Inv s) :
    bep3Validate (bep3Export s) = true ∧ bep3Init (bep3Export s) = some s := by
  obtain ⟨hs, hamt, hbb, hlt, hin, hout, hc0, hi0, ho0, hcl, hil, hicl, hol⟩ := h
  refine init_roundtrip ?_ ?_
  · unfold bep3Validate bep3Export
    simp only [Bool.and_eq_true, List.all_eq_true, decide_eq_true_eq, and_assoc]
    exact ⟨noDup_of_sorted hs, hamt, hi0, ho0, hc0⟩
  · unfold bep3Export
    simp only [← hin, ← hout, bne_self_eq_false, Bool.false_eq_true, ite_false]
    rw [if_neg (by simp only [Bool.or_eq_true, decide_eq_true_eq]; omega)]
    simp only [fromList_sorted _ hs, ← hbb, ← hlt]

/-- the derived indexes of the imported state are those of the original: they are functions of the swaps -/
theorem C14_bep3_indexes_rebuilt (s s' : Bep3State) (h : Bep3Inv s) (hi : bep3Init (bep3Export s) = some s') :
    s'.byBlock = s.byBlock ∧ s'.longterm = s.longterm := by
  rw [(C14_bep3_roundtrip s h).2] at hi
  cases hi; exact ⟨rfl, rfl⟩

/-- non-vacuity: an open incoming swap, an expired outgoing one (unrefunded) and a completed one -/
example : Bep3Inv ⟨[(1, ⟨true, .open_, 500, 120, 0⟩), (2, ⟨false, .expired, 70, 90, 0⟩), (3, ⟨true, .completed, 40, 80, 85⟩)],
    [(120, 1)], [(85, 3)], ⟨500, 70, 1000⟩, 5000, 1700000000⟩ := by
  unfold Bep3Inv Sorted; decide

/-- the supply-accounting invariant is needed: a supply record that disagrees with the swaps is refused -/
theorem C14_bep3_supply_mismatch_rejected :
    bep3Init (bep3Export ⟨[(1, ⟨true, .open_, 500, 120, 0⟩)], [(120, 1)], [], ⟨499, 0, 0⟩, 5000, 0⟩) = none := by decide

/-- export → validate → import reproduces the kavadist state — parameters AND the recorded previous block time —
    for every reachable state, whether minting is active or not -/
theorem C14_kavadist_roundtrip (s : KdState) (h : KdInv s) :
    kdValidate (kdExport s) = true ∧ kdInit (kdExport s) = some s := by
  obtain ⟨a, ps, pv⟩ := s
  obtain ⟨hp, ht⟩ := h
  cases pv with
  | none => exact init_roundtrip (by simp [kdValidate, kdExport, hp, kdDefaultPrev, goZeroTime]) (by simp [kdExport])
  | some t =>
    obtain ⟨h1, h0⟩ := ht t rfl
    exact init_roundtrip (by simp [kdValidate, kdExport, hp, h0]) (by simp [kdExport, h1])

/-- in particular a chain exported while minting is switched OFF keeps the time recorded while it was on -/
theorem C14_kavadist_inactive_keeps_time (ps : List KdPeriod) (t : Int) (h : KdInv ⟨false, ps, some t⟩) :
    kdInit (kdExport ⟨false, ps, some t⟩) = some ⟨false, ps, some t⟩ :=
  (C14_kavadist_roundtrip _ h).2

/-- re-export after import is the identical document -/
theorem C14_kavadist_reexport (s s' : KdState) (h : KdInv s) (hi : kdInit (kdExport s) = some s') :
    kdExport s' = kdExport s := by
  rw [(C14_kavadist_roundtrip s h).2] at hi; cases hi; rfl

/-- the "only while active" variant of the import does NOT round-trip: every reachable inactive state with a
    recorded time comes back without it (and re-exports the default time) -/
theorem C14_kavadist_only_when_active_loses_time (ps : List KdPeriod) (t : Int) (h : KdInv ⟨false, ps, some t⟩) :
    kdInitOnlyWhenActive (kdExport ⟨false, ps, some t⟩) = some ⟨false, ps, none⟩ ∧
    kdInitOnlyWhenActive (kdExport ⟨false, ps, some t⟩) ≠ some ⟨false, ps, some t⟩ ∧
    (kdExport ⟨false, ps, none⟩).prev = kdDefaultPrev := by
  have h1 : kdInitOnlyWhenActive (kdExport ⟨false, ps, some t⟩) = some ⟨false, ps, none⟩ :=
    (init_roundtrip (C14_kavadist_roundtrip _ h).1 rfl).2
  refine ⟨h1, ?_, rfl⟩
  rw [h1]; intro hc; cases hc

/-- … and the two chains then behave differently: once governance switches minting back on, the original mints for
    the time since the recorded block, the variant's import mints for nothing -/
theorem C14_kavadist_only_when_active_behaviour (ps : List KdPeriod) (t now : Int) (hnow : t < now) :
    0 < kdElapsed (kdActivate ⟨false, ps, some t⟩) now ∧ kdElapsed (kdActivate ⟨false, ps, none⟩) now = 0 := by
  simp [kdElapsed, kdActivate]; omega

/-- non-vacuity: minting off, one period, a recorded block time -/
example : KdInv ⟨false, [⟨1704067200, 1767225600, 1000000001547125958⟩], some 1704070000⟩ := by
  refine ⟨by decide, ?_⟩
  intro t ht; cases ht; exact ⟨by decide, by decide⟩

theorem C14_community_roundtrip (s : CmState) (h : CmInv s) :
    cmValidate (cmExport s) = true ∧ cmInit (cmExport s) = some s := by
  refine ⟨h, ?_⟩
  unfold CmInv cmValidate at h
  simp only [Bool.and_eq_true, decide_eq_true_eq] at h
  obtain ⟨⟨⟨⟨h1, h2⟩, -⟩, -⟩, -⟩ := h
  simp [cmInit, cmExport, h1, h2]

example : CmInv ⟨⟨goZeroTime, 744191000000000000000000, 0⟩, 1704070000, 250000000000000000⟩ := by
  unfold CmInv; decide

/-- a negative rate is refused by the import (`SetParams` panics) -/
theorem C14_community_negative_rate_rejected : cmInit ⟨⟨goZeroTime, -1, 0⟩, goZeroTime, 0⟩ = none := by decide

theorem C14_issuance_roundtrip (s : IssState) (h : IssInv s) :
    issValidate (issExport s) = true ∧ issInit (issExport s) = some s := by
  obtain ⟨hd, hs, hv, hr⟩ := h
  refine init_roundtrip ?_ ?_
  · unfold issValidate issExport
    simp only [Bool.and_eq_true, List.all_eq_true, decide_eq_true_eq]
    exact ⟨hd, hv⟩
  · simp only [issExport, fromList_sorted _ hs, issCreateMissing_noop hr]

/-- pausing the asset and switching its rate limit off changes nothing: the supply record is kept -/
example : IssInv ⟨[⟨7, true, false⟩, ⟨9, false, true⟩], [(7, ⟨1000, 3600⟩), (9, ⟨0, 0⟩)]⟩ := by
  unfold IssInv Sorted; decide

/-- the hypothesis "every rate-limited asset has its supply record" is needed: otherwise the import creates one -/
theorem C14_issuance_missing_supply_created :
    issInit (issExport ⟨[⟨9, false, true⟩], []⟩) = some ⟨[⟨9, false, true⟩], [(9, ⟨0, 0⟩)]⟩ := by decide

theorem C14_auction_roundtrip (s : AucState) (macc : Int) (h : AucInv s macc) :
    aucValidate (aucExport s) = true ∧ aucInit (aucExport s) macc = some s := by
  simp only [AucInv, imp_and, forall_and] at h
  obtain ⟨hs, ⟨hheld, hid⟩, hb, hm⟩ := h
  refine init_roundtrip ?_ ?_
  · unfold aucValidate aucExport
    simp only [Bool.and_eq_true, List.all_eq_true, decide_eq_true_eq, and_assoc]
    exact ⟨hheld, noDup_of_sorted hs, hid⟩
  · simp only [aucExport, hm, fromList_sorted _ hs, ← hb, bne_self_eq_false, Bool.false_eq_true, ite_false]

/-- the by-time index of the imported state is rebuilt from the auctions -/
theorem C14_auction_index_rebuilt (s s' : AucState) (macc : Int) (h : AucInv s macc)
    (hi : aucInit (aucExport s) macc = some s') : s'.byTime = byTimeOf s.auctions ∧ s'.byTime = s.byTime := by
  rw [(C14_auction_roundtrip s macc h).2] at hi
  obtain ⟨-, -, hb, -⟩ := h
  cases hi; exact ⟨hb, rfl⟩

example : AucInv ⟨12, [(3, ⟨1704070000, 500⟩), (11, ⟨1704060000, 70⟩)], [(1704070000, 3), (1704060000, 11)]⟩ 570 := by
  unfold AucInv Sorted; decide

/-- the module-account check is needed: auctions not backed by the module account are refused -/
theorem C14_auction_unbacked_rejected : aucInit (aucExport ⟨4, [(3, ⟨100, 500⟩)], [(100, 3)]⟩) 499 = none := by decide

/-- an auction carrying the next id is refused by validation -/
theorem C14_auction_id_not_below_next_rejected : aucInit ⟨3, [(3, ⟨100, 500⟩)]⟩ 500 = none := by decide

theorem C14_committee_roundtrip (s : CoState) (h : CoInv s) :
    coValidate (coExport s) = true ∧ coInit (coExport s) = some s := by
  obtain ⟨hc, hp, hvo, hpr, hvr⟩ := h
  refine init_roundtrip ?_ ?_
  · unfold coValidate coExport
    simp only [Bool.and_eq_true, List.all_eq_true, decide_eq_true_eq, and_assoc]
    exact ⟨noDup_of_sorted hc, noDup_of_sorted hp, hpr, hvr⟩
  · simp only [coExport, fromList_sorted _ hc, fromList_sorted _ hp, fromList_sorted _ hvo]

example : CoInv ⟨8, [(1, 100), (2, 200)], [(5, (1, 77)), (7, (2, 78))], [(501, (5, 1)), (502, (5, 2)), (701, (7, 1))]⟩ := by
  unfold CoInv Sorted; decide

/-- a vote of a proposal that does not exist is refused -/
theorem C14_committee_orphan_vote_rejected : coInit ⟨8, [(1, 100)], [(5, (1, 77))], [(601, (6, 1))]⟩ = none := by decide

/-- claims, reward indexes and accrual times are exported from the store and written back record by record; the
    parameters play no part, so reward periods that were ended or removed keep their indexes and claims -/
theorem C14_incentive_roundtrip (s : IncState) (h : IncInv s) :
    incValidate (incExport s) = true ∧ incInit (incExport s) = some s := by
  obtain ⟨ha, hi, hc, ht⟩ := h
  refine init_roundtrip ?_ ?_
  · unfold incValidate incExport
    simp only [Bool.and_eq_true, List.all_eq_true, decide_eq_true_eq, and_assoc]
    exact ⟨ht, noDup_of_sorted ha, noDup_of_sorted hi, noDup_of_sorted hc⟩
  · simp only [incExport, fromList_sorted _ ha, fromList_sorted _ hi, fromList_sorted _ hc]

/-- non-vacuity: NO reward period left in the parameters, accrual time, indexes and a claim still stored -/
example : IncInv ⟨[], [(4, 1704070000)], [(4, [(1, 2500)])], [(9, ⟨[(1, 77)], [(4, [(1, 2000)])]⟩)]⟩ := by
  unfold IncInv Sorted; decide

theorem C14_hard_roundtrip (s : HardState) (h : HardInv s) :
    hardValidate (hardExport s) = true ∧ hardInit (hardExport s) = some s := by
  obtain ⟨hm, hmm, ha, hd, hb, hin, hdv, hbv⟩ := h
  have hf : s.accrual.filter (fun a => s.markets.contains a.1) = s.accrual := List.filter_eq_self.mpr hin
  refine init_roundtrip ?_ ?_
  · unfold hardValidate hardExport
    simp only [hf, Bool.and_eq_true, List.all_eq_true, and_assoc]
    exact ⟨hm, noDup_of_sorted ha, noDup_of_sorted hd, noDup_of_sorted hb, hdv, hbv⟩
  simp only [hardExport, hf, fromList_sorted _ ha, fromList_sorted _ hd, fromList_sorted _ hb]
  obtain ⟨m, mm, ac, dp, bw, ts, tb, tr⟩ := s
  simp only at hmm
  subst hmm; rfl

example : HardInv ⟨[2, 5], [2, 5], [(2, ⟨1704070000, 1000000000000000000, 1020000000000000000⟩), (5, ⟨1704070000, 1003000000000000000, 1000000000000000000⟩)],
    [(40, [(2, 10), (5, 7)])], [(40, [(5, 3)])], [(2, 10), (5, 7)], [(5, 3)], []⟩ := by
  unfold HardInv Sorted; decide

/-- the hypothesis "accrual records only for listed markets" is needed, and it is NOT an invariant of the chain:
    after governance delists market 5 (deposits and interest factors still stored) the export drops its accrual time
    and interest factors, and the imported state differs from the exported one -/
theorem C14_hard_delisted_market_lost :
    let s : HardState := ⟨[2], [2, 5], [(2, ⟨100, 1000000000000000000, 1000000000000000000⟩), (5, ⟨100, 1003000000000000000, 1000000000000000000⟩)],
      [(40, [(5, 7)])], [], [(5, 7)], [], []⟩
    hardInit (hardExport s) = some ⟨[2], [2], [(2, ⟨100, 1000000000000000000, 1000000000000000000⟩)], [(40, [(5, 7)])], [], [(5, 7)], [], []⟩ ∧
    hardInit (hardExport s) ≠ some s := by
  decide

/-- import at block time `now`: unexpired posts are kept exactly, expired ones are dropped (inert), and the current
    prices are the aggregate of the unexpired posts of the ACTIVE markets — whatever the aggregate function -/
theorem C14_pricefeed_import (agg : List Int → Option Int) (now : Int) (s : PfState) (h : Sorted s.posts) :
    (pfInit agg now (pfExport s)).posts = livePosts now s.posts ∧
    (pfInit agg now (pfExport s)).markets = s.markets ∧
    (pfInit agg now (pfExport s)).current = currentOf agg s.markets (livePosts now s.posts) := by
  have hl : Sorted (livePosts now s.posts) := Pairwise.sublist filter_sublist h
  unfold pfInit pfExport
  simp only [fromList_sorted _ hl, and_self]

/-- with no expired post and current prices as the begin/end blockers leave them for active markets, the round trip
    is exact -/
theorem C14_pricefeed_roundtrip (agg : List Int → Option Int) (now : Int) (s : PfState) (h : PfInv agg now s)
    (hlive : ∀ x ∈ s.posts, now < x.2.expiry) : pfInit agg now (pfExport s) = s := by
  obtain ⟨hs, hc⟩ := h
  have hf : livePosts now s.posts = s.posts := List.filter_eq_self.mpr fun x hx => decide_eq_true (hlive x hx)
  obtain ⟨m, p, c⟩ := s
  simp only at hf hc hs
  rw [hf] at hc
  unfold pfInit pfExport
  simp only [hf, fromList_sorted _ hs, ← hc]

/-- re-export after import = the export without the expired posts -/
theorem C14_pricefeed_reexport (agg : List Int → Option Int) (now : Int) (s : PfState) (h : Sorted s.posts) :
    pfExport (pfInit agg now (pfExport s)) = ⟨s.markets, livePosts now s.posts⟩ := by
  obtain ⟨hp, hm, -⟩ := C14_pricefeed_import agg now s h
  rw [pfExport, hm, hp]

/-- a DEACTIVATED market keeps its last current price in the store, but the import recomputes current prices for
    active markets only: the frozen price does not survive export/import -/
theorem C14_pricefeed_deactivated_price_lost :
    let agg : List Int → Option Int := fun l => l.head?
    let s : PfState := ⟨[(3, false)], [(301, ⟨3, 2000, 500⟩)], [(3, 2000)]⟩
    pfInit agg 100 (pfExport s) = ⟨[(3, false)], [(301, ⟨3, 2000, 500⟩)], []⟩ ∧ pfInit agg 100 (pfExport s) ≠ s := by
  decide

theorem C14_cdp_roundtrip (s : CdpState) (h : CdpInv s) :
    cdpValidate (cdpExport s) = true ∧ cdpInit (cdpExport s) = some s := by
  simp only [CdpInv, imp_and, forall_and] at h
  obtain ⟨ht, hc, hd, hp, ha, ⟨hcoll, hprin, hfees, hid⟩, hdv, ⟨hpv, hpt⟩, hav, ho, hr⟩ := h
  have hfp : s.principals.filter (fun a => s.types.contains a.1) = s.principals := List.filter_eq_self.mpr hpt
  have hfa : s.accum.filter (fun a => s.types.contains a.1) = s.accum := List.filter_eq_self.mpr hav
  have hany : (cdpExport s).cdps.any (fun c => c.1 == (cdpExport s).nextId) = false :=
    List.any_eq_false.mpr fun c hm => by simpa [cdpExport] using hid c hm
  refine init_roundtrip ?_ ?_
  · unfold cdpValidate cdpExport
    simp only [hfp, hfa, Bool.and_eq_true, List.all_eq_true, decide_eq_true_eq, imp_and, forall_and, and_assoc]
    exact ⟨ht, noDup_of_sorted hc, noDup_of_sorted hd, noDup_of_sorted hp, noDup_of_sorted ha,
      hcoll, hprin, hfees, hdv, hpv⟩
  · rw [hany]
    simp only [cdpExport, hfp, hfa, fromList_sorted _ hc, fromList_sorted _ hd, fromList_sorted _ hp, fromList_sorted _ ha,
      ← ho, ← hr, Bool.false_eq_true, ite_false]

/-- the owner index and the collateral-ratio index of the imported state are rebuilt from the cdps -/
theorem C14_cdp_indexes_rebuilt (s s' : CdpState) (h : CdpInv s) (hi : cdpInit (cdpExport s) = some s') :
    s'.ownerIndex = ownerIndexOf s.cdps ∧ s'.ratioIndex = ratioIndexOf s.cdps := by
  rw [(C14_cdp_roundtrip s h).2] at hi
  obtain ⟨-, -, -, -, -, -, -, -, -, ho, hr⟩ := h
  cases hi; exact ⟨ho, hr⟩

example : CdpInv ⟨[1, 2], 9, [(1003, ⟨40, 1, 5000, 1000, 3⟩), (2007, ⟨41, 2, 900, 100, 0⟩)], [(300040, 5000), (700041, 900)],
    [(1, 1003), (2, 100)], [(1, ⟨1704070000, 1000573959632388397⟩), (2, ⟨1704070000, 1000000000000000000⟩)],
    [(40, 1003), (41, 2007)], [(1, 4985044865403788634, 1003), (2, 9000000000000000000, 2007)]⟩ := by
  unfold CdpInv Sorted; decide

/-- a cdp carrying the next id is refused by the import -/
theorem C14_cdp_starting_id_taken_rejected :
    cdpInit ⟨[1], 1003, [(1003, ⟨40, 1, 5000, 1000, 0⟩)], [], [(1, 1000)], [(1, ⟨100, 1000000000000000000⟩)]⟩ = none := by decide

end KV.Gx
