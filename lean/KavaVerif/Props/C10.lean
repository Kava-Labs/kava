/-
  C10 — evmutil: converted assets are always fully backed on the other side.

  "For every Cosmos-native coin with a module-deployed ERC20 the ERC20 total supply always equals the
   module account's balance of that coin, and for every enabled EVM-native pair the sdk coin supply never
   exceeds the ERC20 tokens locked in the module's EVM account (scaled by 10^10 for the 8-decimal bep3
   assets). A conversion debits the initiator and credits the receiver the same value, a round trip
   restores the original balances, ERC20 dust smaller than one sdk unit is never taken from the user, and
   a failed or disabled conversion changes nothing on either side."

  Quantifier: all amounts, all enabled/disabled pairs and allowed/removed denoms, all initiator/receiver
  combinations, all sequences of the four conversion messages interleaved with ordinary ERC20 transfers
  and bank sends (here also: mints of the external token by its own minter, and parameter changes).

  The model is KavaVerif/Model/Evmutil.lean (conversion_evm_native.go, conversion_evm_native_bep3.go,
  conversion_cosmos_native.go, erc20.go, params.go, msg ValidateBasic transcribed). This is a proof about
  the LEDGER MODEL: the EVM and the contract bytecode are outside it — `ercTransfer/ercMint/ercBurn` are
  the assumed standard ERC20 semantics (no fee, no rebase, owner-only mint/burn). `F`, `isBep3` come from
  the constants regenerated from the source (KV.Gen.bep3ConversionFactor, KV.Gen.bep3Denoms).

  Environment assumptions, explicit as hypotheses:
   * `blocked M = true` — the evmutil module account is on the bank's blocked list (generated fact
     `C10_module_account_blocked`), so no bank send reaches it;
   * `Admissible U op` — nobody signs for the module account / module EVM address, and governance only
     enables pairs of a fixed universe `U` that is a partial bijection (`UWf U`: a denom is never re-paired
     with another contract, nor a contract with another denom);
   * pair denoms are minted and burnt by evmutil only (the model has no other minter: x/bep3 minting the
     same bep3 denoms is outside the property's quantifier and outside this model).

  The property statements live here; the lemmas they rest on are in KavaVerif/Proofs/Evmutil*.lean.
-/
import KavaVerif.Proofs.EvmutilTrip
import KavaVerif.Generated.C10Evmutil
import KavaVerif.Proofs.TieFnEvmutil

namespace KV.EU

/-- the generated bep3 factor is the 10^10 the property names, and `scale` is 10^10 exactly on the
    generated bep3 denom set and 1 elsewhere -/
theorem C10_scale : F = 10 ^ 10 ∧
    ∀ d : Denom, scale d = if KV.Gen.bep3Denoms.contains d then 10 ^ 10 else 1 := by
  refine ⟨by decide, fun d => ?_⟩
  unfold scale isBep3
  split <;> rfl

/-- generated wiring facts (app/app.go): the evmutil module account is not exempt from the bank's
    blocked list — this is the hypothesis `blocked M = true` of the theorems below — and it may mint
    and burn (pair coins). The only registered invariant route is `cosmos-coins-fully-backed`; the
    EVM-native backing invariant exists in invariants.go but is not registered. -/
theorem C10_module_account_blocked :
    KV.Gen.C10.evmutilModuleAccount ∉ KV.Gen.C10.unblockedModuleAccounts ∧
    "authtypes.Minter" ∈ KV.Gen.C10.evmutilPerms ∧ "authtypes.Burner" ∈ KV.Gen.C10.evmutilPerms ∧
    "cosmos-coins-fully-backed" ∈ KV.Gen.C10.registeredInvariants := by decide +kernel

/-- the chain starts in a state satisfying the invariant -/
theorem C10_genesis (U : List Pair) : Inv U init := inv_init U

/-- "For every Cosmos-native coin with a module-deployed ERC20 the ERC20 total supply always equals the
    module account's balance of that coin": after ANY sequence of admissible operations (failed ones
    change nothing) from a state satisfying the invariant — in particular from genesis. Moreover the
    module account holds no coin of an unregistered denom. -/
theorem C10_cosmos_backed (U : List Pair) (hU : UWf U) (blocked : Addr → Bool) (hB : blocked M = true)
    (s0 : St) (h0 : Inv U s0) (ops : List Op) (hadm : ∀ op ∈ ops, Admissible U op) :
    (∀ d k, (run blocked s0 ops).reg d = some k →
      (run blocked s0 ops).erc.total (.dep k) = (run blocked s0 ops).bank.bal d M) ∧
    (∀ d, (run blocked s0 ops).reg d = none → (run blocked s0 ops).bank.bal d M = 0) := by
  have h := inv_run hU hB hadm h0
  exact ⟨h.cosmos, h.unreg⟩

/-- "for every enabled EVM-native pair the sdk coin supply never exceeds the ERC20 tokens locked in the
    module's EVM account (scaled by 10^10 for the 8-decimal bep3 assets)": for every enabled pair — and
    every currently disabled pair of the universe. -/
theorem C10_evm_native_backed (U : List Pair) (hU : UWf U) (blocked : Addr → Bool) (hB : blocked M = true)
    (s0 : St) (h0 : Inv U s0) (ops : List Op) (hadm : ∀ op ∈ ops, Admissible U op) :
    (∀ p ∈ (run blocked s0 ops).pairs,
      (run blocked s0 ops).bank.supply p.2 * scale p.2 ≤ (run blocked s0 ops).erc.bal p.1 M) ∧
    (∀ p ∈ U, (run blocked s0 ops).bank.supply p.2 * scale p.2 ≤ (run blocked s0 ops).erc.bal p.1 M) := by
  have h := inv_run hU hB hadm h0
  exact ⟨fun p hp => h.native p (h.sub p hp), h.native⟩

/-- the ledger's own invariant under the assumed ERC20 semantics: totalSupply = Σ balances over the
    holders; hence for a registered cosmos denom the holders' wrapped tokens sum to the module
    account's coins. -/
theorem C10_ledger_total (U : List Pair) (hU : UWf U) (blocked : Addr → Bool) (hB : blocked M = true)
    (accts : List Addr) (hn : accts.Nodup) (hM : M ∈ accts)
    (s0 : St) (h0 : Inv U s0) (hL : LedgerSum accts s0) (ops : List Op)
    (hadm : ∀ op ∈ ops, Admissible U op) (hacc : ∀ op ∈ ops, ∀ a ∈ opAddrs op, a ∈ accts) :
    (∀ c, (run blocked s0 ops).erc.total c = sumOver accts ((run blocked s0 ops).erc.bal c)) ∧
    (∀ d k, (run blocked s0 ops).reg d = some k →
      sumOver accts ((run blocked s0 ops).erc.bal (.dep k)) = (run blocked s0 ops).bank.bal d M) := by
  have hl := ledger_run hn hM (blocked := blocked) hacc hL
  have hi := inv_run hU hB hadm h0
  exact ⟨hl, fun d k hk => by rw [← hl, hi.cosmos d k hk]⟩

/-- "A conversion debits the initiator and credits the receiver the same value" — ConvertCoinToERC20:
    the initiator loses `amt` coins, the receiver gains `amt·scale` ERC20 (the same value), which leave
    the module's EVM account; the coins are burnt; nobody else changes. -/
theorem C10_value_conserved_coin_to_erc20 {s s' : St} {ini rcv : Addr} {d : Denom} {amt : Int}
    (h : coinToErc s ini rcv d amt = .ok s') :
    ∃ c, (c, d) ∈ s.pairs ∧ 0 < amt ∧
      s'.bank.bal d ini = s.bank.bal d ini - amt ∧
      s'.erc.bal c rcv = s.erc.bal c rcv + amt * scale d ∧
      s'.erc.bal c M = s.erc.bal c M - amt * scale d ∧
      s'.bank.supply d = s.bank.supply d - amt ∧
      (∀ d' a, ¬ (d' = d ∧ a = ini) → s'.bank.bal d' a = s.bank.bal d' a) ∧
      (∀ d', d' ≠ d → s'.bank.supply d' = s.bank.supply d') ∧
      (∀ c' a, ¬ (c' = c ∧ (a = rcv ∨ a = M)) → s'.erc.bal c' a = s.erc.bal c' a) ∧
      s'.erc.total = s.erc.total := by
  obtain ⟨c, h⟩ := coinToErc_spec h
  obtain ⟨heM, her, hef⟩ := mass_read₂ h.rcvM.symm h.erc
  exact ⟨c, (findByDenom_some h.pair).2, h.pos, (mass_read h.bal).1, her, heM, (mass_read₁ h.supply).1,
    (mass_read h.bal).2, (mass_read₁ h.supply).2, fun c' a hc => hef c' a fun e => hc ⟨e.1, e.2.symm⟩, h.total⟩

/-- ConvertERC20ToCoin: the receiver gains `m = ⌊amt/scale⌋` coins (freshly minted), the initiator loses
    exactly `m·scale` ERC20 (the same value), which are locked in the module's EVM account. -/
theorem C10_value_conserved_erc20_to_coin {blocked : Addr → Bool} {s s' : St} {ini rcv : Addr}
    {c : Contract} {amt : Int} (h : ercToCoin blocked s ini rcv c amt = .ok s') :
    ∃ d m, (c, d) ∈ s.pairs ∧ m = amt / scale d ∧ 0 < m ∧
      s'.erc.bal c ini = s.erc.bal c ini - m * scale d ∧
      s'.bank.bal d rcv = s.bank.bal d rcv + m ∧
      s'.erc.bal c M = s.erc.bal c M + m * scale d ∧
      s'.bank.supply d = s.bank.supply d + m ∧
      (∀ d' a, ¬ (d' = d ∧ a = rcv) → s'.bank.bal d' a = s.bank.bal d' a) ∧
      (∀ d', d' ≠ d → s'.bank.supply d' = s.bank.supply d') ∧
      (∀ c' a, ¬ (c' = c ∧ (a = ini ∨ a = M)) → s'.erc.bal c' a = s.erc.bal c' a) ∧
      s'.erc.total = s.erc.total := by
  obtain ⟨d, m, h⟩ := ercToCoin_spec h
  obtain ⟨hei, heM, hef⟩ := mass_read₂ h.iniM h.erc
  exact ⟨d, m, (findByContract_some h.pair).2, h.mint, h.mpos, hei, (mass_read h.bal).1, heM, (mass_read₁ h.supply).1,
    (mass_read h.bal).2, (mass_read₁ h.supply).2, hef, h.total⟩

/-- ConvertCosmosCoinToERC20: the initiator loses `amt` coins, which are locked in the module account;
    the receiver gains `amt` wrapped tokens, freshly minted (total supply + `amt`). -/
theorem C10_value_conserved_cosmos_to_erc20 {s s' : St} {ini rcv : Addr} {d : Denom} {amt : Int}
    (hini : ini ≠ M) (h : cosmosToErc s ini rcv d amt = .ok s') :
    ∃ k, s'.reg d = some k ∧ d ∈ s.allowed ∧ 0 < amt ∧
      s'.bank.bal d ini = s.bank.bal d ini - amt ∧
      s'.erc.bal (.dep k) rcv = s.erc.bal (.dep k) rcv + amt ∧
      s'.bank.bal d M = s.bank.bal d M + amt ∧
      s'.erc.total (.dep k) = s.erc.total (.dep k) + amt ∧
      s'.bank.supply = s.bank.supply ∧
      (∀ d' a, ¬ (d' = d ∧ (a = ini ∨ a = M)) → s'.bank.bal d' a = s.bank.bal d' a) ∧
      (∀ c' a, ¬ (c' = .dep k ∧ a = rcv) → s'.erc.bal c' a = s.erc.bal c' a) ∧
      (∀ c', c' ≠ .dep k → s'.erc.total c' = s.erc.total c') := by
  obtain ⟨k, h⟩ := cosmosToErc_spec h
  obtain ⟨hbi, hbM, hbf⟩ := mass_read₂ hini h.bal
  exact ⟨k, h.registered, h.listed, h.pos, hbi, (mass_read h.erc).1, hbM, (mass_read₁ h.total).1, h.supply, hbf,
    (mass_read h.erc).2, (mass_read₁ h.total).2⟩

/-- ConvertCosmosCoinFromERC20: the initiator loses `amt` wrapped tokens, which are burnt (total supply
    − `amt`); the receiver gains `amt` coins, which leave the module account. -/
theorem C10_value_conserved_cosmos_from_erc20 {blocked : Addr → Bool} (hB : blocked M = true)
    {s s' : St} {ini rcv : Addr} {d : Denom} {amt : Int}
    (h : cosmosFromErc blocked s ini rcv d amt = .ok s') :
    ∃ k, s.reg d = some k ∧ 0 < amt ∧
      s'.erc.bal (.dep k) ini = s.erc.bal (.dep k) ini - amt ∧
      s'.bank.bal d rcv = s.bank.bal d rcv + amt ∧
      s'.bank.bal d M = s.bank.bal d M - amt ∧
      s'.erc.total (.dep k) = s.erc.total (.dep k) - amt ∧
      s'.bank.supply = s.bank.supply ∧
      (∀ d' a, ¬ (d' = d ∧ (a = rcv ∨ a = M)) → s'.bank.bal d' a = s.bank.bal d' a) ∧
      (∀ c' a, ¬ (c' = .dep k ∧ a = ini) → s'.erc.bal c' a = s.erc.bal c' a) ∧
      (∀ c', c' ≠ .dep k → s'.erc.total c' = s.erc.total c') := by
  obtain ⟨k, h⟩ := cosmosFromErc_spec h
  obtain ⟨hbM, hbr, hbf⟩ := mass_read₂ (ne_of_blocked h.unblocked hB).symm h.bal
  exact ⟨k, h.registered, h.pos, (mass_read h.erc).1, hbr, hbM, (mass_read₁ h.total).1, h.supply,
    fun d' a hc => hbf d' a fun e => hc ⟨e.1, e.2.symm⟩, (mass_read h.erc).2, (mass_read₁ h.total).2⟩

/-- "a round trip restores the original balances" — EVM-native: `a` converts `amt` ERC20 to `b`
    (ConvertERC20ToCoin), `b` converts the `⌊amt/scale⌋` coins received back to `a` (ConvertCoinToERC20):
    from any state satisfying the invariant the second message SUCCEEDS and every bank balance, supply,
    ERC20 balance and total supply, the registry and the params are exactly as before. -/
theorem C10_round_trip_native (U : List Pair) (hU : UWf U) (blocked : Addr → Bool) (s s1 : St)
    (a b : Addr) (c : Contract) (amt : Int) (hI : Inv U s) (hb : b ≠ M)
    (h1 : ercToCoin blocked s a b c amt = .ok s1) :
    ∃ d s2, (c, d) ∈ s.pairs ∧ coinToErc s1 b a d (amt / scale d) = .ok s2 ∧
      (∀ d' x, s2.bank.bal d' x = s.bank.bal d' x) ∧ (∀ d', s2.bank.supply d' = s.bank.supply d') ∧
      (∀ c' x, s2.erc.bal c' x = s.erc.bal c' x) ∧ s2.erc.total = s.erc.total ∧
      s2.reg = s.reg ∧ s2.nextC = s.nextC ∧ s2.pairs = s.pairs ∧ s2.allowed = s.allowed := by
  obtain ⟨d, m, h1⟩ := ercToCoin_spec h1
  obtain rfl := h1.mint
  have hp2 : findByDenom s1.pairs d = some (c, d) := by
    rw [h1.pairs]; exact findByDenom_of_contract hU hI.sub h1.pair
  have hfb : amt / scale d ≤ s1.bank.bal d b := by
    rw [h1.bal, if_pos ⟨rfl, rfl⟩]; exact Int.le_add_of_nonneg_left (hI.bankNN d b)
  have hMm : 0 ≤ s1.bank.bal d M := by
    rw [h1.bal, if_neg (fun e => hb e.2.symm), Int.add_zero]; exact hI.bankNN d M
  have hl : amt / scale d * scale d ≤ s1.erc.bal c M := by
    rw [h1.erc, if_neg (fun e => h1.iniM e.2.symm), if_pos ⟨rfl, rfl⟩, Int.add_zero]
    exact Int.le_add_of_nonneg_left (hI.ercNN c M)
  obtain ⟨s2, hok⟩ := coinToErc_ok hp2 h1.mpos hfb hMm hb h1.iniZ h1.iniM hl
  obtain ⟨c2, h2⟩ := coinToErc_spec hok
  obtain rfl : c = c2 := congrArg Prod.fst (Option.some.inj (hp2.symm.trans h2.pair))
  refine ⟨d, s2, (findByContract_some h1.pair).2, hok, fun d' x => ?_, fun d' => ?_, fun c' x => ?_,
    h2.total.trans h1.total, h2.reg.trans h1.reg, h2.nextC.trans h1.nextC, h2.pairs.trans h1.pairs,
    h2.allowed.trans h1.allowed⟩
  · rw [h2.bal, h1.bal]; exact add_ite_cancel (Int.add_right_neg _)
  · rw [h2.supply, h1.supply]; exact add_ite_cancel (Int.add_right_neg _)
  · rw [h2.erc, h1.erc]; exact add_ite_cancel₂

/-- round trip — Cosmos-native: `a` converts `amt` coins to `b` (ConvertCosmosCoinToERC20), `b` converts
    `amt` wrapped tokens back to `a` (ConvertCosmosCoinFromERC20): the second message succeeds and every
    balance, supply and total is as before (the registry may have gained the contract, empty again). -/
theorem C10_round_trip_cosmos (U : List Pair) (blocked : Addr → Bool) (s s1 : St)
    (a b : Addr) (d : Denom) (amt : Int) (hI : Inv U s) (ha : a ≠ M) (hba : blocked a = false)
    (h1 : cosmosToErc s a b d amt = .ok s1) :
    ∃ s2, cosmosFromErc blocked s1 b a d amt = .ok s2 ∧
      (∀ d' x, s2.bank.bal d' x = s.bank.bal d' x) ∧ s2.bank.supply = s.bank.supply ∧
      (∀ c' x, s2.erc.bal c' x = s.erc.bal c' x) ∧ (∀ c', s2.erc.total c' = s.erc.total c') ∧
      s2.pairs = s.pairs ∧ s2.allowed = s.allowed := by
  obtain ⟨k, h1⟩ := cosmosToErc_spec h1
  have hfb : amt ≤ s1.erc.bal (.dep k) b := by
    rw [h1.erc, if_pos ⟨rfl, rfl⟩]; exact Int.le_add_of_nonneg_left (hI.ercNN (.dep k) b)
  have hm : amt ≤ s1.bank.bal d M := by
    rw [h1.bal, if_neg (fun e => ha e.2.symm), if_pos ⟨rfl, rfl⟩, Int.add_zero]
    exact Int.le_add_of_nonneg_left (hI.bankNN d M)
  obtain ⟨s2, hok⟩ := cosmosFromErc_ok h1.registered h1.pos hfb h1.rcvZ hba hm
  obtain ⟨k2, h2⟩ := cosmosFromErc_spec hok
  obtain rfl : k = k2 := Option.some.inj (h1.registered.symm.trans h2.registered)
  refine ⟨s2, hok, fun d' x => ?_, h2.supply.trans h1.supply, fun c' x => ?_, fun c' => ?_, h2.pairs.trans h1.pairs,
    h2.allowed.trans h1.allowed⟩
  · rw [h2.bal, h1.bal]; exact add_ite_cancel₂
  · rw [h2.erc, h1.erc]; exact add_ite_cancel (Int.add_right_neg _)
  · rw [h2.total, h1.total]; exact add_ite_cancel (Int.add_right_neg _)

/-- "ERC20 dust smaller than one sdk unit is never taken from the user": a successful
    ConvertERC20ToCoin of `amt` debits the initiator by exactly `amt − amt mod scale` — a whole number of
    sdk units — so the dust `amt mod scale ∈ [0, scale)` stays with the initiator; and the amount debited
    equals `scale` times the coins credited. -/
theorem C10_dust_stays {blocked : Addr → Bool} {s s' : St} {ini rcv : Addr} {c : Contract} {amt : Int}
    (h : ercToCoin blocked s ini rcv c amt = .ok s') :
    ∃ d, (c, d) ∈ s.pairs ∧
      s.erc.bal c ini - s'.erc.bal c ini = amt - amt % scale d ∧
      0 ≤ amt % scale d ∧ amt % scale d < scale d ∧
      (s.erc.bal c ini - s'.erc.bal c ini) % scale d = 0 ∧
      s.erc.bal c ini - s'.erc.bal c ini = (s'.bank.bal d rcv - s.bank.bal d rcv) * scale d := by
  obtain ⟨d, m, hpd, rfl, _, hi, hr, _⟩ := C10_value_conserved_erc20_to_coin h
  have hsp := scale_pos d
  have hdeb : s.erc.bal c ini - s'.erc.bal c ini = amt / scale d * scale d := by rw [hi, Int.sub_sub_self]
  have hcred : s'.bank.bal d rcv - s.bank.bal d rcv = amt / scale d := by rw [hr, Int.add_comm, Int.add_sub_cancel]
  refine ⟨d, hpd, ?_, Int.emod_nonneg _ (Int.ne_of_gt hsp), Int.emod_lt_of_pos _ hsp, ?_, by rw [hdeb, hcred]⟩
  · rw [hdeb, Int.emod_def, Int.sub_sub_self, Int.mul_comm]
  · rw [hdeb]; exact Int.mul_emod_left _ _

/-- less than one sdk unit (`mint = 0`) is refused outright -/
theorem C10_dust_refused {blocked : Addr → Bool} {s : St} {ini rcv : Addr} {c : Contract} {d : Denom}
    {amt : Int} (hp : findByContract s.pairs c = some (c, d)) (hd : amt < scale d) :
    ercToCoin blocked s ini rcv c amt = .err :=
  eq_err_of_not_ok fun _ hok => by
    obtain ⟨d', m, h⟩ := ercToCoin_spec hok
    obtain rfl : d = d' := congrArg Prod.snd (Option.some.inj (hp.symm.trans h.pair))
    have hm := h.mpos
    rw [h.mint, Int.ediv_eq_zero_of_lt (Int.le_of_lt h.pos) hd] at hm
    cases hm

/-- "a failed … conversion changes nothing on either side": a failed operation carries no state
    (`Res.err`), and the chain continues from the state it had (baseapp discards the message's writes —
    the harness executes every operation in a cache context written back only on success). -/
theorem C10_failed_changes_nothing (blocked : Addr → Bool) (s : St) (op : Op)
    (h : step blocked s op = .err) : apply blocked s op = s := by
  unfold apply; rw [h]

/-- "a … disabled conversion changes nothing": a pair that is not enabled is refused in both
    directions, a denom that is not on the allow list cannot be converted to an ERC20, and a denom
    without a registered contract cannot be converted from one. (Removing a denom from the allow list
    does not close the way back for already wrapped coins: ConvertCosmosCoinFromERC20 consults the
    registry only — intended, see TestConvertCosmosCoinForRemovedDenom.) -/
theorem C10_disabled_refused (blocked : Addr → Bool) (s : St) (ini rcv : Addr) (amt : Int) :
    (∀ d, (∀ p ∈ s.pairs, p.2 ≠ d) → step blocked s (.coinToErc ini rcv d amt) = .err) ∧
    (∀ c, (∀ p ∈ s.pairs, p.1 ≠ c) → step blocked s (.ercToCoin ini rcv c amt) = .err) ∧
    (∀ d, ¬ d ∈ s.allowed → step blocked s (.cosmosToErc ini rcv d amt) = .err) ∧
    (∀ d, s.reg d = none → step blocked s (.cosmosFromErc ini rcv d amt) = .err) :=
  ⟨fun _ h => coinToErc_disabled h, fun _ h => ercToCoin_disabled h,
   fun _ h => cosmosToErc_disabled h, fun _ h => cosmosFromErc_unregistered h⟩

/-! Non-vacuity: a concrete reachable-looking state (one bep3 pair with dust-bearing balances, one
    registered cosmos denom) that satisfies the hypotheses, on which all four messages succeed, and a
    history from genesis on which conversions really happen. -/
def exU : List Pair := [(.ext 0, "erc20/usdc"), (.ext 1, "bnb")]

example : UWf exU := by
  unfold UWf; decide +kernel

def exBlocked : Addr → Bool := fun a => a == 0 || a == 5

example : exBlocked M = true := by decide

def exSt : St :=
  { bank := { bal := fun d a => if d = "bnb" ∧ a = 2 then 7 else if d = "cosmo" ∧ a = 3 then 50
                      else if d = "cosmo" ∧ a = 0 then 20 else 0,
              supply := fun d => if d = "bnb" then 7 else if d = "cosmo" then 70 else 0 },
    erc := { bal := fun c a => if c = .ext 1 ∧ a = 0 then 70000000005 else if c = .ext 1 ∧ a = 3 then 25000000001
                      else if c = .dep 0 ∧ a = 4 then 20 else 0,
             total := fun c => if c = .dep 0 then 20 else if c = .ext 1 then 95000000006 else 0 },
    reg := fun d => if d = "cosmo" then some 0 else none, nextC := 1,
    pairs := [(.ext 1, "bnb")], allowed := ["cosmo"] }

example : (coinToErc exSt 2 3 "bnb" 5).isOk = true := by decide +kernel
example : (ercToCoin exBlocked exSt 3 2 (.ext 1) 25000000001).isOk = true := by decide +kernel
example : (cosmosToErc exSt 3 4 "cosmo" 50).isOk = true := by decide +kernel
example : (cosmosFromErc exBlocked exSt 4 3 "cosmo" 20).isOk = true := by decide +kernel
example : (ercToCoin exBlocked exSt 3 2 (.ext 1) 9999999999).isOk = false := by decide +kernel
example : (ercToCoin exBlocked exSt 3 5 (.ext 1) 25000000001).isOk = false := by decide +kernel

/-- a history from genesis: the token's minter issues 320000000007 units of the 18-decimal bep3 token
    to party 3, the pair is enabled, party 3 converts 250000000001 to party 2 (25 sdk units minted,
    250000000000 locked, 1 unit of dust stays with party 3), party 2 converts 5 sdk units to party 4;
    cosmo is allowed and party 3 tries to convert 1 cosmo it does not hold (refused, changes nothing). -/
def exOps : List Op :=
  [.extMint (.ext 1) 3 320000000007, .setPairs [(.ext 1, "bnb")], .ercToCoin 3 2 (.ext 1) 250000000001,
   .coinToErc 2 4 "bnb" 5, .setAllowed ["cosmo"], .cosmosToErc 3 4 "cosmo" 1]

example : ∀ op ∈ exOps, Admissible exU op := by
  intro op hop
  simp only [exOps, List.mem_cons, List.mem_nil_iff, or_false] at hop
  rcases hop with rfl | rfl | rfl | rfl | rfl | rfl
  · trivial
  · exact fun _ hp => .tail _ hp
  · show (3 : Addr) ≠ M; decide
  · show (2 : Addr) ≠ M; decide
  · trivial
  · show (3 : Addr) ≠ M; decide

example : (run exBlocked init exOps).bank.supply "bnb" = 20 ∧
    (run exBlocked init exOps).erc.bal (.ext 1) M = 200000000000 ∧
    (run exBlocked init exOps).erc.bal (.ext 1) 3 = 70000000007 ∧
    (run exBlocked init exOps).erc.bal (.ext 1) 4 = 50000000000 := by decide +kernel

/-! ## source tie (regenerated)

    `GoFn.Evmutil.*` (Generated/FnEvmutil.lean) is regenerated on every run from the Go source of
    x/evmutil/keeper/conversion_evm_native_bep3.go by the function translator (tools/extract/fn*.go).  The model
    inlines the three helpers in `coinToErc` / `ercToCoin` (`amt * F`, `amt / F`, `amt / F * F`, error when
    `amt / F = 0`); the theorems say that the regenerated definitions compute exactly those expressions
    (`big.Int.Div` = Euclidean division, `F` = the regenerated 10^10).  A source edit re-opens the obligation of
    the edited function.  Proofs: Proofs/TieFnEvmutil.lean. -/

theorem C10_source_tie_convertBep3CoinAmountToERC20Amount (amt : Int) :
    GoFn.Evmutil.convertBep3CoinAmountToERC20Amount_translated = true ∧
    GoFn.Evmutil.convertBep3CoinAmountToERC20Amount amt = Go.R.ok (amt * F) :=
  TieFn.evmutil_convertBep3CoinAmountToERC20Amount amt

theorem C10_source_tie_convertBep3ERC20AmountToCoinAmount (amt : Int) :
    GoFn.Evmutil.convertBep3ERC20AmountToCoinAmount_translated = true ∧
    GoFn.Evmutil.convertBep3ERC20AmountToCoinAmount amt = Go.R.ok (amt / F) :=
  TieFn.evmutil_convertBep3ERC20AmountToCoinAmount amt

theorem C10_source_tie_bep3ERC20AmountToCoinMintAndERC20LockAmount (amt : Int) :
    GoFn.Evmutil.bep3ERC20AmountToCoinMintAndERC20LockAmount_translated = true ∧
    GoFn.Evmutil.bep3ERC20AmountToCoinMintAndERC20LockAmount amt
      = (if amt / F = 0 then Go.R.err else Go.R.ok (amt / F, amt / F * F)) :=
  TieFn.evmutil_bep3ERC20AmountToCoinMintAndERC20LockAmount amt

end KV.EU
