/-
  C13 — BEP3 atomic swaps: funds move exactly once and supply limits always hold.

  "An atomic swap goes from open to either claimed, or expired and then refunded, and its funds move
   exactly once: a claim succeeds only while the swap is open and only with the preimage of its hash, a
   refund only after expiry, never both, and only the asset's deputy can create incoming swaps. The module
   account holds exactly the amounts of outgoing swaps not yet closed, and the incoming, outgoing and
   current supply counters of each asset equal the sums over live swaps and net claimed amounts. No swap
   creation or claim takes an asset's current plus incoming supply above the supply limit in force, nor
   above the time-limited allowance within a period."

  The model is KavaVerif/Model/Bep3.lean (keeper/swap.go, keeper/asset.go, keeper/keeper.go, abci.go
  transcribed).  The hash functions are abstract: every theorem holds for all `hs : Hashes`.  A "history"
  is a list of operations `ops : List Op` (create / claim / refund / begin block / governance change of a
  supply limit or of a deputy address) executed by `run` from a state satisfying the invariant `Inv`; a failed operation leaves
  the state unchanged (baseapp).  Standing hypotheses, named where used:
    `hcfg`  the bep3 module account is one of the keeper's `Maccs` (app.go: ModuleAccountAddrs);
    `OpOk`  the sender of a create is not the module account itself (module accounts cannot sign).
  The property theorems live here, each with the part of its proof that nothing else uses; the lemmas they
  share are in KavaVerif/Proofs/Bep3*.lean.
-/
import KavaVerif.Proofs.Bep3Examples
set_option linter.unusedSimpArgs false
set_option linter.unusedVariables false

namespace KV.Bep3

/-- The source-derived tables the model relies on: protobuf codes of status and direction, the status
    constants and operators gating claim (`!= OPEN` refuses) and refund (`!= EXPIRED` refuses), the operators
    of the timestamp window, and a positive long-term storage horizon. -/
theorem C13_generated_tables :
    Status.open.code = KV.Gen.bep3StatusOpen ∧ Status.completed.code = KV.Gen.bep3StatusCompleted ∧
    Status.expired.code = KV.Gen.bep3StatusExpired ∧
    Dir.incoming.code = KV.Gen.bep3DirectionIncoming ∧ Dir.outgoing.code = KV.Gen.bep3DirectionOutgoing ∧
    KV.Gen.bep3ClaimGateStatus = Status.open.code ∧ KV.Gen.bep3ClaimGateOp = "!=" ∧
    KV.Gen.bep3RefundGateStatus = Status.expired.code ∧ KV.Gen.bep3RefundGateOp = "!=" ∧
    KV.Gen.bep3TimestampPastOp = "<" ∧ KV.Gen.bep3TimestampFutureOp = ">=" ∧
    0 < horizon ∧ pastOffset < 0 ∧ 0 < futureOffset := by decide

/-! ## The state invariant along every history -/

/-- A chain without swaps: empty indexes, zero incoming/outgoing supply, an empty module account, validated
    params.  (What `InitGenesis` accepts with no swaps.) -/
theorem C13_inv_genesis (cfg : Cfg) (hs : Hashes) (s : St)
    (h1 : s.swaps = []) (h2 : s.byBlock = []) (h3 : s.longterm = [])
    (h4 : ∀ d, (s.supply d).incoming = 0 ∧ (s.supply d).outgoing = 0 ∧ 0 ≤ (s.supply d).current)
    (h5 : ∀ d, s.bal cfg.module d = 0) (h6 : ∀ d a, getAsset s.assets d = some a → 0 < a.minAmt) :
    Inv cfg hs s := by
  have hno : ∀ (P : Swap → Prop), ∀ sw ∈ s.swaps, P sw := by
    intro P sw hm; rw [h1] at hm; cases hm
  refine { nodup := ?_, idok := hno _, bb := ?_, bbnd := ?_, lt := ?_, ltnd := ?_, inc := ?_, out := ?_, cust := ?_,
           outle := ?_, exp := hno _, pos := hno _, pmin := h6, rcp := hno _, snd := hno _ }
  · rw [h1]; exact List.nodup_nil
  · intro e; rw [h1, h2]; constructor
    · intro hm; cases hm
    · rintro ⟨_, hm, -⟩; cases hm
  · rw [h2]; exact List.nodup_nil
  · intro e; rw [h1, h3]; constructor
    · intro hm; cases hm
    · rintro ⟨_, hm, -⟩; cases hm
  · rw [h3]; exact List.nodup_nil
  · intro d; rw [h1, (h4 d).1]; rfl
  · intro d; rw [h1, (h4 d).2.1]; rfl
  · intro d; rw [h1, h5 d]; rfl
  · intro d; rw [(h4 d).2.1]; exact (h4 d).2.2

/-- Every operation preserves the invariant, hence it holds after every history. -/
theorem C13_invariant (cfg : Cfg) (hs : Hashes) (hcfg : cfg.macc cfg.module = true) (s : St) (ops : List Op)
    (h : Inv cfg hs s) (hops : ∀ op ∈ ops, OpOk cfg op) : Inv cfg hs (run cfg hs s ops) :=
  (run_induct hcfg (P := fun _ => True) (Q := fun _ => True) (fun _ _ _ _ _ => trivial) ops s h trivial
    (fun op hm => ⟨hops op hm, trivial⟩)).1

/-! ## Custody and counters

  "The module account holds exactly the amounts of outgoing swaps not yet closed, and the incoming, outgoing
   and current supply counters of each asset equal the sums over live swaps and net claimed amounts." -/

/-- After every history the bep3 module account holds, in every denomination, exactly the sum of the
    amounts of the outgoing swaps that are open or expired (incoming swaps hold nothing: their coins are
    minted at claim and paid out in the same operation). -/
theorem C13_custody (cfg : Cfg) (hs : Hashes) (hcfg : cfg.macc cfg.module = true) (s : St) (ops : List Op)
    (h : Inv cfg hs s) (hops : ∀ op ∈ ops, OpOk cfg op) (d : Denom) :
    (run cfg hs s ops).bal cfg.module d = sumBy (live .outgoing d) (run cfg hs s ops).swaps :=
  (C13_invariant cfg hs hcfg s ops h hops).cust d

/-- After every history the incoming (outgoing) supply counter is the sum over the incoming (outgoing)
    swaps that are open or expired, and outgoing never exceeds current. -/
theorem C13_counters (cfg : Cfg) (hs : Hashes) (hcfg : cfg.macc cfg.module = true) (s : St) (ops : List Op)
    (h : Inv cfg hs s) (hops : ∀ op ∈ ops, OpOk cfg op) (d : Denom) :
    ((run cfg hs s ops).supply d).incoming = sumBy (live .incoming d) (run cfg hs s ops).swaps ∧
    ((run cfg hs s ops).supply d).outgoing = sumBy (live .outgoing d) (run cfg hs s ops).swaps ∧
    ((run cfg hs s ops).supply d).outgoing ≤ ((run cfg hs s ops).supply d).current :=
  let i := C13_invariant cfg hs hcfg s ops h hops
  ⟨i.inc d, i.out d, i.outle d⟩

/-- The current supply after a history is the initial one plus the net claimed amount (Σ claimed incoming
    − Σ claimed outgoing over the successful claims of the history); the bank supply of the pegged asset
    moves by the same amount, so `current − bank supply` is constant. -/
theorem C13_counters_current (cfg : Cfg) (hs : Hashes) (hcfg : cfg.macc cfg.module = true) (s : St) (ops : List Op)
    (h : Inv cfg hs s) (hops : ∀ op ∈ ops, OpOk cfg op) (d : Denom) :
    ((run cfg hs s ops).supply d).current = (s.supply d).current + netClaimed cfg hs s ops d ∧
    (run cfg hs s ops).bankSupply d = s.bankSupply d + netClaimed cfg hs s ops d := by
  induction ops generalizing s with
  | nil => exact ⟨(Int.add_zero _).symm, (Int.add_zero _).symm⟩
  | cons op rest ih =>
    have h1 := inv_step hcfg h op (hops op List.mem_cons_self)
    obtain ⟨i1, i2⟩ := ih (step cfg hs s op) h1 (fun o ho => hops o (List.mem_cons_of_mem _ ho))
    obtain ⟨c1, c2⟩ := current_step h op d
    have r : run cfg hs s (op :: rest) = run cfg hs (step cfg hs s op) rest := rfl
    have n : netClaimed cfg hs s (op :: rest) d =
      claimDelta cfg hs s op d + netClaimed cfg hs (step cfg hs s op) rest d := rfl
    rw [r, n, i1, i2, c1, c2]
    exact ⟨by omega, by omega⟩

/-! ## Indexes -/

/-- After every history the by-block index is exactly the set of open swaps (keyed by expire height) and the
    long-term index exactly the set of completed swaps not yet pruned (keyed by closed block + horizon);
    neither has duplicates, and swap ids are unique. -/
theorem C13_indexes (cfg : Cfg) (hs : Hashes) (hcfg : cfg.macc cfg.module = true) (s : St) (ops : List Op)
    (h : Inv cfg hs s) (hops : ∀ op ∈ ops, OpOk cfg op) :
    (∀ e, e ∈ (run cfg hs s ops).byBlock ↔
        ∃ sw ∈ (run cfg hs s ops).swaps, sw.status = .open ∧ e = (sw.expire, sw.id)) ∧
    (∀ e, e ∈ (run cfg hs s ops).longterm ↔
        ∃ sw ∈ (run cfg hs s ops).swaps, sw.status = .completed ∧ e = (sw.closed + horizon, sw.id)) ∧
    (run cfg hs s ops).byBlock.Nodup ∧ (run cfg hs s ops).longterm.Nodup ∧
    (ids (run cfg hs s ops).swaps).Nodup :=
  let i := C13_invariant cfg hs hcfg s ops h hops
  ⟨i.bb, i.lt, i.bbnd, i.ltnd, i.nodup⟩

/-- The begin blocker at height `H = height + dh`, although driven by the two indexes, does exactly this to
    every record: completed with closed block + horizon ≤ H → deleted; open with expire height ≤ H →
    expired; everything else untouched.  Both indexes lose exactly their entries ≤ H; balances, bank supply
    and params are untouched. -/
theorem C13_indexes_begin_block (cfg : Cfg) (hs : Hashes) (s : St) (h : Inv cfg hs s) (dh : Nat) (dt : Int) :
    (beginBlock hs s dh dt).swaps = s.swaps.filterMap (blockFate (s.height + dh)) ∧
    (beginBlock hs s dh dt).byBlock = s.byBlock.filter (fun e => ¬ e.1 ≤ s.height + dh) ∧
    (beginBlock hs s dh dt).longterm = s.longterm.filter (fun e => ¬ e.1 ≤ s.height + dh) ∧
    (beginBlock hs s dh dt).bal = s.bal ∧ (beginBlock hs s dh dt).bankSupply = s.bankSupply ∧
    (beginBlock hs s dh dt).assets = s.assets := by
  rw [(beginBlock_eq h dh dt).2]
  exact ⟨rfl, rfl, rfl, rfl, rfl, rfl⟩

/-! ## Life cycle

  "An atomic swap goes from open to either claimed, or expired and then refunded … a claim succeeds only
   while the swap is open and only with the preimage of its hash, a refund only after expiry, never both" -/

/-- One operation changes the record stored under any swap id `x` only in one of the ways listed by
    `Trans`: untouched; created open (no record before); open → completed by a claim of `x` whose secret
    hashes to the swap id; expired → completed by a refund of `x` at or after the expire height;
    open → expired by a begin blocker at or after the expire height; completed → deleted by a begin blocker at
    or after closed block + horizon.  In particular status only moves open → completed or
    open → expired → completed, and a completed record never changes again. -/
theorem C13_lifecycle (cfg : Cfg) (hs : Hashes) (s : St) (h : Inv cfg hs s) (op : Op) (x : Id) :
    Trans hs s op x (findSwap s.swaps x) (findSwap (step cfg hs s op).swaps x) :=
  trans_step h op x

/-- A successful claim found the swap open and was given a secret whose hash reproduces the swap id:
    `CalculateSwapID(CalculateRandomHash(secret, timestamp), sender, senderOtherChain) = GetSwapID()`.
    If `CalculateSwapID` is injective in its hash argument (collision resistance of SHA-256 on inputs with
    equal suffix), the secret is a preimage of the stored hash. -/
theorem C13_claim_needs_open_and_preimage (cfg : Cfg) (hs : Hashes) (s s' : St) (id : Id) (rn : Nat)
    (hok : claim cfg hs s id rn = .ok s') :
    ∃ sw, findSwap s.swaps id = some sw ∧ sw.status = .open ∧
      hs.sid (hs.H rn sw.ts) sw.sender sw.other = hs.sid sw.hash sw.sender sw.other ∧
      ((∀ h1 h2 a o, hs.sid h1 a o = hs.sid h2 a o → h1 = h2) → hs.H rn sw.ts = sw.hash) := by
  obtain ⟨sw, _, _, _, c, -⟩ := claim_spec hok
  exact ⟨sw, c.find, c.isOpen, c.pre, fun hinj => hinj _ _ _ _ c.pre⟩

/-- A successful refund found the swap expired, and (in every reachable state) the chain is at or past the
    swap's expire height. -/
theorem C13_refund_needs_expiry (cfg : Cfg) (hs : Hashes) (s s' : St) (h : Inv cfg hs s) (id : Id)
    (hok : refund cfg hs s id = .ok s') :
    ∃ sw, findSwap s.swaps id = some sw ∧ sw.status = .expired ∧ sw.expire ≤ s.height := by
  obtain ⟨sw, _, _, c, -⟩ := refund_spec hok
  exact ⟨sw, c.find, c.isExpired, h.exp sw (findSwap_some c.find).1 c.isExpired⟩

/-- Completed is terminal: whatever the operation, a completed record stays exactly as it is or is deleted
    (and deletion happens only in a begin blocker at or after closed block + horizon). -/
theorem C13_completed_terminal (cfg : Cfg) (hs : Hashes) (s : St) (h : Inv cfg hs s) (op : Op) (x : Id) (sw : Swap)
    (hf : findSwap s.swaps x = some sw) (hc : sw.status = .completed) :
    findSwap (step cfg hs s op).swaps x = some sw ∨
    (findSwap (step cfg hs s op).swaps x = none ∧
      ∃ dh dt, op = .beginBlock dh dt ∧ sw.closed + horizon ≤ s.height + dh) := by
  have t := trans_step (cfg := cfg) h op x
  rw [hf] at t
  generalize findSwap (step cfg hs s op).swaps x = r at t
  cases t with
  | same => exact Or.inl rfl
  | claimed _ _ _ _ ho _ => rw [hc] at ho; cases ho
  | refunded _ _ _ ho _ => rw [hc] at ho; cases ho
  | expired _ _ _ _ ho _ => rw [hc] at ho; cases ho
  | pruned _ dh dt hop _ hd => exact Or.inr ⟨rfl, dh, dt, hop, hd⟩

/-- Funds move at most once and never both ways: along any history in which swap id `x` is not re-created,
    the number of successful claims and refunds of `x` together is at most one — and zero if `x` is
    not live (absent or completed) at the start. -/
theorem C13_funds_move_at_most_once (cfg : Cfg) (hs : Hashes) (hcfg : cfg.macc cfg.module = true) (s : St)
    (ops : List Op) (x : Id) (h : Inv cfg hs s) (hops : ∀ op ∈ ops, OpOk cfg op ∧ ¬ createsId hs op x) :
    closeCount cfg hs s ops x ≤ 1 ∧ (¬ liveAt s x → closeCount cfg hs s ops x = 0) := by
  induction ops generalizing s with
  | nil => exact ⟨Nat.zero_le _, fun _ => rfl⟩
  | cons op rest ih =>
    have hop := hops op List.mem_cons_self
    have h1 := inv_step hcfg h op hop.1
    obtain ⟨i1, i2⟩ := ih (step cfg hs s op) h1 (fun o ho => hops o (List.mem_cons_of_mem _ ho))
    unfold closeCount
    by_cases hc : (closesId op x && (apply cfg hs s op).isOk) = true
    · rw [if_pos hc]
      have hc' := Bool.and_eq_true_iff.mp hc
      obtain ⟨hl, hnl⟩ := close_kills h hc'.1 hc'.2
      have := i2 hnl
      exact ⟨by omega, fun hn => absurd hl hn⟩
    · rw [if_neg hc]
      refine ⟨by omega, fun hn => ?_⟩
      have : ¬ liveAt (step cfg hs s op) x := fun hl => hn (live_back h hop.2 hl)
      have := i2 this
      omega

/-- What a successful claim moves: for an incoming swap exactly `amount` is minted and credited to the swap's
    recipient; for an outgoing swap exactly `amount` is burned from the module account; nothing else moves. -/
theorem C13_funds_claim (cfg : Cfg) (hs : Hashes) (hcfg : cfg.macc cfg.module = true) (s s' : St)
    (h : Inv cfg hs s) (id : Id) (rn : Nat) (hok : claim cfg hs s id rn = .ok s') :
    ∃ sw, findSwap s.swaps id = some sw ∧
      (sw.dir = .incoming →
        (∀ a d, s'.bal a d = s.bal a d + (if a = sw.recipient ∧ d = sw.denom then sw.amt else 0)) ∧
        (∀ d, s'.bankSupply d = s.bankSupply d + (if d = sw.denom then sw.amt else 0))) ∧
      (sw.dir = .outgoing →
        (∀ a d, s'.bal a d = s.bal a d - (if a = cfg.module ∧ d = sw.denom then sw.amt else 0)) ∧
        (∀ d, s'.bankSupply d = s.bankSupply d - (if d = sw.denom then sw.amt else 0))) := by
  obtain ⟨sw, sup, bal, bs, c, rfl⟩ := claim_spec hok
  refine ⟨sw, c.find, fun hd => ?_, fun hd => ?_⟩
  · rcases c.side with ⟨-, a, k⟩ | ⟨hd', -⟩
    · exact ⟨k.bal_eq, k.bs_eq⟩
    · rw [hd] at hd'; cases hd'
  · rcases c.side with ⟨hd', -⟩ | ⟨-, k⟩
    · rw [hd] at hd'; cases hd'
    · exact ⟨k.bal_eq, fun d => (k.bs_eq d).trans (by split <;> omega)⟩

/-- What a successful refund moves: for an outgoing swap exactly `amount` goes from the module account back
    to the swap's sender; for an incoming swap nothing moves; the bank supply is untouched. -/
theorem C13_funds_refund (cfg : Cfg) (hs : Hashes) (s s' : St) (h : Inv cfg hs s) (id : Id)
    (hok : refund cfg hs s id = .ok s') :
    ∃ sw, findSwap s.swaps id = some sw ∧ s'.bankSupply = s.bankSupply ∧
      (sw.dir = .incoming → s'.bal = s.bal) ∧
      (sw.dir = .outgoing →
        ∀ a d, s'.bal a d = s.bal a d - (if a = cfg.module ∧ d = sw.denom then sw.amt else 0) +
          (if a = sw.sender ∧ d = sw.denom then sw.amt else 0)) := by
  obtain ⟨sw, sup, bal, c, rfl⟩ := refund_spec hok
  refine ⟨sw, c.find, rfl, fun hd => ?_, fun hd => ?_⟩
  · rcases c.side with ⟨-, k⟩ | ⟨hd', -⟩
    · exact k.bal_eq
    · rw [hd] at hd'; cases hd'
  · rcases c.side with ⟨hd', -⟩ | ⟨-, k⟩
    · rw [hd] at hd'; cases hd'
    · exact k.bal_eq

/-- What a successful create moves: an outgoing swap takes exactly `amount` from the sender into the module
    account; an incoming swap (created by the deputy) moves nothing; the bank supply is untouched. -/
theorem C13_funds_create (cfg : Cfg) (hs : Hashes) (s s' : St) (hash : Hash) (ts : Int) (span : Nat)
    (sender recipient : Addr) (other : Nat) (coins : List (Denom × Int))
    (hok : create cfg hs s hash ts span sender recipient other coins = .ok s') :
    ∃ d amt a, coins = [(d, amt)] ∧ getAsset s.assets d = some a ∧ s'.bankSupply = s.bankSupply ∧
      (sender = a.deputy → s'.bal = s.bal) ∧
      (sender ≠ a.deputy →
        ∀ x y, s'.bal x y = s.bal x y - (if x = sender ∧ y = d then amt else 0) +
          (if x = cfg.module ∧ y = d then amt else 0)) := by
  obtain ⟨d, amt, a, dir, sup, bal', hc, c, rfl⟩ := create_spec hok
  refine ⟨d, amt, a, hc, c.asset, rfl, fun hd => ?_, fun hd => ?_⟩
  · rcases c.side with ⟨-, k⟩ | ⟨-, k⟩
    · exact k.bal_eq
    · exact absurd hd k.dep
  · rcases c.side with ⟨-, k⟩ | ⟨-, k⟩
    · exact absurd k.dep hd
    · exact k.bal_eq

/-! ## A live swap can always be closed ("exactly once", not "never")

  The guards of claim and refund that are not about status, secret or limits — the decrement checks of the
  supply counters and the bank transfers out of the module account — can never fail in a reachable state:
  they are implied by the counters and custody clauses of the invariant. -/

/-- An expired swap can always be refunded (by anyone), provided its sender is not a blocked address. -/
theorem C13_refund_always_possible (cfg : Cfg) (hs : Hashes) (s : St) (h : Inv cfg hs s) (id : Id) (sw : Swap)
    (hf : findSwap s.swaps id = some sw) (hst : sw.status = .expired) (hb : cfg.blocked sw.sender = false) :
    (refund cfg hs s id).isOk = true := by
  obtain ⟨c1, c2⟩ := live_covered h (findSwap_some hf).1 (by rw [hst]; exact Status.noConfusion)
  unfold refund
  cases hd : sw.dir with
  | incoming => simp only [hf, hst, hd, decIncoming_ok (c1 hd), ne_eq, not_true_eq_false, ite_false]; rfl
  | outgoing =>
    obtain ⟨k1, k2, -⟩ := c2 hd
    obtain ⟨b, hb2⟩ := bankSend_ok k2 sw.sender
    simp only [hf, hst, hd, hb, decOutgoing_ok k1, hb2, ne_eq, not_true_eq_false, ite_false, Bool.false_eq_true]; rfl

/-- An open outgoing swap can always be claimed (by anyone) with a secret that reproduces its id. -/
theorem C13_claim_outgoing_always_possible (cfg : Cfg) (hs : Hashes) (s : St) (h : Inv cfg hs s) (id : Id)
    (sw : Swap) (rn : Nat) (hf : findSwap s.swaps id = some sw) (hst : sw.status = .open)
    (hd : sw.dir = .outgoing)
    (hpre : hs.sid (hs.H rn sw.ts) sw.sender sw.other = hs.sid sw.hash sw.sender sw.other) :
    (claim cfg hs s id rn).isOk = true := by
  obtain ⟨k1, k2, k3⟩ := (live_covered h (findSwap_some hf).1 (by rw [hst]; exact Status.noConfusion)).2 hd
  have hpre' : hs.sid (hs.H rn sw.ts) sw.sender sw.other = getSwapID hs sw := hpre
  have hlt : ¬ s.bal cfg.module sw.denom < sw.amt := by omega
  unfold claim
  simp only [hf, hst, hd, hpre', decOutgoing_ok k1, decCurrent_ok (sup := { s.supply sw.denom with outgoing := (s.supply sw.denom).outgoing - sw.amt }) k3,
    hlt, ne_eq, not_true_eq_false, ite_false]
  rfl

/-- An open incoming swap can be claimed with the right secret whenever the asset still exists, the recipient
    is not blocked, and the limits in force admit the amount (current + amount ≤ limit; time-limited current
    + amount ≤ time-based limit) — the only reasons a rightful claim can be refused. -/
theorem C13_claim_incoming_possible_within_limits (cfg : Cfg) (hs : Hashes) (s : St) (h : Inv cfg hs s) (id : Id)
    (sw : Swap) (rn : Nat) (a : Asset) (hf : findSwap s.swaps id = some sw) (hst : sw.status = .open)
    (hd : sw.dir = .incoming)
    (hpre : hs.sid (hs.H rn sw.ts) sw.sender sw.other = hs.sid sw.hash sw.sender sw.other)
    (ha : getAsset s.assets sw.denom = some a) (hb : cfg.blocked sw.recipient = false)
    (hlim : (s.supply sw.denom).current + sw.amt ≤ a.limit)
    (htl : a.timeLimited = true → (s.supply sw.denom).tlCurrent + sw.amt ≤ a.tbl) :
    (claim cfg hs s id rn).isOk = true := by
  have k1 := (live_covered h (findSwap_some hf).1 (by rw [hst]; exact Status.noConfusion)).1 hd
  have hpre' : hs.sid (hs.H rn sw.ts) sw.sender sw.other = getSwapID hs sw := hpre
  obtain ⟨sup2, h2⟩ := incCurrent_ok (sup := { s.supply sw.denom with incoming := (s.supply sw.denom).incoming - sw.amt })
    hlim htl
  -- the module account is never overdrawn, so the freshly minted amount can be paid out
  obtain ⟨b, hb2⟩ := bankSend_ok (bal := upd2 s.bal cfg.module sw.denom (s.bal cfg.module sw.denom + sw.amt))
    (frm := cfg.module) (d := sw.denom) (amt := sw.amt)
    (by have := h.cust sw.denom
        have := sumBy_nonneg (live .outgoing sw.denom) h.pos
        unfold upd2; rw [if_pos ⟨rfl, rfl⟩]; omega) sw.recipient
  unfold claim
  simp only [hf, hst, hd, hpre', ha, hb, decIncoming_ok k1, h2, hb2, ne_eq, not_true_eq_false, ite_false,
    Bool.false_eq_true]
  rfl

/-! ## Only the deputy creates incoming swaps -/

/-- A successfully created swap is incoming exactly when its sender is the deputy of the swapped asset (and
    then the recipient is not the deputy); otherwise it is outgoing and its recipient is the deputy. -/
theorem C13_deputy_only_incoming (cfg : Cfg) (hs : Hashes) (s s' : St) (hash : Hash) (ts : Int) (span : Nat)
    (sender recipient : Addr) (other : Nat) (coins : List (Denom × Int))
    (hok : create cfg hs s hash ts span sender recipient other coins = .ok s') :
    ∃ n a, findSwap s'.swaps (hs.sid hash sender other) = some n ∧ n.sender = sender ∧
      n.recipient = recipient ∧ getAsset s.assets n.denom = some a ∧
      (n.dir = .incoming ↔ sender = a.deputy) ∧
      (n.dir = .incoming → recipient ≠ a.deputy) ∧ (n.dir = .outgoing → recipient = a.deputy) := by
  obtain ⟨d, amt, a, dir, sup, bal', -, c, rfl⟩ := create_spec hok
  refine ⟨newSwap hs s hash ts span sender recipient other d amt dir, a, if_pos rfl, rfl, rfl, c.asset, ?_⟩
  rcases c.side with ⟨rfl, k⟩ | ⟨rfl, k⟩
  · exact ⟨⟨fun _ => k.dep, fun _ => rfl⟩, fun _ => k.rcp, fun e => (by cases e)⟩
  · exact ⟨⟨fun e => (by cases e), fun e => absurd e k.dep⟩, fun e => (by cases e), fun _ => k.rcp⟩

/-- As a state invariant while governance leaves the deputy addresses alone (no `setDeputy` in the history; a
    rotation changes who the deputy is, never a stored swap — see `C13_deputy_rotation`): every stored swap
    is incoming exactly when its sender is the deputy of its asset. -/
theorem C13_deputy_only_incoming_inv (cfg : Cfg) (hs : Hashes) (hcfg : cfg.macc cfg.module = true) :
    ∀ (ops : List Op) (s : St), Inv cfg hs s → DeputyInv s → (∀ op ∈ ops, OpOk cfg op ∧ notSetDeputy op) →
      DeputyInv (run cfg hs s ops) := by
  intro ops s h hd hops
  exact (run_induct hcfg (fun s op h hd hq => deputy_step h hd op hq) ops s h hd hops).2

/-! ## Deputy rotation

  Governance may replace an asset's deputy address while swaps of that asset are live (operation `setDeputy`,
  part of every history quantified over by `C13_invariant`, `C13_custody`, `C13_counters`, `C13_indexes`,
  `C13_lifecycle`, `C13_funds_*`).  The swap keeps the direction, sender and recipient it was created with;
  only swaps created afterwards see the new deputy. -/

/-- Rotating the deputy of asset `d` (1) preserves the invariant — hence custody, counters and indexes —,
    (2) moves nothing: swap records, both indexes, supply counters, balances, bank supply and the clock are
    untouched, and every asset keeps its parameters except that `d` now has deputy `dep`; (3) closing a stored
    swap is independent of who the deputy is now: a refund and a claim after the rotation have exactly the
    outcome they would have had before it (same result class, same successor state up to the rotated
    parameter), so by `C13_funds_claim` / `C13_funds_refund` they move exactly the funds the swap's stored
    direction prescribes; (4) a live swap stays closable: an expired swap can still be refunded and an open
    outgoing swap claimed with its secret. -/
theorem C13_deputy_rotation (cfg : Cfg) (hs : Hashes) (s : St) (h : Inv cfg hs s) (d : Denom) (dep : Addr) :
    step cfg hs s (.setDeputy d dep) = setDeputy s d dep ∧
    Inv cfg hs (setDeputy s d dep) ∧
    ((setDeputy s d dep).swaps = s.swaps ∧ (setDeputy s d dep).byBlock = s.byBlock ∧
      (setDeputy s d dep).longterm = s.longterm ∧ (setDeputy s d dep).supply = s.supply ∧
      (setDeputy s d dep).bal = s.bal ∧ (setDeputy s d dep).bankSupply = s.bankSupply ∧
      (setDeputy s d dep).height = s.height ∧ (setDeputy s d dep).time = s.time ∧
      (setDeputy s d dep).prevTime = s.prevTime) ∧
    (∀ d', getAsset (setDeputy s d dep).assets d' =
      (getAsset s.assets d').map (fun a => if d' = d then { a with deputy := dep } else a)) ∧
    (∀ id, refund cfg hs (setDeputy s d dep) id = Res.map (fun t => setDeputy t d dep) (refund cfg hs s id)) ∧
    (∀ id rn, claim cfg hs (setDeputy s d dep) id rn =
      Res.map (fun t => setDeputy t d dep) (claim cfg hs s id rn)) ∧
    (∀ id sw, findSwap (setDeputy s d dep).swaps id = some sw → sw.status = .expired →
      cfg.blocked sw.sender = false → (refund cfg hs (setDeputy s d dep) id).isOk = true) ∧
    (∀ id sw rn, findSwap (setDeputy s d dep).swaps id = some sw → sw.status = .open → sw.dir = .outgoing →
      hs.sid (hs.H rn sw.ts) sw.sender sw.other = hs.sid sw.hash sw.sender sw.other →
      (claim cfg hs (setDeputy s d dep) id rn).isOk = true) := by
  have hi := setDeputy_inv h d dep
  refine ⟨rfl, hi, ⟨rfl, rfl, rfl, rfl, rfl, rfl, rfl, rfl, rfl⟩, fun d' => getAsset_setDeputy s d dep d',
    fun id => refund_setDeputy cfg hs s d dep id, fun id rn => claim_setDeputy cfg hs s d dep id rn,
    fun id sw => C13_refund_always_possible cfg hs _ hi id sw,
    fun id sw rn => C13_claim_outgoing_always_possible cfg hs _ hi id sw rn⟩

/-- Along every history, rotations included, a successful close moves the funds of the swap's STORED direction:
    claiming an incoming swap mints its amount to its recipient, claiming an outgoing swap burns its amount
    from the module account, refunding an outgoing swap returns its amount to its sender, refunding an
    incoming swap moves nothing — and the custody and counter clauses hold again afterwards. -/
theorem C13_deputy_rotation_close (cfg : Cfg) (hs : Hashes) (hcfg : cfg.macc cfg.module = true) (s0 : St)
    (ops : List Op) (h0 : Inv cfg hs s0) (hops : ∀ op ∈ ops, OpOk cfg op) (frm : Addr) (id : Id) (rn : Nat) :
    let s := run cfg hs s0 ops
    (∀ s', claim cfg hs s id rn = .ok s' → ∃ sw, findSwap s.swaps id = some sw ∧ Inv cfg hs s' ∧
      (sw.dir = .incoming →
        (∀ a d, s'.bal a d = s.bal a d + (if a = sw.recipient ∧ d = sw.denom then sw.amt else 0))) ∧
      (sw.dir = .outgoing →
        (∀ a d, s'.bal a d = s.bal a d - (if a = cfg.module ∧ d = sw.denom then sw.amt else 0)))) ∧
    (∀ s', refund cfg hs s id = .ok s' → ∃ sw, findSwap s.swaps id = some sw ∧ Inv cfg hs s' ∧
      (sw.dir = .incoming → s'.bal = s.bal) ∧
      (sw.dir = .outgoing →
        ∀ a d, s'.bal a d = s.bal a d - (if a = cfg.module ∧ d = sw.denom then sw.amt else 0) +
          (if a = sw.sender ∧ d = sw.denom then sw.amt else 0))) := by
  intro s
  have hs' : Inv cfg hs s := C13_invariant cfg hs hcfg s0 ops h0 hops
  refine ⟨?_, ?_⟩
  · intro s' hok
    obtain ⟨sw, hf, hin, hout⟩ := C13_funds_claim cfg hs hcfg s s' hs' id rn hok
    exact ⟨sw, hf, claim_inv hs' hcfg hok, fun hd => (hin hd).1, fun hd => (hout hd).1⟩
  · intro s' hok
    obtain ⟨sw, hf, -, hin, hout⟩ := C13_funds_refund cfg hs s s' hs' id hok
    exact ⟨sw, hf, refund_inv hs' hok, hin, hout⟩

/-! ## Supply limits

  "No swap creation or claim takes an asset's current plus incoming supply above the supply limit in force,
   nor above the time-limited allowance within a period." -/

/-- After a successful create, with `a` the asset params in force: the amount is within [min, max]; an
    incoming swap leaves current + incoming ≤ limit and, when time-limited, time-limited current + incoming
    ≤ time-based limit; an outgoing swap has a height span within the block-lock range, an amount above fee +
    min, and leaves outgoing ≤ current.  Current and time-limited current are untouched. -/
theorem C13_limits_create (cfg : Cfg) (hs : Hashes) (s s' : St) (hash : Hash) (ts : Int) (span : Nat)
    (sender recipient : Addr) (other : Nat) (coins : List (Denom × Int))
    (hok : create cfg hs s hash ts span sender recipient other coins = .ok s') :
    ∃ d amt a, coins = [(d, amt)] ∧ getAsset s.assets d = some a ∧ a.active = true ∧
      a.minAmt ≤ amt ∧ amt ≤ a.maxAmt ∧
      (s'.supply d).current = (s.supply d).current ∧ (s'.supply d).tlCurrent = (s.supply d).tlCurrent ∧
      (sender = a.deputy →
        (s'.supply d).current + (s'.supply d).incoming ≤ a.limit ∧
        (a.timeLimited = true → (s'.supply d).tlCurrent + (s'.supply d).incoming ≤ a.tbl)) ∧
      (sender ≠ a.deputy →
        a.minLock ≤ span ∧ span ≤ a.maxLock ∧ a.fee + a.minAmt < amt ∧
        (s'.supply d).outgoing ≤ (s'.supply d).current) := by
  obtain ⟨d, amt, a, dir, sup, bal', hc, c, rfl⟩ := create_spec hok
  refine ⟨d, amt, a, hc, c.asset, c.active, c.amin, c.amax, ?_⟩
  dsimp only
  rw [upd_same]
  rcases c.side with ⟨-, k⟩ | ⟨-, k⟩ <;> rw [k.sup_eq]
  · exact ⟨rfl, rfl, fun _ => ⟨by have := k.lim; dsimp only; omega, fun ht => by have := k.tlim ht; dsimp only; omega⟩,
      fun hd' => absurd k.dep hd'⟩
  · exact ⟨rfl, rfl, fun hd' => absurd hd' k.dep, fun _ => ⟨k.lockLo, k.lockHi, k.fee, k.outle⟩⟩

/-- A successful claim never raises current + incoming of any denomination; claiming an incoming swap leaves
    current ≤ limit in force and, when time-limited, adds exactly the amount to the period's time-limited
    current, which stays ≤ the time-based limit. -/
theorem C13_limits_claim (cfg : Cfg) (hs : Hashes) (hcfg : cfg.macc cfg.module = true) (s s' : St)
    (h : Inv cfg hs s) (id : Id) (rn : Nat) (hok : claim cfg hs s id rn = .ok s') :
    (∀ d, (s'.supply d).current + (s'.supply d).incoming ≤ (s.supply d).current + (s.supply d).incoming) ∧
    ∃ sw, findSwap s.swaps id = some sw ∧
      (sw.dir = .incoming → ∃ a, getAsset s.assets sw.denom = some a ∧
        (s'.supply sw.denom).current ≤ a.limit ∧
        (a.timeLimited = true →
          (s'.supply sw.denom).tlCurrent = (s.supply sw.denom).tlCurrent + sw.amt ∧
          (s'.supply sw.denom).tlCurrent ≤ a.tbl)) := by
  obtain ⟨sw, sup, bal, bs, c, rfl⟩ := claim_spec hok
  have hpos := h.pos sw (findSwap_some c.find).1
  refine ⟨fun d => ?_, sw, c.find, fun hd => ?_⟩
  · show (upd s.supply sw.denom sup d).current + (upd s.supply sw.denom sup d).incoming ≤ _
    unfold upd; split
    · rename_i hd; subst hd
      rcases c.side with ⟨-, a, k⟩ | ⟨-, k⟩ <;> rw [k.sup_eq] <;> dsimp only <;> omega
    · exact Int.le_refl _
  · dsimp only [closeSwap]
    rw [upd_same]
    rcases c.side with ⟨-, a, k⟩ | ⟨hd', -⟩
    · rw [k.sup_eq]
      exact ⟨a, k.asset, k.lim, fun ht => ⟨if_pos ht, (if_pos ht).symm ▸ k.tlim ht⟩⟩
    · rw [hd] at hd'; cases hd'

/-- While governance does not change the limits, along every history: current + incoming ≤ limit and, for
    time-limited assets, time-limited current + incoming ≤ time-based limit. -/
theorem C13_limits_invariant (cfg : Cfg) (hs : Hashes) (hcfg : cfg.macc cfg.module = true) :
    ∀ (ops : List Op) (s : St), Inv cfg hs s → LimInv s → (∀ op ∈ ops, OpOk cfg op ∧ notSetLimit op) →
      LimInv (run cfg hs s ops) := by
  intro ops s h hl hops
  exact (run_induct hcfg (fun s op h hl hq => lim_step h hl op hq) ops s h hl hops).2

/-- The period's time-limited current supply is only ever reset to zero by the begin blocker, never raised;
    incoming, outgoing and current supply are untouched by it. -/
theorem C13_limits_period_reset (cfg : Cfg) (hs : Hashes) (s : St) (h : Inv cfg hs s) (dh : Nat) (dt : Int) (d : Denom) :
    ((beginBlock hs s dh dt).supply d).incoming = (s.supply d).incoming ∧
    ((beginBlock hs s dh dt).supply d).outgoing = (s.supply d).outgoing ∧
    ((beginBlock hs s dh dt).supply d).current = (s.supply d).current ∧
    (((beginBlock hs s dh dt).supply d).tlCurrent = (s.supply d).tlCurrent ∨
     ((beginBlock hs s dh dt).supply d).tlCurrent = 0) := by
  have k := beginBlock_kept h dh dt d
  exact ⟨k.inc, k.out, k.cur, k.tl⟩

/-- The period clock, per asset independently.  With `Δ = new block time − previous block time` (real time),
    the begin blocker turns the record of asset `d` into `resetSupply a record Δ` — a function of that asset's
    own params and counters only (no other asset's elapsed time enters) — and stores the new block time as
    previous block time.  Hence: while the asset is time-limited and its own accumulated real time
    `elapsed + Δ` is still below its own period, the counter advances by exactly `Δ` and the period's
    time-limited current supply is kept; the allowance is reset (time-limited current ← 0, elapsed ← 0) only
    when the asset is not time-limited or a full period of real time has elapsed since its previous reset. -/
theorem C13_period_reset_only_after_period (cfg : Cfg) (hs : Hashes) (s : St) (h : Inv cfg hs s)
    (hn : (denoms s.assets).Nodup) (dh : Nat) (dt : Int) (d : Denom) (a : Asset)
    (ha : getAsset s.assets d = some a) :
    (beginBlock hs s dh dt).supply d = resetSupply a (s.supply d) (s.time + dt - s.prevTime) ∧
    (beginBlock hs s dh dt).prevTime = s.time + dt ∧ (beginBlock hs s dh dt).time = s.time + dt ∧
    (a.timeLimited = true → (s.supply d).elapsed + (s.time + dt - s.prevTime) < a.period →
      ((beginBlock hs s dh dt).supply d).elapsed = (s.supply d).elapsed + (s.time + dt - s.prevTime) ∧
      ((beginBlock hs s dh dt).supply d).tlCurrent = (s.supply d).tlCurrent) ∧
    (((beginBlock hs s dh dt).supply d).tlCurrent ≠ (s.supply d).tlCurrent ∨
     ((beginBlock hs s dh dt).supply d).elapsed ≠ (s.supply d).elapsed + (s.time + dt - s.prevTime) →
      (a.timeLimited = false ∨ a.period ≤ (s.supply d).elapsed + (s.time + dt - s.prevTime)) ∧
      ((beginBlock hs s dh dt).supply d).elapsed = 0 ∧ ((beginBlock hs s dh dt).supply d).tlCurrent = 0) := by
  obtain ⟨e1, e2, e3⟩ := beginBlock_period h hn dh dt d a ha
  refine ⟨e1, e2, e3, ?_, ?_⟩
  · intro htl hlt
    rw [e1]; unfold resetSupply
    simp only [htl, hlt, and_self, ite_true]
  · intro hne
    rw [e1] at hne ⊢
    unfold resetSupply at hne ⊢
    by_cases hc : a.timeLimited = true ∧ (s.supply d).elapsed + (s.time + dt - s.prevTime) < a.period
    · simp only [hc, and_self, ite_true] at hne
      rcases hne with hne | hne <;> exact absurd rfl hne
    · simp only [hc, ite_false, and_self, and_true]
      cases htl : a.timeLimited with
      | false => exact Or.inl rfl
      | true =>
        right
        have : ¬ (s.supply d).elapsed + (s.time + dt - s.prevTime) < a.period := fun hlt => hc ⟨htl, hlt⟩
        omega

/-- Nothing but the begin blocker touches the period clock: create, claim, refund and limit changes leave every
    asset's elapsed time, the previous block time and the block time alone.  With the theorem above: an
    asset's elapsed counter is exactly the real time between blocks accumulated since its own last reset. -/
theorem C13_period_clock_only_begin_block (cfg : Cfg) (hs : Hashes) (s : St) (h : Inv cfg hs s) (op : Op)
    (hnb : ∀ dh dt, op ≠ .beginBlock dh dt) (d : Denom) :
    ((step cfg hs s op).supply d).elapsed = (s.supply d).elapsed ∧
    (step cfg hs s op).prevTime = s.prevTime ∧ (step cfg hs s op).time = s.time := by
  rcases step_eq cfg hs s op with ⟨e, -⟩ | ⟨s', hok, e⟩ <;> rw [e]
  · exact ⟨rfl, rfl, rfl⟩
  cases op with
  | create hash ts span sender rcp other coins =>
    obtain ⟨d0, amt, a, dir, sup, bal', -, c, rfl⟩ := create_spec hok
    refine ⟨upd_proj (·.elapsed) ?_ d, rfl, rfl⟩
    rcases c.side with ⟨-, k⟩ | ⟨-, k⟩ <;> rw [k.sup_eq]
  | claim frm id rn =>
    obtain ⟨sw, sup, bal, bs, c, rfl⟩ := claim_spec hok
    refine ⟨upd_proj (·.elapsed) ?_ d, rfl, rfl⟩
    rcases c.side with ⟨-, a, k⟩ | ⟨-, k⟩ <;> rw [k.sup_eq]
  | refund frm id =>
    obtain ⟨sw, sup, bal, c, rfl⟩ := refund_spec hok
    refine ⟨upd_proj (·.elapsed) ?_ d, rfl, rfl⟩
    rcases c.side with ⟨-, k⟩ | ⟨-, k⟩ <;> rw [k.sup_eq]
  | beginBlock dh dt => exact absurd rfl (hnb dh dt)
  | setLimit d' l tl p tbl act => cases hok; exact ⟨rfl, rfl, rfl⟩
  | setDeputy d' dep => cases hok; exact ⟨rfl, rfl, rfl⟩

/-! ## Non-vacuity: a concrete history that exercises every transition -/

example : Inv exCfg exHs exGenesis :=
  C13_inv_genesis _ _ _ rfl rfl rfl (fun _ => ⟨rfl, rfl, Int.le_refl _⟩) (fun _ => rfl)
    (fun d a ha => by rw [exAssets d a ha]; decide)
example : exCfg.macc exCfg.module = true := by decide
example : (apply exCfg exHs exGenesis exOp1).isOk = true := by decide
example : (apply exCfg exHs (run exCfg exHs exGenesis [exOp1]) exOp2).isOk = true := by decide
-- a wrong secret and a second claim are refused
example : (apply exCfg exHs (run exCfg exHs exGenesis [exOp1]) (.claim 5 exId1 41)).isOk = false := by decide
example : (apply exCfg exHs (run exCfg exHs exGenesis [exOp1, exOp2]) exOp2).isOk = false := by decide
example : (apply exCfg exHs (run exCfg exHs exGenesis [exOp1, exOp2]) exOp3).isOk = true := by decide
-- refund before expiry is refused, after expiry accepted, and then a claim is refused
example : (apply exCfg exHs (run exCfg exHs exGenesis [exOp1, exOp2, exOp3]) exOp5).isOk = false := by decide
example : (apply exCfg exHs (run exCfg exHs exGenesis [exOp1, exOp2, exOp3, exOp4]) exOp5).isOk = true := by decide
example : (apply exCfg exHs (run exCfg exHs exGenesis [exOp1, exOp2, exOp3, exOp4, exOp5]) (.claim 3 exId3 43)).isOk = false := by
  decide
example : closeCount exCfg exHs exGenesis [exOp1, exOp2, exOp2, exOp3, exOp4, exOp5, exOp5] exId3 = 1 := by decide
example : netClaimed exCfg exHs exGenesis [exOp1, exOp2, exOp3, exOp4, exOp5] 0 = 100 := by decide
-- the invariant (hence custody, counters, indexes) holds on the non-trivial state reached by the history,
-- which contains a completed incoming swap, a completed (refunded) outgoing swap and minted coins
example : Inv exCfg exHs (run exCfg exHs exGenesis [exOp1, exOp2, exOp3, exOp4, exOp5]) := by
  apply C13_invariant _ _ (by decide)
  · exact C13_inv_genesis _ _ _ rfl rfl rfl (fun _ => ⟨rfl, rfl, Int.le_refl _⟩) (fun _ => rfl)
      (fun d a ha => by rw [exAssets d a ha]; decide)
  · intro op hm
    simp only [List.mem_cons, List.mem_nil_iff, or_false] at hm
    rcases hm with rfl | rfl | rfl | rfl | rfl <;> simp [OpOk, exOp1, exOp2, exOp3, exOp4, exOp5, exCfg]
-- hypotheses of the "always possible" theorems: an expired outgoing swap, an open outgoing swap
example : (findSwap (run exCfg exHs exGenesis [exOp1, exOp2, exOp3, exOp4]).swaps exId3).map (fun sw => (sw.status, sw.dir))
    = some (.expired, .outgoing) := by decide
example : (findSwap (run exCfg exHs exGenesis [exOp1, exOp2, exOp3]).swaps exId3).map (fun sw => (sw.status, sw.dir))
    = some (.open, .outgoing) := by decide
example : ((run exCfg exHs exGenesis [exOp1, exOp2, exOp3]).bal 0 0, (run exCfg exHs exGenesis [exOp1, exOp2, exOp3]).bal 3 0,
    (run exCfg exHs exGenesis [exOp1, exOp2, exOp3]).bankSupply 0) = (50, 50, 100) := by decide
example : DeputyInv exGenesis := by intro sw hm; cases hm
-- deputy rotation: the incoming swap created by deputy 1 is still incoming after the deputy became party 2, and
-- claiming it mints the 100 coins to its recipient (party 3); the module account is not touched
example : (apply exCfg exHs (run exCfg exHs exGenesis [exOp1, .setDeputy 0 2]) exOp2).isOk = true := by decide
example : ((run exCfg exHs exGenesis [exOp1, .setDeputy 0 2, exOp2]).bal 3 0,
    (run exCfg exHs exGenesis [exOp1, .setDeputy 0 2, exOp2]).bal 0 0,
    ((run exCfg exHs exGenesis [exOp1, .setDeputy 0 2, exOp2]).supply 0).incoming,
    ((run exCfg exHs exGenesis [exOp1, .setDeputy 0 2, exOp2]).supply 0).current) = (100, 0, 0, 100) := by decide
example : (getAsset (run exCfg exHs exGenesis [exOp1, .setDeputy 0 2]).assets 0).map (·.deputy) = some 2 := by decide
-- after the rotation the old deputy can no longer create incoming swaps, the new one can
example : (apply exCfg exHs (run exCfg exHs exGenesis [.setDeputy 0 2])
    (.create (exHs.H 44 1700000000) 1700000000 3 2 3 7 [(0, 100)])).isOk = true := by decide
example : (apply exCfg exHs (run exCfg exHs exGenesis [.setDeputy 0 2]) exOp1).isOk = false := by decide
example : (denoms exGenesis.assets).Nodup := by decide
example : LimInv exGenesis := by
  intro d a ha
  rw [exAssets d a ha]
  exact ⟨by show (0 : Int) + 0 ≤ 1000; decide, fun _ => by show (0 : Int) + 0 ≤ 500; decide, Int.le_refl _⟩

end KV.Bep3
