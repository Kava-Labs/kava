/-
  C12 — Liquid staking: derivatives are backed, redeemable and vote like their stake.

  "For each validator the supply of its liquid-staking derivative never exceeds the delegation shares held by
   the liquid module account, so every holder can always redeem. Minting moves the requested stake from the
   user's delegation to the module and burning moves it back, without an unbonding period, without changing the
   validator's bonded tokens, without changing the staked value owned by the user by more than two base units
   per operation and without ever creating an empty delegation; conversions are refused while the delegator has
   an incoming redelegation to that validator or when they would take a validator's self-delegation below its
   minimum. In governance tallies a derivative, whether held in a wallet, in savings or in earn, carries the
   voting power its backing delegation would carry: counted once, only while its validator is bonded, so the
   total counted power never exceeds the total bonded stake."

  The model is KavaVerif/Model/Liquid.lean: x/liquid's TransferDelegation / MintDerivative / BurnDerivative and
  app/tally_handler.go transcribed line by line over the x/staking primitives as the SDK writes them (modelled,
  not verified: x/staking is trusted).  `cfg` is the configuration of the code in /repo — since the fix commits
  932d1f99a (mint ⌊received shares⌋), 96498654b (no re-delegation of zero tokens) and 66dfa73a4 (the tally skips
  derivatives of validators outside the bonded set) all three switches are on — and it is the configuration the
  correspondence driver runs.  Every statement of the property is proved at full strength about this live
  model.  Statements that do not depend on the switches are proved for every configuration `g`.  The last
  section keeps, as `example`s about `Cfg.current` (the code *before* the three commits), the literal witnesses on
  which four statements used to be false; the same witnesses are shown to be handled by the live model next to
  each theorem.  Only property statements live here; helper lemmas are in KavaVerif/Proofs/Liquid*.lean.
-/
import KavaVerif.Proofs.LiquidTally
import KavaVerif.Proofs.LiquidRate
import KavaVerif.Proofs.LiquidBurnGuard
set_option linter.unusedSimpArgs false
set_option linter.unusedVariables false

namespace KV.Liquid
open KV

/-- the live model has the three repairs: switching one off in Model/Liquid.lean re-opens every obligation below -/
theorem C12_live_configuration :
    cfg.mintReceived = true ∧ cfg.skipZeroDelegate = true ∧ cfg.tallySkipUnbonded = true := ⟨rfl, rfl, rfl⟩

/-! ## Witness states (all reachable: see findings/C12-*.md for the same histories on the real keepers) -/

/-- a validator slashed by 7 %: 93 tokens for 100 shares; account 1 and the operator 9 hold 50 shares each -/
def exSlashed : VSt :=
  { val := some { tokens := 93, shares := ⟨100 * P⟩, status := .bonded, minSelf := 1, jailed := false, oper := 9 },
    del := fun a => if a = 1 then some ⟨50 * P⟩ else if a = 9 then some ⟨50 * P⟩ else none,
    redel := fun _ => false, ubd := fun _ => 0, bal := fun _ => 0, supply := 0 }

/-- the same validator; the module (0) holds 10 shares backing 10 derivative units, one of which belongs to
    account 2, which never delegated -/
def exHolder : VSt :=
  { val := some { tokens := 93, shares := ⟨100 * P⟩, status := .bonded, minSelf := 1, jailed := false, oper := 9 },
    del := fun a => if a = 0 then some ⟨10 * P⟩ else if a = 1 then some ⟨40 * P⟩ else if a = 9 then some ⟨50 * P⟩ else none,
    redel := fun _ => false, ubd := fun _ => 0, bal := fun a => if a = 2 then 1 else if a = 1 then 9 else 0, supply := 10 }

/-- a healthy validator (exchange rate one) with the same holders -/
def exHealthy : VSt :=
  { val := some { tokens := 100, shares := ⟨100 * P⟩, status := .bonded, minSelf := 30, jailed := false, oper := 9 },
    del := fun a => if a = 0 then some ⟨10 * P⟩ else if a = 1 then some ⟨40 * P⟩ else if a = 9 then some ⟨50 * P⟩ else none,
    redel := fun a => decide (a = 3), ubd := fun _ => 0, bal := fun a => if a = 2 then 1 else if a = 1 then 9 else 0, supply := 10 }

/-- 930 tokens for 1000 shares; account 1 owns 900 of them -/
def exWhale : VSt :=
  { val := some { tokens := 930, shares := ⟨1000 * P⟩, status := .bonded, minSelf := 1, jailed := false, oper := 9 },
    del := fun a => if a = 1 then some ⟨900 * P⟩ else if a = 9 then some ⟨100 * P⟩ else none,
    redel := fun _ => false, ubd := fun _ => 0, bal := fun _ => 0, supply := 0 }

def exAccts : List Addr := [0, 1, 2, 9]

theorem exSlashed_wf : WF exAccts exSlashed ∧ SaneRate exSlashed ∧ Backed 0 exSlashed := by
  refine ⟨WF_of_list (fun a ha => ?_) (by decide) (of_val rfl (by decide)), of_val rfl (by decide), by decide⟩
  simp only [exAccts, List.mem_cons, List.not_mem_nil, or_false, not_or] at ha
  simp only [exSlashed, ha.2.1, ha.2.2.2, ite_false]

/-! ## 1. Backing -/

/-- **Backing, full strength, live model.**  Along every history — mints, burns, sends, delegations,
    undelegations, redelegations, jailing / status changes and slashes of any validator; a failed message changes
    nothing — every validator's derivative supply stays within the delegation shares of the module account.
    `accts` lists the accounts that ever delegate (the module account among them); `WF` is x/staking's own
    well-formedness (shares non-negative and adding up to DelegatorShares, tokens non-negative), which the
    modelled primitives preserve. -/
theorem C12_backed (accts : List Addr) (hn : accts.Nodup) (M : Addr) (hM : M ∈ accts) (ops : List Op) (s s' : Chain)
    (hact : ∀ op ∈ ops, ∀ a ∈ op.actors, a ∈ accts)
    (hwf : ∀ w, WF accts (s w)) (hb : ∀ w, Backed M (s w))
    (hrun : run cfg M s ops = some s') : ∀ w, Backed M (s' w) := fun w =>
  (run_inv_fixed true accts hn cfg (fun _ => rfl) M hM ops s s' hact (fun w => ⟨hwf w, fun _ => hb w⟩) hrun w).2 rfl

/-- non-vacuity and the former witness (finding F6: 93 tokens / 100 shares, mint 3): the live model mints 2 units
    against 2.1269… module shares, and stays backed through a further slash, mint and burn -/
example : (∀ w : Nat, WF exAccts ((fun _ => exSlashed : Chain) w)) ∧ ∀ w : Nat, Backed 0 ((fun _ => exSlashed : Chain) w) :=
  ⟨fun _ => exSlashed_wf.1, fun _ => exSlashed_wf.2.2⟩
example : (mint cfg 0 exSlashed 1 true 3).okAnd (fun p => decide (Backed 0 p.1 ∧ p.2 = 2)) = true := by decide +kernel
example : (match run cfg 0 (fun _ => exSlashed) [.mint 1 0 3, .slash 0 40, .mint 1 0 5, .burn 1 0 2] with
    | some s => decide (Backed 0 (s 0) ∧ 0 < (s 0).supply) | none => false) = true := by decide +kernel

/-- Any configuration, any exchange rate: a burn lowers the supply by `amount` and the module's
    shares by exactly `amount` shares, so with backing every holder can redeem: a burn of `amount ≤ supply` units
    finds at least `amount` shares in the module's delegation, and leaves the margin `module shares − supply` as it was. -/
theorem C12_burn_keeps_margin (g : Cfg) (M : Addr) (c c' : VSt) (d : Addr) (amount : Int) (r : Dec) (hne : d ≠ M)
    (h : burn g M c d amount = .ok (c', r)) :
    dm c' M - c'.supply * P = dm c M - c.supply * P :=
  burn_margin hne h

/-! ## 2. No empty delegation -/

/-- **No empty delegation, full strength, live model.**  Every successful TransferDelegation — hence every mint and
    burn — leaves no delegation record with zero shares; either nothing was worth a token (the recipient's record is
    untouched and zero received shares are reported, the outcome the maintainers' test "zero shares received when
    transfer < 1 token" expects) or a strictly positive number of shares is credited, which is always the case when
    the shares sent are worth at least one token.  `SaneRate`: one 10^-18 share is worth at most half a token. -/
theorem C12_no_empty_delegation (accts : List Addr) (hn : accts.Nodup) (c c' : VSt) (frm to : Addr) (sh r : Dec)
    (hf : frm ∈ accts) (ht : to ∈ accts) (hne : frm ≠ to) (hwf : WF accts c) (hrate : SaneRate c)
    (hnone : ∀ a, NoEmptyAt c a) (h : transfer cfg c frm to sh = .ok (c', r)) :
    (∀ a, NoEmptyAt c' a) ∧ ((c'.del to = c.del to ∧ r.m = 0) ∨ 0 < r.m) ∧ (WorthOneToken c sh → 0 < r.m) := by
  obtain ⟨h1, h3⟩ := transfer_no_empty hf ht hne hwf hrate (Or.inl rfl) h
  exact ⟨fun a => h1 a (hnone a), h3⟩

/-- the former witness (finding F7: an account that never delegated burns one unit worth 0 tokens): the unit is
    burnt, no record is stored; a burn of two units credits shares -/
example : (burn cfg 0 exHolder 2 1).okAnd (fun p => decide (p.1.del 2 = none ∧ p.2.m = 0 ∧ p.1.supply = 9)) = true := by decide +kernel
example : (burn cfg 0 exHolder 1 2).okAnd (fun p => decide (NoEmptyAt p.1 1 ∧ 0 < p.2.m)) = true := by decide +kernel
example : WorthOneToken exHolder (Dec.ofInt 2) := of_val rfl (by decide)

/-! ## 3. Bonded tokens, status and unbonding entries are untouched -/

/-- A successful mint or burn leaves the validator in place with the same tokens (hence the same bonded tokens and
    voting power), the same status, jailed flag, minimum self delegation and operator: the stake never leaves the
    validator, and the self-delegation guard makes the jailing branch of `Unbond` unreachable.  (`hpos`, for the live model: the validator has tokens — the zero-amount branch does not re-delegate and a validator without tokens that loses
    its last share is removed by `Unbond`, as in x/staking's own Undelegate.) -/
theorem C12_bonded_tokens_unchanged (g : Cfg) (M : Addr) (c c' : VSt) (d : Addr) (amount : Int) (hne : d ≠ M)
    (hpos : g.skipZeroDelegate = false ∨ ∀ v, c.val = some v → 0 < v.tokens) :
    (∀ der, mint g M c d true amount = .ok (c', der) →
      ∃ v v', c.val = some v ∧ c'.val = some v' ∧ v'.tokens = v.tokens ∧ v'.status = v.status ∧
        v'.jailed = v.jailed ∧ v'.minSelf = v.minSelf ∧ v'.oper = v.oper) ∧
    (∀ r, burn g M c d amount = .ok (c', r) →
      ∃ v v', c.val = some v ∧ c'.val = some v' ∧ v'.tokens = v.tokens ∧ v'.status = v.status ∧
        v'.jailed = v.jailed ∧ v'.minSelf = v.minSelf ∧ v'.oper = v.oper) := by
  -- common part: the validator record after a transfer
  have key : ∀ (c0 c2 : VSt) (frm to : Addr) (sh r : Dec), frm ≠ to → c0.val = c.val →
      transfer g c0 frm to sh = .ok (c2, r) →
      ∃ v v', c.val = some v ∧ c2.val = some v' ∧ v'.tokens = v.tokens ∧ v'.status = v.status ∧
        v'.jailed = v.jailed ∧ v'.minSelf = v.minSelf ∧ v'.oper = v.oper := by
    intro c0 c2 frm to sh r hft hval ht
    obtain ⟨x, v, v2, amt, -, hv, -, -, hrm, -, -, hcase⟩ := transfer_effect hft ht
    rw [hval] at hv
    rcases hcase with ⟨hs, ha0, -, -, hv2⟩ | ⟨-, v3, hadd, hv3, -⟩
    · have hT : 0 < v.tokens := by
        rcases hpos with hp | hp
        · rw [hs] at hp; cases hp
        · exact hp v hv
      obtain ⟨rfl, ⟨-, e1⟩ | ⟨hne2, -⟩⟩ := removeDelShares_spec hrm
      · omega
      · exact ⟨v, _, hv, hv2.trans (if_neg fun hh => hne2 hh.1), ha0 ▸ Int.sub_zero _, rfl, rfl, rfl, rfl⟩
    · cases xfer_val hrm hadd
      exact ⟨v, _, hv, hv3, rfl, rfl, rfl, rfl, rfl⟩
  constructor
  · intro der h
    obtain ⟨-, shares, c1, r, -, ht, -, rfl⟩ := mint_effect h
    exact key c c1 d M shares r hne rfl ht
  · intro r h
    obtain ⟨-, ht⟩ := burn_effect h
    exact key { c with bal := updI c.bal d (c.bal d - amount), supply := c.supply - amount } c' M d _ r
      (fun e => hne e.symm) rfl ht

/-- A successful mint or burn creates no unbonding-delegation entry and no redelegation record for anybody, and the
    recipient's delegation is credited with the received shares in the same step (there is no unbonding period). -/
theorem C12_no_unbonding_entry (g : Cfg) (M : Addr) (c c' : VSt) (d : Addr) (amount : Int) (hne : d ≠ M) :
    (∀ der, mint g M c d true amount = .ok (c', der) →
      c'.ubd = c.ubd ∧ c'.redel = c.redel ∧ ∃ r : Dec, dm c' M = dm c M + r.m) ∧
    (∀ r, burn g M c d amount = .ok (c', r) →
      c'.ubd = c.ubd ∧ c'.redel = c.redel ∧ dm c' d = dm c d + r.m) := by
  constructor
  · intro der h
    obtain ⟨-, shares, c1, r, -, ht, -, rfl⟩ := mint_effect h
    obtain ⟨hdm, u⟩ := transfer_frame hne ht
    exact ⟨u.ubd, u.redel, r, by show dm c1 M = _; rw [hdm M, if_neg (Ne.symm hne), if_pos rfl]⟩
  · intro r h
    obtain ⟨-, ht⟩ := burn_effect h
    obtain ⟨hdm, u⟩ := transfer_frame (fun e => hne e.symm) ht
    exact ⟨u.ubd, u.redel, by rw [hdm d, if_neg hne, if_pos rfl]; rfl⟩

example : (mint cfg 0 exHealthy 1 true 7).isOk = true ∧ (burn cfg 0 exHealthy 2 1).isOk = true := by decide +kernel

/-! ## 4. Guards -/

/-- Conversions are refused while the delegator (for a burn: the module account) has an incoming redelegation to
    the validator, and when they would take the operator's self-delegation below the validator's minimum. -/
theorem C12_guards (g : Cfg) (M : Addr) (c : VSt) (frm to d : Addr) (sh : Dec) (amount : Int) :
    (c.redel frm = true → transfer g c frm to sh = .err) ∧
    (∀ v x, c.val = some v → c.del frm = some x → frm = v.oper → v.belowMinSelf (x.sub sh) = true →
        transfer g c frm to sh = .err) ∧
    (c.redel d = true → (mint g M c d true amount).isErr = true) ∧
    (c.redel M = true → 0 ≤ amount → (burn g M c d amount).isErr = true) := by
  refine ⟨transfer_redel, fun v x => transfer_belowMinSelf, fun h => ?_, fun h h0 => ?_⟩
  · unfold mint
    simp only [transfer_redel h]
    split
    · rfl
    · split
      · rfl
      · split <;> rfl
  · unfold burn
    rw [if_neg (show ¬ amount < 0 by omega)]
    split
    · rfl
    · exact congrArg Res.isErr
        (transfer_redel (c := { c with bal := updI c.bal d (c.bal d - amount), supply := c.supply - amount }) h)

/-- non-vacuity: account 3 has an incoming redelegation; the operator 9 may mint 20 of its 50 (minimum 30) but not 21 -/
example : (mint cfg 0 { exHealthy with del := fun a => if a = 3 then some ⟨5 * P⟩ else exHealthy.del a } 3 true 1).isErr = true := by decide +kernel
example : (mint cfg 0 exHealthy 9 true 20).isOk = true ∧ (mint cfg 0 exHealthy 9 true 21).isErr = true := by decide +kernel

/-! ## 5. The value of the user's stake -/

/-- **Value within two base units, live model — exactly what holds.**  The value of an account's stake on a
    validator is what the chain itself uses (`GetStakedTokensForDerivatives`, tally): (delegation shares +
    derivative units) × tokens / shares; `ValueWithinTwo c c' d` says |value' − value| ≤ 2, cross-multiplied.
    For every successful **mint** and every successful **burn**: the change is at most two base units — less than
    one token is left behind by the truncation in `RemoveDelShares`, less than one share is lost to the floor on
    the minted amount (burn: nothing) — under: x/staking's invariants (`WF`), a sane rate, a validator with
    tokens, a non-negative balance, the holder's claim not exceeding the validator's shares (what backing gives),
    and an exchange rate of at most one token per share after the operation (every validator that was only ever
    slashed; for a rate r > 1, reachable only through trimmings, the second unit becomes r: without `hpost` the
    statement is false — `C12_value_within_two_units_counterexample` — and what holds at every rate is
    `C12_value_within_one_plus_rate`, finding C12-rate-above-one). -/
theorem C12_value_within_two_units (accts : List Addr) (hn : accts.Nodup) (M : Addr) (c c' : VSt) (d : Addr)
    (amount : Int) (hM : M ∈ accts) (hd : d ∈ accts) (hne : d ≠ M)
    (hwf : WF accts c) (hrate : SaneRate c) (hTpos : ∀ v, c.val = some v → 0 < v.tokens)
    (hbal : 0 ≤ c.bal d) (hH : dm c d + c.bal d * P ≤ sharesOf c)
    (hpost : ∀ v', c'.val = some v' → 0 ≤ v'.tokens ∧ v'.tokens * P ≤ v'.shares.m) :
    (∀ der, mint cfg M c d true amount = .ok (c', der) → ValueWithinTwo c c' d) ∧
    (∀ r, burn cfg M c d amount = .ok (c', r) → ValueWithinTwo c c' d) := by
  constructor
  · intro der h
    refine (valueWithinOnePlusRate_iff_two c c' d ?_).mp
      (mint_value_rate accts hn cfg rfl M c c' d amount der hM hd hne hwf hrate hTpos hbal hH h).1
    unfold tokensOf sharesOf
    cases hv : c'.val with
    | none => exact Int.le_refl _
    | some v' => exact (hpost v' hv).2
  · intro r h
    refine burn_value accts hn cfg M c c' d amount r hM hd hne hwf hrate hTpos hH ?_ h
    intro v' hv'
    obtain ⟨h0, h1⟩ := hpost v' hv'
    have : v'.tokens * 1 ≤ v'.tokens * P := Int.mul_le_mul_of_nonneg_left (by decide) h0
    omega

/-- the former witness (900 of the 1000 shares of a 930-token validator, mint 606): the live model mints 648 units
    and the stake's value stays within two units -/
example : (mint cfg 0 exWhale 1 true 606).okAnd (fun p => decide (ValueWithinTwo exWhale p.1 1 ∧ p.2 = 648)) = true := by decide +kernel
theorem exWhale_ok : SaneRate exWhale ∧ dm exWhale 1 + exWhale.bal 1 * P ≤ sharesOf exWhale :=
  ⟨of_val rfl (by decide), by decide⟩

/-! ### A rate above one token per share (finding C12-rate-above-one; the code is NOT repaired: the rounding is
  x/staking's, and minting the ceiling instead would break backing)

  x/staking's `RemoveDelShares` hands out ⌊shares · tokens / totalShares⌋ tokens; the fraction of a token it keeps
  raises the validator's rate, and once few shares are left the rate passes one.  `exTrimmedStart` is a validator
  slashed by 10 % (9 tokens for 10 shares).  Account 2 undelegates 6 tokens' worth (6.666… shares) and is paid 5:
  4 tokens for 3.333… shares are left — 1.2 tokens per share.  Accounts 1 and 2 then delegate 10 and 100 tokens at
  that rate: `exRateAboveOne`.  Account 1 now converts 7 tokens: 5.833… shares leave its delegation, 6 tokens move
  (0.999… left behind), 4.953… shares reach the module, 4 derivative units are minted — the 0.953… share floored
  away is worth 1.155 tokens, not less than one (the rate is 1.211 afterwards).  The stake of account 1 was worth
  10.000 base units, it is worth 7.872… afterwards: 2.127 lost, more than two, less than 1 + 1.211. -/

/-- a validator slashed by 10 %: 9 tokens for 10 shares; account 2 holds 9 shares, the operator 9 one -/
def exTrimmedStart : VSt :=
  { val := some { tokens := 9, shares := ⟨10 * P⟩, status := .bonded, minSelf := 1, jailed := false, oper := 9 },
    del := fun a => if a = 2 then some ⟨9 * P⟩ else if a = 9 then some ⟨1 * P⟩ else none,
    redel := fun _ => false, ubd := fun _ => 0, bal := fun _ => 0, supply := 0 }

/-- the same validator after `undelegate 6` by account 2 and `delegate 10`, `delegate 100` by accounts 1 and 2:
    114 tokens for 95.000000000000000019 shares (1.2 tokens per share) -/
def exRateAboveOne : VSt :=
  { val := some { tokens := 114, shares := ⟨95000000000000000019⟩, status := .bonded, minSelf := 1, jailed := false, oper := 9 },
    del := fun a => if a = 1 then some ⟨8333333333333333335⟩ else if a = 2 then some ⟨85666666666666666684⟩
      else if a = 9 then some ⟨1 * P⟩ else none,
    redel := fun _ => false, ubd := fun _ => 0, bal := fun _ => 0, supply := 0 }

/-- `exRateAboveOne` is what the modelled x/staking messages make of the slashed validator (every field the
    conversions read: validator record, the four delegations, derivative balance and supply) -/
example : (match run cfg 0 (fun _ => exTrimmedStart) [.undelegate 2 0 6, .delegate 1 0 10, .delegate 2 0 100] with
    | some s => decide ((s 0).val = exRateAboveOne.val ∧ (∀ a ∈ exAccts, (s 0).del a = exRateAboveOne.del a) ∧
        (s 0).bal 1 = 0 ∧ (s 0).supply = 0 ∧ (s 0).redel 1 = false)
    | none => false) = true := by decide +kernel

/-- the witness satisfies every hypothesis of `C12_value_within_two_units` except the rate after the operation -/
theorem exRateAboveOne_ok : WF exAccts exRateAboveOne ∧ SaneRate exRateAboveOne ∧
    (∀ v, exRateAboveOne.val = some v → 0 < v.tokens) ∧ 0 ≤ exRateAboveOne.bal 1 ∧
    dm exRateAboveOne 1 + exRateAboveOne.bal 1 * P ≤ sharesOf exRateAboveOne := by
  refine ⟨WF_of_list (fun a ha => ?_) (by decide) (of_val rfl (by decide)), of_val rfl (by decide),
    of_val rfl (by decide), by decide, by decide⟩
  simp only [exAccts, List.mem_cons, List.not_mem_nil, or_false, not_or] at ha
  simp only [exRateAboveOne, ha.2.1, ha.2.2.1, ha.2.2.2, ite_false]

/-- **The two-unit clause is false on the live code once a validator's rate exceeds one.**  The statement of
    `C12_value_within_two_units` with every hypothesis kept except `hpost` (rate ≤ 1 after the operation): refuted
    by `exRateAboveOne`, account 1 minting 7 — the mint succeeds and the value of the stake drops by 2.127 units. -/
theorem C12_value_within_two_units_counterexample :
    ¬ (∀ (accts : List Addr) (hn : accts.Nodup) (M : Addr) (c c' : VSt) (d : Addr) (amount : Int)
        (hM : M ∈ accts) (hd : d ∈ accts) (hne : d ≠ M)
        (hwf : WF accts c) (hrate : SaneRate c) (hTpos : ∀ v, c.val = some v → 0 < v.tokens)
        (hbal : 0 ≤ c.bal d) (hH : dm c d + c.bal d * P ≤ sharesOf c),
        (∀ der, mint cfg M c d true amount = .ok (c', der) → ValueWithinTwo c c' d) ∧
        (∀ r, burn cfg M c d amount = .ok (c', r) → ValueWithinTwo c c' d)) := by
  intro h
  have w : (mint cfg 0 exRateAboveOne 1 true 7).okAnd (fun p => decide (¬ ValueWithinTwo exRateAboveOne p.1 1)) = true := by
    decide +kernel
  obtain ⟨⟨c', der⟩, hm, hp⟩ := Res.okAnd_elim w
  obtain ⟨k1, k2, k3, k4, k5⟩ := exRateAboveOne_ok
  exact (of_decide_eq_true hp)
    ((h exAccts (by decide) 0 exRateAboveOne c' 1 7 (by decide) (by decide) (by decide) k1 k2 k3 k4 k5).1 der hm)

/-- **Value within 1 + max(1, r) base units, live model, every rate — the strongest statement that holds.**
    Same hypotheses as `C12_value_within_two_units` minus the rate: for every successful **mint** the value of the
    user's stake changes by at most 1 + max(1, r') base units, r' = tokens / shares of the validator after the
    operation (`ValueWithinOnePlusRate`, cross-multiplied: less than one token is left behind by `RemoveDelShares`,
    less than one share — worth r' — is lost to the floor on the minted amount), and a *gain* never exceeds two
    units.  For every successful **burn** the two-unit bound holds at every rate (nothing is floored on a burn).
    At r' ≤ 1 the bound is the two units of `C12_value_within_two_units`
    (`C12_value_bounds_agree_at_rate_le_one`). -/
theorem C12_value_within_one_plus_rate (accts : List Addr) (hn : accts.Nodup) (M : Addr) (c c' : VSt) (d : Addr)
    (amount : Int) (hM : M ∈ accts) (hd : d ∈ accts) (hne : d ≠ M)
    (hwf : WF accts c) (hrate : SaneRate c) (hTpos : ∀ v, c.val = some v → 0 < v.tokens)
    (hbal : 0 ≤ c.bal d) (hH : dm c d + c.bal d * P ≤ sharesOf c) :
    (∀ der, mint cfg M c d true amount = .ok (c', der) → ValueWithinOnePlusRate c c' d ∧ GainWithinTwo c c' d) ∧
    (∀ r, burn cfg M c d amount = .ok (c', r) → ValueWithinOnePlusRate c c' d ∧ ValueWithinTwo c c' d) := by
  constructor
  · intro der h
    exact mint_value_rate accts hn cfg rfl M c c' d amount der hM hd hne hwf hrate hTpos hbal hH h
  · intro r h
    have h2 := burn_value_any_rate accts hn cfg M c c' d amount r hM hd hne hwf hrate hTpos hH h
    refine ⟨valueWithinOnePlusRate_of_two ?_ h2, h2⟩
    unfold sharesOf
    cases hv : c.val with
    | none => exact Int.le_refl 0
    | some v => exact hwf.shares_nonneg hv

/-- at a rate of at most one token per share after the operation, 1 + max(1, r') is two: the two statements
    coincide, so `C12_value_within_two_units` is the r' ≤ 1 case of `C12_value_within_one_plus_rate` -/
theorem C12_value_bounds_agree_at_rate_le_one (c c' : VSt) (d : Addr)
    (hpost : ∀ v', c'.val = some v' → v'.tokens * P ≤ v'.shares.m) :
    ValueWithinOnePlusRate c c' d ↔ ValueWithinTwo c c' d := by
  apply valueWithinOnePlusRate_iff_two
  unfold tokensOf sharesOf
  cases hv : c'.val with
  | none => simp
  | some v' => exact hpost v' hv

/-- non-vacuity and tightness: on the witness the mint of 7 gives 4 units, breaks two units, stays within 1 + r
    (and no gain); burning the 4 units back stays within two units at the rate above one; a mint of 9 on the same
    validator (0.603… share floored away) changes the value by 1.72 units -/
example : (mint cfg 0 exRateAboveOne 1 true 7).okAnd (fun p => decide (p.2 = 4 ∧ ¬ ValueWithinTwo exRateAboveOne p.1 1 ∧
    ValueWithinOnePlusRate exRateAboveOne p.1 1 ∧ GainWithinTwo exRateAboveOne p.1 1 ∧
    sharesOf p.1 < tokensOf p.1 * P)) = true := by decide +kernel
example : (mint cfg 0 exRateAboveOne 1 true 7).okAnd (fun p =>
    (burn cfg 0 p.1 1 4).okAnd (fun q => decide (ValueWithinTwo p.1 q.1 1 ∧ sharesOf q.1 < tokensOf q.1 * P))) = true := by decide +kernel
example : (mint cfg 0 exRateAboveOne 1 true 9).okAnd (fun p => decide (ValueWithinTwo exRateAboveOne p.1 1)) = true := by decide +kernel

/-- Any configuration: on a validator with exchange rate one and whole shares (never slashed) a mint does not change
    the value of the user's stake at all. -/
theorem C12_value_unchanged_at_rate_one (g : Cfg) (M : Addr) (c c' : VSt) (d : Addr) (amount der : Int)
    (hne : d ≠ M) (hgood : Good M c) (h : mint g M c d true amount = .ok (c', der)) :
    stakeNum c' d = stakeNum c d ∧ sharesOf c' = sharesOf c ∧ ValueWithinTwo c c' d := by
  obtain ⟨hg', hdd, hbal⟩ := mint_good hne hgood h
  have hpos : g.skipZeroDelegate = false ∨ ∀ v, c.val = some v → 0 < v.tokens := by
    right
    obtain ⟨-, shares, -, -, hval, -⟩ := mint_effect h
    obtain ⟨v0, -, hv0, -, hne0, -⟩ := validate_spec hval
    intro v hv; rw [hv0] at hv; cases hv
    have := (hgood.1.2 v0 hv0).1; omega
  obtain ⟨v, v', hv, hv', ht, -⟩ := (C12_bonded_tokens_unchanged g M c c' d amount hne hpos).1 der h
  obtain ⟨hT, hS⟩ := hgood.1.2 v hv
  have e1 : stakeNum c' d = stakeNum c d := by
    rw [stakeNum_some hv, stakeNum_some hv', hdd, hbal, ht, Int.add_mul (c.bal d)]
    congr 1; omega
  have e2 : sharesOf c' = sharesOf c := by
    rw [sharesOf_some hv, sharesOf_some hv', (hg'.1.2 v' hv').2, hS, ht]
  refine ⟨e1, e2, ?_⟩
  unfold ValueWithinTwo
  rw [e1, e2, Int.sub_self, sharesOf_some hv, hS]
  have h0 : 0 ≤ v.tokens * P := Int.mul_nonneg hT (by decide)
  exact ⟨Int.mul_nonneg (Int.mul_nonneg (by decide) h0) h0, Int.mul_nonneg (Int.mul_nonneg (by decide) h0) h0⟩

/-! ## 6. The governance tally -/

/-- validator 0 bonded with 1 000 000 tokens; validator 1 jailed → unbonding (not in the handler's set) with
    500 000 000 tokens, all of them held through the liquid module -/
def exTVals : List TVal :=
  [{ tokens := 1000000, shares := ⟨1000000 * P⟩, bonded := true },
   { tokens := 500000000, shares := ⟨500000000 * P⟩, bonded := false }]

/-- one voter: no delegation, 500 000 000 derivative units of validator 1 in the wallet, votes yes -/
def exTVotes : List TVote :=
  [{ oper := none, opts := [(1, ⟨P⟩)], dels := [], wallet := [(1, 500000000)], savings := [], earn := [] }]

/-- validators 0 and 2 bonded, validator 1 existing but emptied (zero shares, unbonding); a voter still holds one
    unit of validator 1's derivative in earn (possible only because of finding F6) -/
def exTValsEmpty : List TVal :=
  [{ tokens := 1000000, shares := ⟨1000000 * P⟩, bonded := true }, { tokens := 0, shares := ⟨0⟩, bonded := false }]
def exTVotesEmpty : List TVote :=
  [{ oper := none, opts := [(1, ⟨P⟩)], dels := [], wallet := [], savings := [], earn := [(1, 1)] }]

/-- what x/gov and x/staking guarantee of every stored vote: weights validated by `ValidateBasic`, non-negative shares -/
def VoteOK0 (t : TVote) : Prop := OptsOK t.opts ∧ ∀ x ∈ t.dels, 0 ≤ x.2.m

theorem exT_ok : ValsOK exTVals ∧ (∀ t ∈ exTVotes, VoteOK0 t) ∧ ValsOK exTValsEmpty ∧ (∀ t ∈ exTVotesEmpty, VoteOK0 t) := by
  unfold VoteOK0 OptsOK
  exact ⟨ValsOK_of_lt (by decide), by decide, ValsOK_of_lt (by decide), by decide⟩

/-- **Counted power ≤ bonded stake, full strength, live model.**  Whatever derivatives the voters hold (of bonded,
    jailed, unbonding or unbonded validators), the integer TallyResult (yes + abstain + no + veto) never exceeds
    the tokens of the validators in the handler's bonded set — hence never `TotalBondedTokens` — and the total
    voting power exceeds them by at most half a 10^-18 unit per rounding.  `ValsOK`: validators of the set have
    positive shares; `DedOK`: the deductions of a validator do not exceed its shares (what backing — `C12_backed` —
    and x/staking's share accounting give: voters' delegations plus voters' derivatives ≤ delegations plus module
    delegation); `hsmall` excludes tallies performing more than 4·10^17 roundings. -/
theorem C12_tally_le_bonded (vals : List TVal) (votes : List TVote) (o : TallyOut) (hv : ValsOK vals)
    (hok : ∀ t ∈ votes, VoteOK0 t)
    (hd : ∀ a, voteLoop cfg vals TAcc.init votes = some a → DedOK vals a)
    (hsmall : 5 * tallyItems vals votes < 2 * P)
    (h : tally cfg vals votes = some o) :
    o.counted ≤ bondedTotal vals ∧ 2 * o.total ≤ 2 * (bondedTotal vals * P) + tallyItems vals votes := by
  have hok' : ∀ t ∈ votes, VoteOK cfg vals t := fun t ht => ⟨(hok t ht).1, (hok t ht).2, fun _ _ => Or.inr rfl⟩
  exact ⟨tally_counted_le hv hok' hd hsmall h, (tally_bounds cfg vals votes o hv hok' hd h).1⟩

/-- the former witness (finding F8: 1 000 000 bonded, a voter holding 500 000 000 units of an unbonding validator):
    nothing is counted for it -/
example : (tally cfg exTVals exTVotes).map (fun o => o.counted) = some 0 ∧ bondedTotal exTVals = 1000000 := by decide +kernel

/-- non-vacuity: both validators bonded; the derivative holder (wallet + savings + earn), a delegator with a split
    vote and validator 1 itself vote; the four counts add up to 465 399 999 ≤ 465 000 000 (validator 1) + 400 000
    (the delegation to validator 0, which does not vote itself) -/
example : (tally cfg
    [{ tokens := 1000000, shares := ⟨1000000 * P⟩, bonded := true }, { tokens := 465000000, shares := ⟨500000000 * P⟩, bonded := true }]
    [{ oper := none, opts := [(1, ⟨P⟩)], dels := [], wallet := [(1, 300000000)], savings := [(1, 50000000)], earn := [(1, 50000000)] },
     { oper := none, opts := [(3, ⟨P / 2⟩), (4, ⟨P / 2⟩)], dels := [(0, ⟨400000 * P⟩), (1, ⟨1000000 * P + 1⟩)], wallet := [], savings := [], earn := [] },
     { oper := some 1, opts := [(2, ⟨P⟩)], dels := [(1, ⟨7 * P⟩)], wallet := [], savings := [], earn := [] }]).map
    (fun o => (o.yes, o.abstain, o.no, o.veto)) = some (372000000, 92069999, 665000, 665000) := by decide +kernel

/-- A derivative is counted once: `getAddrBkava` lists each validator at most once, with the units held in the
    wallet, in savings and in earn added up; for a validator of the set the coin's truncated token value is added
    to the total exactly once and the same units are deducted from the shares the validator inherits (its own
    power is computed from `shares − deductions`, see `valStep`).  Together with `C12_tally_le_bonded`:
    nothing is counted twice. -/
theorem C12_tally_counts_once (g : Cfg) (vals : List TVal) (t : TVote) (a : TAcc) (v : Nat) (x : Int)
    (hb : (tvAt vals v).bonded = true) (hS : (tvAt vals v).shares.m ≠ 0) :
    ((addrBkava vals.length t).map Prod.fst).Nodup ∧
    (∀ y, y ∈ addrBkava vals.length t ↔
      (y.1 < vals.length ∧ y.2 = amountOf t.wallet y.1 + amountOf t.savings y.1 + amountOf t.earn y.1 ∧ 0 < y.2)) ∧
    ∃ a', bkStep g vals t.opts a v x = some a' ∧ a'.total = a.total + stakedTok (tvAt vals v) x * P ∧
      a'.ded = bump a.ded v (x * P) ∧ a'.vote = a.vote := by
  obtain ⟨n1, n2⟩ := addrBkava_spec vals.length t
  exact ⟨n1, n2, bkStep_effect g vals t.opts a v x hb hS⟩

/-- **The tally cannot panic on a derivative, live model** (it runs in the gov end blocker): a derivative whose
    validator is not in the bonded set is skipped before any division, and a validator of the set has positive
    shares. -/
theorem C12_tally_no_panic (vals : List TVal) (hv : ValsOK vals) (votes : List TVote) :
    (tally cfg vals votes).isSome = true := by
  obtain ⟨o, ho⟩ := tally_some cfg rfl vals hv votes
  rw [ho]; rfl

/-- the former witness (a validator emptied to zero shares with one derivative unit outstanding) -/
example : (tally cfg exTValsEmpty exTVotesEmpty).map (fun o => o.counted) = some 0 := by decide +kernel

/-! ## 7. History: the code before the three fix commits (`Cfg.current`) — not the live model

  Kept as `example`s so that the record of what was wrong stays machine-checked: on `Cfg.current` four statements
  of the property are false on literal witnesses (the same histories were reproduced on the real keepers, see
  findings/C12-*.md; harness/cmd/c12/directed.go replays them on every run against the live code). -/

/-- before 932d1f99a: a mint after a slash breaks backing (3 units against 2.1269… module shares) -/
example : ¬ (∀ (M : Addr) (c c' : VSt) (d : Addr) (amount der : Int), d ≠ M → Backed M c →
    mint Cfg.current M c d true amount = .ok (c', der) → Backed M c') := by
  intro h
  have w : (mint Cfg.current 0 exSlashed 1 true 3).okAnd (fun p => decide (¬ Backed 0 p.1)) = true := by decide +kernel
  obtain ⟨⟨c', der⟩, hm, hp⟩ := Res.okAnd_elim w
  exact (of_decide_eq_true hp) (h 0 exSlashed c' 1 3 der (by decide) (by decide) hm)

/-- before 932d1f99a: the stake of a large holder is valued 2.01 tokens higher after a mint (sane rate, rate ≤ 1
    before and after, claim ≤ shares: `exWhale_ok`) -/
example : ¬ (∀ (M : Addr) (c c' : VSt) (d : Addr) (amount der : Int), d ≠ M →
    mint Cfg.current M c d true amount = .ok (c', der) → ValueWithinTwo c c' d) := by
  intro h
  have w : (mint Cfg.current 0 exWhale 1 true 606).okAnd (fun p => decide (¬ ValueWithinTwo exWhale p.1 1)) = true := by decide +kernel
  obtain ⟨⟨c', der⟩, hm, hp⟩ := Res.okAnd_elim w
  exact (of_decide_eq_true hp) (h 0 exWhale c' 1 606 der (by decide) hm)

/-- before 96498654b: a burn worth zero tokens stores a zero-share delegation for an account that never delegated -/
example : (burn Cfg.current 0 exHolder 2 1).okAnd (fun p => decide (¬ NoEmptyAt p.1 2)) = true := by decide +kernel

/-- before 66dfa73a4: 500 000 000 counted against 1 000 000 bonded -/
example : (tally Cfg.current exTVals exTVotes).map (fun o => decide (bondedTotal exTVals < o.counted)) = some true := by decide +kernel

/-- before 932d1f99a + 66dfa73a4: the tally divides by the zero shares of an emptied validator (panic) -/
example : (tally Cfg.current exTValsEmpty exTVotesEmpty).isSome = false := by decide +kernel

/-! ## 8. MsgBurnDerivative: the coin must be the NAMED validator's own derivative

  The message has two independent fields, the validator and the coin.  "Burning moves it back" and "every holder can
  always redeem" are per validator: only bkava-<v> may take shares out of the module's delegation to v.
  (Model/LiquidBurnGuard.lean, Proofs/LiquidBurnGuard.lean; the harness sends such messages — c12.cross — and the
  driver's predicate is `C12_guards burn-denom-validator-mismatch-accepted`.) -/

/-- **Guards, burn message** (any configuration).  A MsgBurnDerivative whose coin is not the derivative of the
    validator it names — another validator's derivative, a derivative denom of an address without validator, any
    other denom — is refused and changes nothing in any history; an accepted one is exactly the per-validator burn
    all the other C12 theorems speak about. -/
theorem C12_guards_burn_denom (g : Cfg) (M : Addr) (s : Chain) (d v : Nat) (dn : CoinDenom) (amount : Int) :
    (dn ≠ .deriv v → stepBurn g M s d v dn amount = .err ∧
        ∀ ms, runM g M s (.burnCoin d v dn amount :: ms) = runM g M s ms) ∧
    (∀ s', stepBurn g M s d v dn amount = .ok s' → dn = .deriv v ∧ step g M s (.burn d v amount) = .ok s') :=
  ⟨fun h => ⟨stepBurn_mismatch_refused h, fun ms => runM_mismatch_skip ms h⟩, fun _ => stepBurn_ok_is_burn⟩

/-- **Backing along histories of messages** (live model): `C12_backed` with burn messages that carry any denom. -/
theorem C12_backed_messages (accts : List Addr) (hn : accts.Nodup) (M : Addr) (hM : M ∈ accts) (ms : List MOp) (s s' : Chain)
    (hact : ∀ op ∈ ms.filterMap MOp.toOp, ∀ a ∈ op.actors, a ∈ accts)
    (hwf : ∀ w, WF accts (s w)) (hb : ∀ w, Backed M (s w))
    (hrun : runM cfg M s ms = some s') : ∀ w, Backed M (s' w) :=
  C12_backed accts hn M hM (ms.filterMap MOp.toOp) s s' hact hwf hb (by rw [← runM_eq_run]; exact hrun)

/-- **What the comparison is for**: the same message without it (`burnUnguarded`, NOT the code) is accepted on the
    backed two-validator state `exTwo` and leaves validator 1's 10 derivative units with one module share; the code
    refuses it. -/
theorem C12_burn_denom_guard_needed :
    (Backed 0 (exTwo 0) ∧ Backed 0 (exTwo 1)) ∧
    (burnUnguarded cfg 0 exTwo 1 0 1 9).okAnd (fun s' => decide (¬ Backed 0 (s' 1) ∧ (s' 1).supply = 10 ∧ (s' 0).supply = 1)) = true ∧
    (stepBurn cfg 0 exTwo 1 1 (.deriv 0) 9).isErr = true :=
  ⟨exTwo_backed, burnUnguarded_breaks_backing, stepBurn_exTwo_refused⟩

end KV.Liquid
