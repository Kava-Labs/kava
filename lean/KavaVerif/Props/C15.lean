/-
  C15 — Ante gating: blocked message types cannot execute through any wrapping.

  "No transaction accepted for execution contains, at any nesting depth inside authz Exec messages or as the
   target of an authz Grant, an Ethereum transaction message or a vesting-account-creation message, and
   vesting-account-creation messages are also rejected at top level.  Ethereum messages execute only through the
   dedicated Ethereum path selected by exactly one matching extension option, and transactions with several or
   unknown extension options are rejected.  With the authenticated mempool enabled, CheckTx admits only
   transactions with an authorised signer while block execution is unaffected."

  Model: KavaVerif/Model/Ante.lean (authz.go, vesting.go, authorized.go, ante.go transcribed; every list, URL,
  chain order, flag and guard comes from KavaVerif/Generated/C15Ante.lean, regenerated from the source).
  `anteGate cfg md tx = .pass` is "every gate of the composed ante handler let the transaction through"; a
  transaction accepted for execution has passed every gate (the remaining decorators can only refuse more).
  `InExec m ms` = `m` occurs strictly inside some MsgExec of the forest `ms` at any depth; `Anywhere m ms` = at top
  level or inside an exec at any depth.  All statements are for forests of any depth and width.
  Only property statements live here; helper lemmas are in KavaVerif/Proofs/Ante.lean.
-/
import KavaVerif.Proofs.Ante
set_option linter.unusedSimpArgs false
set_option linter.unusedVariables false

namespace KV.Ante
open KV.Gen

/- The examples are closed by `simp` with the definitions below: it computes the gate through `anteGate_eq` and the
   decorators, and recognises equal string literals syntactically, where `decide` would compare them byte by byte. -/
attribute [local simp] anteGate_eq cosmosGates ethGates runChain condHolds decStep rejectMsgsDec ethOnlyDec isType
  vestingDec authzLimiter checkList_nil checkList_cons checkOne_plain checkOne_grant checkOne_exec checkOne_grantBad
  checkOne_execBad isDisabled Msg.url hasFetchers fetchers_nonempty mempoolDec guard_val
  commonAddressesExist Mode.check Mode.recheck Mode.deliver ethOptURL web3OptURL c15AuthzDisabled c15VestingDisabled
  c15RejectMsgsURL c15EthOnlyURL c15MsgGrantURL c15MsgExecURL c15AuthzTopFlag c15AuthzInnerFlag
  c15ExtensionOptionCheckerNil Bool.beq_eq_decide_eq

/-- "an Ethereum transaction message or a vesting-account-creation message": the list handed to the authz
    limiter holds the Ethereum message and the three vesting-creation messages, the vesting decorator's list
    holds the three vesting-creation messages, and the two ethermint decorators test for the Ethereum message. -/
theorem C15_blocked_types :
    "/ethermint.evm.v1.MsgEthereumTx" ∈ c15AuthzDisabled ∧
    (∀ u, u ∈ ["/cosmos.vesting.v1beta1.MsgCreateVestingAccount",
               "/cosmos.vesting.v1beta1.MsgCreatePermanentLockedAccount",
               "/cosmos.vesting.v1beta1.MsgCreatePeriodicVestingAccount"] →
          u ∈ c15AuthzDisabled ∧ u ∈ c15VestingDisabled) ∧
    c15RejectMsgsURL = "/ethermint.evm.v1.MsgEthereumTx" ∧ c15EthOnlyURL = "/ethermint.evm.v1.MsgEthereumTx" := by
  simp [c15AuthzDisabled, c15VestingDisabled, c15RejectMsgsURL, c15EthOnlyURL]

/-- the source facts the model relies on: the decorator scans the transaction's own messages with
    `searchOnlyInAuthzMsgs = true` and the content of an exec with `false`; the switch tests "disabled" before the
    two authz cases; neither authz URL is itself disabled -/
theorem C15_scan_shape :
    c15AuthzTopFlag = true ∧ c15AuthzInnerFlag = false ∧
    c15AuthzCaseOrder = ["!searchOnlyInAuthzMsgs && ald.isDisabled(typeURL)", "grant", "exec"] ∧
    c15MsgGrantURL ∉ c15AuthzDisabled ∧ c15MsgExecURL ∉ c15AuthzDisabled := by
  simp [c15AuthzTopFlag, c15AuthzInnerFlag, c15AuthzCaseOrder, c15MsgGrantURL, c15MsgExecURL, c15AuthzDisabled]

/-- "No transaction accepted … contains, at any nesting depth inside authz Exec messages or as the target of an
    authz Grant, [a blocked type]": if the limiter's scan returns nil then no message strictly inside an exec, at
    any depth, carries a disabled URL, and no grant at any depth (top level or nested) targets a disabled URL. -/
theorem C15_closure (msgs : List Msg) (h : authzLimiter c15AuthzDisabled msgs = .ok) :
    (∀ m, InExec m msgs → m.url ∉ c15AuthzDisabled) ∧
    (∀ t, Anywhere (.grant t) msgs → t ∉ c15AuthzDisabled) :=
  (authzLimiter_ok_iff.mp h).1

example : authzLimiter c15AuthzDisabled
    [.plain "/cosmos.bank.v1beta1.MsgSend",
     .exec [.plain "/cosmos.bank.v1beta1.MsgSend", .exec [.grant "/cosmos.bank.v1beta1.MsgSend", .exec []]]] = .ok := by
  simp

/-- the scan is exact (the gate does not over-block): a forest in which every authz message can be unpacked and
    nothing blocked is reachable passes. Together with `C15_closure`: `ok` ⇔ nothing blocked reachable. -/
theorem C15_closure_converse (msgs : List Msg) (hwf : ¬ Malformed msgs)
    (h1 : ∀ m, InExec m msgs → m.url ∉ c15AuthzDisabled)
    (h2 : ∀ t, Anywhere (.grant t) msgs → t ∉ c15AuthzDisabled) :
    authzLimiter c15AuthzDisabled msgs = .ok :=
  authzLimiter_ok_iff.mpr ⟨⟨h1, h2⟩, hwf⟩

/-- blocked after allowed siblings, three levels deep: refused -/
example : authzLimiter c15AuthzDisabled
    [.exec [.plain "/cosmos.bank.v1beta1.MsgSend",
            .exec [.plain "/cosmos.bank.v1beta1.MsgSend", .exec [.plain "/cosmos.bank.v1beta1.MsgSend",
                   .plain "/ethermint.evm.v1.MsgEthereumTx"]]]] = .err := by
  simp

/-- a grant nested in an exec that targets a vesting-creation message: refused -/
example : authzLimiter c15AuthzDisabled
    [.exec [.grant "/cosmos.vesting.v1beta1.MsgCreatePeriodicVestingAccount"]] = .err := by
  simp

/-- a transaction the scan accepts is also free of unpackable authz messages -/
theorem C15_closure_wellformed (msgs : List Msg) (h : authzLimiter c15AuthzDisabled msgs = .ok) :
    ¬ Malformed msgs :=
  (authzLimiter_ok_iff.mp h).2

/-- the same closure for the composed ante handler, on every route, in every mode, with the mempool list on or
    off: a transaction that passes all gates has no Ethereum or vesting-creation message inside an exec at any
    depth and no grant at any depth targeting one. -/
theorem C15_gate_closure (cfg : Cfg) (md : Mode) (tx : Tx) (h : anteGate cfg md tx = .pass) :
    (∀ m, InExec m tx.msgs → m.url ∉ c15AuthzDisabled) ∧
    (∀ t, Anywhere (.grant t) tx.msgs → t ∉ c15AuthzDisabled) := by
  rcases anteGate_pass_iff.mp h with ⟨_, he, _⟩ | ⟨_, _, _, _, ha⟩
  · have hall := ethOnly_all he
    refine ⟨fun m hi => absurd hi (no_inExec_of_all_plain hall m), ?_⟩
    intro t ha
    cases ha with
    | inl hm => have := hall _ hm; cases this
    | inr hi => exact absurd hi (no_inExec_of_all_plain hall _)
  · exact C15_closure tx.msgs ha

example : anteGate ⟨true, [3]⟩ Mode.check
    ⟨[.exec [.plain "/cosmos.bank.v1beta1.MsgSend", .grant "/cosmos.staking.v1beta1.MsgDelegate"]], [], [3]⟩ = .pass := by
  simp

/-- the vesting decorator is exact: it refuses precisely the transactions with a vesting-creation message among
    their own messages -/
theorem C15_vesting_exact (msgs : List Msg) :
    vestingDec c15VestingDisabled msgs = true ↔ ∀ m, m ∈ msgs → m.url ∉ c15VestingDisabled := by
  simp only [vestingDec, List.all_eq_true, Bool.not_eq_eq_eq_not, Bool.not_true, List.contains_eq_mem,
    decide_eq_false_iff_not]

/-- "vesting-account-creation messages are also rejected at top level": a transaction that passes the gates has
    none of the three vesting-creation URLs among its own messages (any route, any mode). -/
theorem C15_vesting_top_level (cfg : Cfg) (md : Mode) (tx : Tx) (h : anteGate cfg md tx = .pass) :
    ∀ m, m ∈ tx.msgs → m.url ∉ c15VestingDisabled := by
  rcases anteGate_pass_iff.mp h with ⟨_, he, _⟩ | ⟨_, _, _, hv, _⟩
  · intro m hm
    rw [ethOnly_all he m hm]
    simp
  · exact (C15_vesting_exact _).mp hv

example : anteGate ⟨false, []⟩ Mode.deliver
    ⟨[.plain "/cosmos.bank.v1beta1.MsgSend", .plain "/cosmos.vesting.v1beta1.MsgCreatePermanentLockedAccount"], [], [0]⟩
      = .reject "vesting" := by
  simp

/-- "transactions with several … extension options are rejected" -/
theorem C15_routing_several (cfg : Cfg) (md : Mode) (tx : Tx) (h : tx.opts.length > 1) :
    anteGate cfg md tx = .reject "ext-too-many" := by
  rw [anteGate_eq]
  match tx.opts, h with
  | _ :: _ :: _, _ => rfl

/-- "transactions with … unknown extension options are rejected" -/
theorem C15_routing_unknown (cfg : Cfg) (md : Mode) (tx : Tx) (o : String) (ho : tx.opts = [o])
    (h1 : o ≠ "/ethermint.evm.v1.ExtensionOptionsEthereumTx") (h2 : o ≠ "/ethermint.types.v1.ExtensionOptionsWeb3Tx") :
    anteGate cfg md tx = .reject "ext-unknown" := by
  rw [anteGate_eq, ho]
  exact (if_neg h1).trans (if_neg h2)

/-- the Ethereum chain is selected iff the transaction carries exactly one option and it is the Ethereum one -/
theorem C15_routing_eth_iff (opts : List String) :
    route opts = .eth ↔ opts = ["/ethermint.evm.v1.ExtensionOptionsEthereumTx"] :=
  route_eth_iff opts

/-- "Ethereum messages execute only through the dedicated Ethereum path selected by exactly one matching extension
    option": a transaction that passes the gates and has an Ethereum message among its own messages carries exactly
    the Ethereum option (by `C15_gate_closure` an Ethereum message can be nowhere else). -/
theorem C15_routing_eth_msgs_only_on_eth_path (cfg : Cfg) (md : Mode) (tx : Tx) (h : anteGate cfg md tx = .pass)
    (hm : Msg.plain "/ethermint.evm.v1.MsgEthereumTx" ∈ tx.msgs) :
    tx.opts = ["/ethermint.evm.v1.ExtensionOptionsEthereumTx"] := by
  rcases anteGate_pass_iff.mp h with ⟨ho, _⟩ | ⟨_, hr, _⟩
  · exact ho
  · exact absurd rfl (rejectMsgs_none hr _ hm)

/-- … and the dedicated path carries nothing but Ethereum messages -/
theorem C15_routing_eth_path_only_eth_msgs (cfg : Cfg) (md : Mode) (tx : Tx) (h : anteGate cfg md tx = .pass)
    (ho : tx.opts = ["/ethermint.evm.v1.ExtensionOptionsEthereumTx"]) :
    ∀ m, m ∈ tx.msgs → m = .plain "/ethermint.evm.v1.MsgEthereumTx" := by
  rcases anteGate_pass_iff.mp h with ⟨_, he, _⟩ | ⟨ho', _⟩
  · exact ethOnly_all he
  · rw [ho] at ho'
    rcases ho' with h' | h' <;> simp [web3OptURL] at h'

/-- position facts of the generated chains: `RejectMessagesDecorator` is the first decorator of the cosmos chain,
    the vesting and authz gates (and, when configured, the mempool gate) come before signature verification, and
    the Ethereum chain verifies the message type -/
theorem C15_chain_order :
    c15CosmosChain.head? = some ("", "evmante.RejectMessagesDecorator") ∧
    (c15CosmosChain.map Prod.snd).idxOf "NewAuthenticatedMempoolDecorator" <
      (c15CosmosChain.map Prod.snd).idxOf "NewVestingAccountDecorator" ∧
    (c15CosmosChain.map Prod.snd).idxOf "NewVestingAccountDecorator" <
      (c15CosmosChain.map Prod.snd).idxOf "NewAuthzLimiterDecorator" ∧
    (c15CosmosChain.map Prod.snd).idxOf "NewAuthzLimiterDecorator" <
      (c15CosmosChain.map Prod.snd).idxOf c15SigVerificationVar ∧
    (c15CosmosChain.map Prod.snd).idxOf c15SigVerificationVar < c15CosmosChain.length ∧
    "evmante.NewEthSigVerificationDecorator" ∈ c15EthChain.map Prod.snd := by
  simp [c15CosmosChain, c15EthChain, c15SigVerificationVar, List.idxOf_cons]

example : anteGate ⟨false, []⟩ Mode.check
    ⟨[.plain "/ethermint.evm.v1.MsgEthereumTx"], ["/ethermint.evm.v1.ExtensionOptionsEthereumTx"], [7]⟩ = .pass := by
  simp
example : anteGate ⟨false, []⟩ Mode.check ⟨[.plain "/ethermint.evm.v1.MsgEthereumTx"], [], [7]⟩ = .reject "reject-msgs" := by
  simp
example : anteGate ⟨false, []⟩ Mode.check
    ⟨[.plain "/ethermint.evm.v1.MsgEthereumTx"], ["/ethermint.types.v1.ExtensionOptionsWeb3Tx"], [7]⟩ = .reject "reject-msgs" := by
  simp

/-- the mempool decorator alone, exactly: inside the guard it passes iff a signer is authorised, outside it is the
    identity -/
theorem C15_mempool_decorator (md : Mode) (signers authorised : List Nat) :
    mempoolDec md signers authorised = true ↔
      ((md.isCheckTx = true ∧ md.simulate = false) → ∃ a, a ∈ signers ∧ a ∈ authorised) := by
  simp only [mempoolDec, guard_val]
  cases md.isCheckTx <;> cases md.simulate <;> simp [commonAddressesExist]

/-- "With the authenticated mempool enabled, CheckTx admits only transactions with an authorised signer": on every
    route (no option, EIP-712 option, Ethereum option), in CheckTx and ReCheckTx. -/
theorem C15_mempool (cfg : Cfg) (md : Mode) (tx : Tx) (hen : cfg.mempoolAuth = true)
    (hmode : md.isCheckTx = true ∧ md.simulate = false) (h : anteGate cfg md tx = .pass) :
    ∃ a, a ∈ tx.signers ∧ a ∈ cfg.authorised := by
  have hf : hasFetchers cfg = true := by simp [hen]
  rcases anteGate_pass_iff.mp h with ⟨_, _, hm⟩ | ⟨_, _, hm, _⟩ <;>
    exact (C15_mempool_decorator ..).mp (hm hf) hmode

/-- an Ethereum transaction from an unauthorised signer is refused by CheckTx … -/
example : anteGate ⟨true, [1]⟩ Mode.check
    ⟨[.plain "/ethermint.evm.v1.MsgEthereumTx"], ["/ethermint.evm.v1.ExtensionOptionsEthereumTx"], [0]⟩ = .reject "mempool" := by
  simp
/-- … and executes in a block -/
example : anteGate ⟨true, [1]⟩ Mode.deliver
    ⟨[.plain "/ethermint.evm.v1.MsgEthereumTx"], ["/ethermint.evm.v1.ExtensionOptionsEthereumTx"], [0]⟩ = .pass := by
  simp

example : anteGate ⟨true, [1]⟩ Mode.check ⟨[.plain "/cosmos.bank.v1beta1.MsgSend"], [], [0]⟩ = .reject "mempool" := by
  simp
example : anteGate ⟨true, [1]⟩ Mode.recheck ⟨[.plain "/cosmos.bank.v1beta1.MsgSend"], [], [0, 1]⟩ = .pass := by
  simp

/-- "… while block execution is unaffected": outside `CheckTx ∧ ¬simulate` (DeliverTx, and simulation) the verdict
    of the composed handler does not depend on the mempool configuration at all. -/
theorem C15_mempool_block_execution_unaffected (md : Mode) (tx : Tx) (a a' : List Nat) (b b' : Bool)
    (hmode : md.isCheckTx = false ∨ md.simulate = true) :
    anteGate ⟨b, a⟩ md tx = anteGate ⟨b', a'⟩ md tx := by
  have hg : ∀ s au, mempoolDec md s au = true := fun s au =>
    (C15_mempool_decorator ..).mpr fun ⟨h1, h2⟩ => by rcases hmode with h | h <;> simp_all
  simp only [anteGate_eq, cosmosGates, ethGates, runChain, condHolds, decStep, hg, ite_true, ite_self]

example : anteGate ⟨true, [1]⟩ Mode.deliver ⟨[.plain "/cosmos.bank.v1beta1.MsgSend"], [], [0]⟩ = .pass := by
  simp

end KV.Ante
