/-
  C06 — Auctions: custody is exact, outbid bidders are made whole, payouts are exact.

  "The auction module account always holds exactly the coins its open auctions account for, and every
   stored auction appears in the expiry index exactly once. A bid is accepted only if it improves on the
   standing one by the configured increment and respects the maximum bid; the outbid bidder is repaid
   their full bid in the same step, the end time never moves past the maximum end time, and an auction
   pays out only at or after its end time and only once. At close the winner receives exactly the lot,
   and collateral returned in the reverse phase is split among the original depositors so the parts sum
   exactly to the amount returned with each part within one unit of its exact pro-rata share."

  The model is KavaVerif/Model/Auction.lean (keeper/math.go, keeper/auctions.go, keeper/keeper.go,
  types/auctions.go, abci.go transcribed). The general lemmas are in
  KavaVerif/Proofs/Auction*.lean.

  Standing hypotheses, each stated where used:
  * `EnvOk env`   — the auction module account is a blocked address of x/bank (asserted by the harness
                    on the real app; it is what keeps users from sending coins into the module account).
  * `OpOk env op` — the module account itself is never seller or bidder, and the bid / lot / max bid a
                    calling module passes to `Start…Auction` are not negative (the keeper does not check).
-/
import KavaVerif.Proofs.AuctionSteps
import KavaVerif.Proofs.AuctionLive
import KavaVerif.Generated.C06Auction
import KavaVerif.Proofs.TieFnAuction
set_option linter.unusedVariables false

namespace KV.Auc

/-! ## 0. Source facts the transcription rests on (regenerated from /repo by tools/extract on every run)

The model was written against these shapes: which comparison guards a bid (`After` the end time) and a
close (`Before` it), the `less` function handed to `sort.Slice`, per bid function the floor `1` of the
increment, the increment parameter and the duration / cap of the new end time, what
`GetModuleAccountCoins` accounts for per auction type, the store prefixes, and that app.go does not list
the auction module account among the unblocked ones (`EnvOk`). A source edit that changes one of them
changes the generated file and re-opens this obligation. -/
theorem C06_source_tables :
    KV.Gen.auctionBidTimeGuard = "After(auction.GetEndTime())" ∧
    KV.Gen.auctionCloseTimeGuard = "Before(auction.GetEndTime())" ∧
    KV.Gen.auctionSplitSortLess = "quotients[i].rem.GT(quotients[j].rem)" ∧
    KV.Gen.auctionBidShapes =
      ["PlaceBidSurplus|floor=sdkmath.NewInt(1)|inc=IncrementSurplus|end=ForwardBidDuration,cap=auction.MaxEndTime",
       "PlaceForwardBidCollateral|floor=sdkmath.NewInt(1)|inc=IncrementCollateral|end=ReverseBidDuration,cap=auction.MaxEndTime,ForwardBidDuration,cap=auction.MaxEndTime",
       "PlaceReverseBidCollateral|floor=sdkmath.NewInt(1)|inc=IncrementCollateral|end=ReverseBidDuration,cap=auction.MaxEndTime",
       "PlaceBidDebt|floor=sdkmath.NewInt(1)|inc=IncrementDebt|end=ForwardBidDuration,cap=auction.MaxEndTime"] ∧
    KV.Gen.auctionModuleAccountCoins =
      ["SurplusAuction => sdk.NewCoins(a.Lot)", "DebtAuction => sdk.NewCoins(a.CorrespondingDebt)",
       "CollateralAuction => sdk.NewCoins(a.Lot).Add(sdk.NewCoins(a.CorrespondingDebt))"] ∧
    "auctiontypes.ModuleName" ∉ KV.Gen.appUnblockedModuleAccounts ∧
    KV.Gen.auctionKeyPrefix = 0 ∧ KV.Gen.auctionByTimeKeyPrefix = 1 ∧ KV.Gen.auctionNextIDKey = 2 := by
  refine ⟨rfl, rfl, rfl, rfl, rfl, ?_, rfl, rfl, rfl⟩
  simp [KV.Gen.appUnblockedModuleAccounts]

/-! ## 1. The split (`splitIntIntoWeightedBuckets`)

`IsLRSplit amount weights parts` is the decidable predicate every real Go output is checked against
by the correspondence run. The first four theorems say what passing it certifies; the fifth says the
transcribed algorithm passes it whatever order the (unstable) `sort.Slice` produced. -/

/-- "…the parts sum exactly to the amount returned" -/
theorem C06_split_sum (a : Int) (ws parts : List Int) (h : IsLRSplit a ws parts) : sumL parts = a :=
  lr_sum h

/-- "…with each part within one unit of its exact pro-rata share": `|partᵢ·W − a·wᵢ| < W`,
    i.e. `|partᵢ − a·wᵢ/W| < 1`, and no part is negative. -/
theorem C06_split_within_one (a : Int) (ws parts : List Int) (hin : SplitInput a ws)
    (h : IsLRSplit a ws parts) (i : Nat) (hi : i < ws.length) :
    -(sumL ws) < parts.getD i 0 * sumL ws - a * ws.getD i 0 ∧
    parts.getD i 0 * sumL ws - a * ws.getD i 0 < sumL ws ∧ 0 ≤ parts.getD i 0 :=
  ⟨(lr_within_one hin.2.2 h i hi).1, (lr_within_one hin.2.2 h i hi).2,
   lr_part_nonneg hin.1 hin.2.1 hin.2.2 h i hi⟩

/-- a depositor with weight zero receives nothing -/
theorem C06_split_zero_weight_gets_zero (a : Int) (ws parts : List Int) (hin : SplitInput a ws)
    (h : IsLRSplit a ws parts) (i : Nat) (hi : i < ws.length) (hw : ws.getD i 0 = 0) :
    parts.getD i 0 = 0 := lr_zero_weight hin.2.2 h i hi hw

/-- largest-remainder rule: every part is `⌊a·wᵢ/W⌋` or one more; exactly `leftover = a − Σ⌊a·wᵢ/W⌋`
    buckets (fewer than the number of buckets) get the extra unit; they all have a positive remainder,
    at least as large as the remainder of any bucket that did not get it. -/
theorem C06_split_largest_remainder (a : Int) (ws parts : List Int) (hin : SplitInput a ws)
    (h : IsLRSplit a ws parts) :
    (∀ i, i < ws.length → parts.getD i 0 = qF a ws i ∨ parts.getD i 0 = qF a ws i + 1) ∧
    sumTo ws.length (fun i => parts.getD i 0 - qF a ws i) = leftover a ws ∧
    0 ≤ leftover a ws ∧ (0 < ws.length → leftover a ws < ws.length) ∧
    (∀ i, i < ws.length → parts.getD i 0 = qF a ws i + 1 → 0 < rF a ws i) ∧
    (∀ i, i < ws.length → ∀ j, j < ws.length → parts.getD i 0 = qF a ws i + 1 →
        parts.getD j 0 = qF a ws j → rF a ws j ≤ rF a ws i) := by
  obtain ⟨_, h01, _, hlr⟩ := (isLRSplit_iff a ws parts).mp h
  obtain ⟨hL0, _, hL1⟩ := leftover_bounds a ws hin.2.2
  exact ⟨fun i hi => (h01 i hi).imp Int.eq_of_sub_eq_zero Int.sub_eq_iff_eq_add'.mp,
    lr_extras_sum h, hL0, hL1,
    fun i hi he => lr_extra_pos_rem hin.2.2 h i hi (Int.sub_eq_iff_eq_add'.mpr he),
    fun i hi j hj hei hej => hlr i hi j hj (Int.sub_eq_iff_eq_add'.mpr hei) (Int.sub_eq_zero.mpr hej)⟩

/-- The transcription of the Go function satisfies `IsLRSplit` for *every* order the sort may return
    (all buckets once, remainders non-increasing); in particular the executable model `lrSplit`
    (Go's insertion sort for ≤ 12 buckets) does, and it returns a value exactly on admissible input. -/
theorem C06_split_model (a : Int) (ws : List Int) :
    (∀ σ, 0 < sumL ws → Admissible a ws σ → IsLRSplit a ws (splitWith σ a ws)) ∧
    (∀ parts, lrSplit a ws = some parts → SplitInput a ws ∧ IsLRSplit a ws parts) :=
  ⟨fun σ hW hσ => splitWith_isLRSplit σ a ws hW hσ, fun parts h => lrSplit_some h⟩

/-- non-vacuity: 10 units over weights 1:1:1 with a three-way tie; both tie-breaks pass, a wrong
    split does not. -/
example : IsLRSplit 10 [1, 1, 1] [4, 3, 3] ∧ IsLRSplit 10 [1, 1, 1] [3, 3, 4] ∧
    ¬ IsLRSplit 10 [1, 1, 1] [5, 3, 2] ∧ lrSplit 10 [1, 1, 1] = some [4, 3, 3] ∧
    lrSplit 7 [0, 5, 2] = some [0, 5, 2] := by decide +kernel

/-! ## 2. Custody and index, over all histories -/

/-- "The auction module account always holds exactly the coins its open auctions account for":
    inductive step — every successful operation (the three starts, a bid of any kind and phase incl.
    re-bids by the standing bidder, a close, a begin block, any outside transfer) preserves
    store well-formedness ∧ custody ∧ index exactness. -/
theorem C06_custody_step (env : Env) (hE : EnvOk env) (p : Params) (now : Int) (s s' : St) (op : Op)
    (hI : Inv env s) (hop : OpOk env op) (h : step env p now s op = .ok s') : Inv env s' :=
  step_inv hE hI hop h

/-- … hence after every history from the empty module (failed operations change nothing), per denomination. -/
theorem C06_custody (env : Env) (hE : EnvOk env) (p : Params) (nextId : Nat) (bal : Bal)
    (h0 : ∀ d, bal env.M d = 0) (ops : List (Int × Op)) (hops : ∀ x, x ∈ ops → OpOk env x.2) (d : Denom) :
    (run env p (emptySt nextId bal) ops).bal env.M d = totalCoins (run env p (emptySt nextId bal) ops) d :=
  (run_inv env hE p ops _ (empty_inv env nextId bal h0) hops).2.1 d

/-- "every stored auction appears in the expiry index exactly once": after every history the raw index
    is strictly sorted by (end time, id), every stored auction has its key (end, id) in it, its id
    occurs in exactly one entry, and every entry belongs to a stored auction with that end time. -/
theorem C06_index_exact (env : Env) (hE : EnvOk env) (p : Params) (nextId : Nat) (bal : Bal)
    (h0 : ∀ d, bal env.M d = 0) (ops : List (Int × Op)) (hops : ∀ x, x ∈ ops → OpOk env x.2) :
    let s := run env p (emptySt nextId bal) ops
    Sorted s.index ∧
    (∀ i a, s.auc i = some a → a.id = i ∧ (a.endT, i) ∈ s.index ∧
        (s.index.filter (fun k => decide (k.2 = i))).length = 1) ∧
    (∀ k, k ∈ s.index → ∃ a, s.auc k.2 = some a ∧ a.endT = k.1) := by
  exact (run_inv env hE p ops _ (empty_inv env nextId bal h0) hops).index_facts

/-! ## 3. Bid rules -/

/-- the configured increment: `max(1, round(old · inc))` with sdk.Dec's banker's rounding -/
theorem C06_increment_def (old : Int) (inc : Dec) :
    incOf old inc = max 1 (Dec.roundInt (Dec.mul (Dec.ofInt old) inc)) ∧ 1 ≤ incOf old inc := by
  refine ⟨?_, incOf_pos old inc⟩
  simp only [incOf]; omega

/-- "A bid is accepted only if it improves on the standing one by the configured increment and
    respects the maximum bid": an accepted `PlaceBid` found the auction, not past its end time, and
    * forward (surplus; collateral while bid ≠ maxBid): bid denomination, `amt ≥ old + increment`
      (or `amt = maxBid` through the `min` clamp), `old < amt`, `amt ≤ maxBid`, lot untouched;
    * reverse (debt; collateral once bid = maxBid): lot denomination, `0 ≤ amt ≤ old − increment`,
      bid untouched;
    and the record stored under the id is the updated one with the new bidder. -/
theorem C06_bid_rules (env : Env) (hE : EnvOk env) (p : Params) (now : Int) (s s' : St) (id : Nat)
    (bidder : Addr) (denom : Denom) (amt : Int) (hI : Inv env s)
    (h : placeBid env p now s id bidder denom amt = .ok s') :
    ∃ a a', s.auc id = some a ∧ s'.auc id = some a' ∧ now ≤ a.endT ∧ BidRules p a a' bidder denom amt := by
  obtain ⟨a, a', b', ha, hend, hd, rfl⟩ := placeBid_spec h
  refine ⟨a, a', ha, ?_, hend, bidDispatch_rules hE (hI.awf ha) hd⟩
  rw [setAuction_auc, bidDispatch_id hE hd, hI.id_eq ha]; exact if_pos rfl

/-! ## 4. The outbid bidder is made whole in the same step -/

/-- Forward bids. If the standing bidder differs from the new one and the standing bid is positive,
    the standing bidder's balance rises by exactly that bid in the same step and the new bidder pays
    exactly the new bid; a re-bid by the standing bidder pays only the increment. (Bidders are not the
    initiating module account.) -/
theorem C06_outbid_refunded_forward (env : Env) (hE : EnvOk env) (p : Params) (now : Int) (s s' : St)
    (id : Nat) (bidder : Addr) (denom : Denom) (amt : Int) (a : Auction) (hI : Inv env s)
    (hbM : bidder ≠ env.M) (ha : s.auc id = some a)
    (hfwd : a.kind = .surplus ∨ (a.kind = .collateral ∧ a.bid ≠ a.maxBid))
    (h : placeBid env p now s id bidder denom amt = .ok s') :
    (bidder ≠ a.bidder → a.bid ≠ 0 → a.bidder ≠ a.initiator →
        s'.bal a.bidder a.bidD = s.bal a.bidder a.bidD + a.bid) ∧
    (bidder ≠ a.bidder → bidder ≠ a.initiator → s'.bal bidder a.bidD = s.bal bidder a.bidD - amt) ∧
    (bidder = a.bidder → bidder ≠ a.initiator → s'.bal bidder a.bidD = s.bal bidder a.bidD - (amt - a.bid)) := by
  obtain ⟨a', _, hd, _⟩ := placeBid_at ha h
  -- each claim is the flow equation of the bid's specification read at one account
  rcases hfwd with hk | ⟨hk, hph⟩
  · rw [bidDispatch_surplus hk] at hd
    obtain ⟨_, _, _, hf⟩ := bidSurplus_spec hd
    refine ⟨fun h1 h2 _ => ?_, fun h1 _ => ?_, fun h1 _ => ?_⟩
    · have := hf a.bidder a.bidD
      simp [ind, h1, h2, Ne.symm h1] at this; omega
    · have := hf bidder a.bidD
      simp [ind, h1] at this; omega
    · have := hf bidder a.bidD
      simp [ind, h1] at this ⊢; omega
  · rw [bidDispatch_fwd hk hph] at hd
    obtain ⟨_, _, hblk, hf⟩ := bidCollateralFwd_spec hd
    refine ⟨fun h1 h2 h3 => ?_, fun h1 h3 => ?_, fun h1 h3 => ?_⟩
    · have := hf a.bidder a.bidD
      simp [ind, h1, h2, h3, Ne.symm h1, hE.ne_M (hblk ⟨h1, h2⟩)] at this; omega
    · have := hf bidder a.bidD
      simp [ind, h1, h3, hbM] at this; omega
    · have := hf bidder a.bidD
      simp [ind, h1, h1 ▸ h3, h1 ▸ hbM] at this ⊢; omega

/-- Reverse bids (the bid is constant): the outbid bidder gets the whole bid back from the new
    bidder; a re-bid by the standing bidder moves no bid coins. For a collateral auction the statement
    is for `lotD ≠ bidD` (the returned lot coins are then a different denomination). -/
theorem C06_outbid_refunded_reverse (env : Env) (hE : EnvOk env) (p : Params) (now : Int) (s s' : St)
    (id : Nat) (bidder : Addr) (denom : Denom) (amt : Int) (a : Auction) (hI : Inv env s)
    (hbM : bidder ≠ env.M) (ha : s.auc id = some a)
    (hrev : a.kind = .debt ∨ (a.kind = .collateral ∧ a.bid = a.maxBid ∧ a.lotD ≠ a.bidD))
    (hnotfirst : a.bidder ≠ a.initiator)
    (h : placeBid env p now s id bidder denom amt = .ok s') :
    (bidder ≠ a.bidder → s'.bal a.bidder a.bidD = s.bal a.bidder a.bidD + a.bid) ∧
    (bidder ≠ a.bidder → bidder ≠ a.initiator → s'.bal bidder a.bidD = s.bal bidder a.bidD - a.bid) ∧
    (bidder = a.bidder → s'.bal bidder a.bidD = s.bal bidder a.bidD) := by
  obtain ⟨a', _, hd, _⟩ := placeBid_at ha h
  rcases hrev with hk | ⟨hk, hph, hden⟩
  · rw [bidDispatch_debt hk] at hd
    obtain ⟨_, _, _, hf⟩ := bidDebt_spec hd
    have hdr : debtReturn a = 0 := if_neg hnotfirst
    refine ⟨fun h1 => ?_, fun h1 _ => ?_, fun h1 => ?_⟩
    · have := hf a.bidder a.bidD
      simp [ind, h1, Ne.symm h1, hdr] at this; omega
    · have := hf bidder a.bidD
      simp [ind, h1, hdr] at this; omega
    · have := hf bidder a.bidD
      simp [ind, h1, hdr] at this ⊢; omega
  · rw [bidDispatch_rev hk hph] at hd
    obtain ⟨_, _, _, _, _, _, parts, _, _, hf⟩ := bidCollateralRev_spec env hE p now s.bal s'.bal a a' bidder denom amt hd
    refine ⟨fun h1 => ?_, fun h1 _ => ?_, fun h1 => ?_⟩
    · have := hf a.bidder a.bidD
      simp [ind, h1, Ne.symm h1, Ne.symm hden] at this; omega
    · have := hf bidder a.bidD
      simp [ind, h1, Ne.symm hden] at this; omega
    · have := hf bidder a.bidD
      simp [ind, h1, Ne.symm hden] at this ⊢; omega

/-- First bid of a debt auction: the "standing bidder" is the initiating module; it receives the bid
    and `min(bid, debt)` of the escrowed debt, the record keeps the rest. -/
theorem C06_outbid_refunded_first_debt_bid (env : Env) (hE : EnvOk env) (p : Params) (now : Int)
    (s s' : St) (id : Nat) (bidder : Addr) (denom : Denom) (amt : Int) (a : Auction) (hI : Inv env s)
    (hbM : bidder ≠ env.M) (ha : s.auc id = some a) (hk : a.kind = .debt) (hfirst : a.bidder = a.initiator)
    (hbi : bidder ≠ a.initiator) (h : placeBid env p now s id bidder denom amt = .ok s') :
    (a.bidD ≠ a.debtD → s'.bal a.initiator a.bidD = s.bal a.initiator a.bidD + a.bid) ∧
    (a.bidD ≠ a.debtD →
        s'.bal a.initiator a.debtD = s.bal a.initiator a.debtD + (if a.bid < a.debt then a.bid else a.debt)) ∧
    s'.bal bidder a.bidD = s.bal bidder a.bidD - a.bid := by
  obtain ⟨a', _, hd, _⟩ := placeBid_at ha h
  have hini := (hI.awf ha).initiator_ne
  rw [bidDispatch_debt hk] at hd
  obtain ⟨_, _, _, hf⟩ := bidDebt_spec hd
  have hdr : debtReturn a = (if a.bid < a.debt then a.bid else a.debt) := if_pos hfirst
  refine ⟨fun hden => ?_, fun hden => ?_, ?_⟩
  · have := hf a.initiator a.bidD
    simp [ind, hini, hfirst, hbi, Ne.symm hbi, hden] at this; omega
  · have := hf a.initiator a.debtD
    simp [ind, hini, hfirst, Ne.symm hbi, Ne.symm hden] at this; omega
  · have := hf bidder a.bidD
    simp [ind, hbM, hfirst, hbi] at this; omega

/-! ## 5. End time -/

/-- "the end time never moves past the maximum end time": in every reachable state every stored
    auction has `end ≤ maxEnd`. -/
theorem C06_endtime_le_max (env : Env) (hE : EnvOk env) (p : Params) (nextId : Nat) (bal : Bal)
    (h0 : ∀ d, bal env.M d = 0) (ops : List (Int × Op)) (hops : ∀ x, x ∈ ops → OpOk env x.2)
    (i : Nat) (a : Auction) (ha : (run env p (emptySt nextId bal) ops).auc i = some a) : a.endT ≤ a.maxEnd :=
  ((run_inv env hE p ops _ (empty_inv env nextId bal h0) hops).awf ha).end_le_max

/-- An accepted bid: block time ≤ end time; `maxEnd` is set to `now + MaxAuctionDuration` by the first
    bid and never moves afterwards; the new end time is `min(now + bid duration, maxEnd)`, so it is
    ≤ `maxEnd`. A bid after the end time is refused. -/
theorem C06_endtime_bid (env : Env) (hE : EnvOk env) (p : Params) (now : Int) (s : St) (id : Nat)
    (bidder : Addr) (denom : Denom) (amt : Int) (a : Auction) (ha : s.auc id = some a) (hI : Inv env s) :
    (a.endT < now → placeBid env p now s id bidder denom amt = .err) ∧
    (∀ s', placeBid env p now s id bidder denom amt = .ok s' →
      ∃ a', s'.auc id = some a' ∧ now ≤ a.endT ∧ a'.hasBids = true ∧
        a'.maxEnd = (if a.hasBids then a.maxEnd else now + p.maxDur) ∧
        (∃ dur, (dur = p.fwdDur ∨ dur = p.revDur) ∧ a'.endT = endTime now dur a'.maxEnd) ∧
        a'.endT ≤ a'.maxEnd) := by
  refine ⟨placeBid_after_end ha, fun s' h => ?_⟩
  obtain ⟨a', hend, hd, hauc⟩ := placeBid_at ha h
  have ha' : s'.auc id = some a' := by
    rw [hauc]; exact if_pos ((bidDispatch_id hE hd).trans (hI.id_eq ha)).symm
  obtain ⟨dur, _, _, _, hdur, rfl⟩ := bidDispatch_record hE hd
  exact ⟨_, ha', hend, rfl, rfl, ⟨dur, hdur, rfl⟩, touch_end_le _ _ _ _⟩

/-- "an auction pays out only at or after its end time and only once": a close before the end time is
    refused; a successful close happened at `end ≤ now` and deletes the record, so closing the same id
    again fails with not-found; and no later operation ever stores anything under that id again. -/
theorem C06_payout_only_once (env : Env) (hE : EnvOk env) (p : Params) (now : Int) (s : St) (id : Nat)
    (hI : Inv env s) :
    (∀ a, s.auc id = some a → now < a.endT → closeAuction env now s id = .err) ∧
    (∀ s', closeAuction env now s id = .ok s' →
      (∃ a, s.auc id = some a ∧ a.endT ≤ now) ∧ s'.auc id = none ∧ id < s'.nextId ∧
      (∀ now', closeAuction env now' s' id = .notFound) ∧
      (∀ now' op s'', OpOk env op → step env p now' s' op = .ok s'' → s''.auc id = none ∧ id < s''.nextId)) := by
  refine ⟨fun a ha hlt => closeAuction_before_end ha hlt, fun s' h => ?_⟩
  have hI' := closeAuction_inv hE hI h
  obtain ⟨a, b', ha, hend, _, rfl⟩ := closeAuction_spec h
  have hnone : (deleteAuction { s with bal := b' } id).auc id = none := if_pos rfl
  have hlt : id < (deleteAuction { s with bal := b' } id).nextId := hI.lt_nextId ha
  exact ⟨⟨a, ha, hend⟩, hnone, hlt, fun now' => closeAuction_missing hnone,
    fun now' op s'' _ hs => step_keeps_none hE hI'.1 hnone hlt hs⟩

/-- `BeginBlocker` ("close only when expired", abci.go + CloseExpiredAuctions): on a state satisfying the
    invariant, where balances are non-negative (x/bank) and every bidder is an unblocked address and
    debt-auction initiators may mint (`Closable`: checked by StartDebtAuction / true of every account that
    can sign a bid), the begin blocker completes — it never reaches its `panic` — closes exactly the
    auctions whose end time is ≤ the block time and leaves every other auction untouched. -/
theorem C06_begin_block_closes_expired (env : Env) (hE : EnvOk env) (now : Int) (s : St) (hI : Inv env s)
    (hc : Closable env s) (hnn : NonNeg s.bal) :
    ∃ s', beginBlock env now s = .ok s' ∧ Inv env s' ∧
      (∀ i a, s.auc i = some a → a.endT ≤ now → s'.auc i = none) ∧
      (∀ i a, s.auc i = some a → now < a.endT → s'.auc i = some a) := by
  obtain ⟨s', h⟩ := beginBlock_ok env hE now s hI hc hnn
  obtain ⟨h1, h2, _⟩ := beginBlock_result hI.2.2 h
  exact ⟨s', h, beginBlock_inv hE hI h, h1, h2⟩

/-! ## 6. Payouts -/

/-- "At close the winner receives exactly the lot": a successful close raises the winner's balance by
    exactly the lot, returns the remaining corresponding debt to the initiator (debt and collateral
    auctions), takes from the module account exactly what the record accounted for, and changes no
    other account. (The winner is not the initiating module account — true once a bid was placed.) -/
theorem C06_payout_exact (env : Env) (hE : EnvOk env) (now : Int) (s s' : St) (id : Nat) (a : Auction)
    (hI : Inv env s) (ha : s.auc id = some a) (hwin : a.bidder ≠ a.initiator)
    (h : closeAuction env now s id = .ok s') :
    s'.bal a.bidder a.lotD = s.bal a.bidder a.lotD + a.lot ∧
    (a.kind ≠ .surplus → s'.bal a.initiator a.debtD = s.bal a.initiator a.debtD + a.debt) ∧
    (∀ d, s'.bal env.M d = s.bal env.M d - modCoins a d) ∧
    (∀ z e, z ≠ env.M → z ≠ a.bidder → z ≠ a.initiator → s'.bal z e = s.bal z e) := by
  obtain ⟨a0, b', ha0, _, hp, rfl⟩ := closeAuction_spec h
  rw [ha] at ha0; cases ha0
  have hawf := hI.awf ha
  obtain ⟨hb, _, hf⟩ := payout_spec hawf.debt_nonneg hp
  have hoM := hE.ne_M hb
  refine ⟨?_, fun hk => ?_, payout_custody hE hawf hp, fun z e h1 h2 h3 => ?_⟩
  · have := hf a.bidder a.lotD
    simp [ind, hwin, hoM] at this; exact this
  · have := hf a.initiator a.debtD
    simp [ind, hawf.initiator_ne, Ne.symm hwin, hk] at this; exact this
  · have := hf z e
    simp [ind, h1, h2, h3] at this; exact this

/-- "collateral returned in the reverse phase is split among the original depositors so the parts sum
    exactly to the amount returned with each part within one unit of its exact pro-rata share":
    an accepted reverse bid on a collateral auction takes exactly `lot − lot′` out of the module
    account and credits the return addresses with parts that form a largest-remainder split of
    `lot − lot′` by the return weights (so §1 applies to them). -/
theorem C06_payout_exact_reverse_returns (env : Env) (hE : EnvOk env) (p : Params) (now : Int)
    (s s' : St) (id : Nat) (bidder : Addr) (denom : Denom) (amt : Int) (a : Auction) (hI : Inv env s)
    (hbM : bidder ≠ env.M) (ha : s.auc id = some a) (hk : a.kind = .collateral) (hph : a.bid = a.maxBid)
    (h : placeBid env p now s id bidder denom amt = .ok s') :
    ∃ parts, IsLRSplit (a.lot - amt) a.retW parts ∧ SplitInput (a.lot - amt) a.retW ∧
      sumL parts = a.lot - amt ∧
      s'.bal env.M a.lotD = s.bal env.M a.lotD - (a.lot - amt) ∧
      (∀ z, z ≠ env.M → (a.lotD ≠ a.bidD ∨ bidder = a.bidder ∨ (z ≠ bidder ∧ z ≠ a.bidder)) →
          s'.bal z a.lotD = s.bal z a.lotD + credit z a.retAddrs parts) := by
  obtain ⟨a', _, hd, _⟩ := placeBid_at ha h
  rw [bidDispatch_rev hk hph] at hd
  obtain ⟨_, _, _, _, _, hblk, parts, hsp, ⟨b1, hpay⟩, hf⟩ :=
    bidCollateralRev_spec env hE p now s.bal s'.bal a a' bidder denom amt hd
  obtain ⟨hin, hlr⟩ := lrSplit_some hsp
  have hpd := paid_split ((hI.awf ha).weights hk) hsp
  refine ⟨parts, hlr, hin, lr_sum hlr, ?_, fun z hz hcase => ?_⟩
  · have := hf env.M a.lotD
    have hcr := payAll_credit_blocked hpay hE
    by_cases hc : bidder = a.bidder
    · simp [ind, hc, hcr, hpd] at this; omega
    · have hMo := Ne.symm (hE.ne_M (hblk hc))
      simp [ind, Ne.symm hbM, hMo, hcr, hpd] at this; omega
  · have := hf z a.lotD
    rcases hcase with hd | hc | ⟨h1, h2⟩
    · simp [ind, hz, hd] at this; omega
    · simp [ind, hz, hc] at this; omega
    · simp [ind, hz, h1, h2] at this; omega

/-! ## 7. Governance changes the parameters while auctions are open

On a live chain the six auction parameters (three durations, three increments) are changed by governance /
committee proposals while auctions are running. `runP` is a history in which every operation carries the
parameters in force when it runs. The bid theorems above (`C06_bid_rules`, `C06_endtime_bid`, the refund
theorems) are already stated for the parameters `p` of the step they speak about, i.e. the parameters IN FORCE
at that bid; the history theorems are restated here for changing parameters, and the cap on the end time is
shown to be a property of the auction record alone. -/

/-- custody over every history with parameters changing between the operations -/
theorem C06_custody_params_change (env : Env) (hE : EnvOk env) (nextId : Nat) (bal : Bal)
    (h0 : ∀ d, bal env.M d = 0) (ops : List (Params × Int × Op)) (hops : ∀ x, x ∈ ops → OpOk env x.2.2)
    (d : Denom) :
    (runP env (emptySt nextId bal) ops).bal env.M d = totalCoins (runP env (emptySt nextId bal) ops) d :=
  (runP_inv env hE ops _ (empty_inv env nextId bal h0) hops).2.1 d

/-- index exactness over every history with parameters changing between the operations -/
theorem C06_index_exact_params_change (env : Env) (hE : EnvOk env) (nextId : Nat) (bal : Bal)
    (h0 : ∀ d, bal env.M d = 0) (ops : List (Params × Int × Op)) (hops : ∀ x, x ∈ ops → OpOk env x.2.2) :
    let s := runP env (emptySt nextId bal) ops
    Sorted s.index ∧
    (∀ i a, s.auc i = some a → a.id = i ∧ (a.endT, i) ∈ s.index ∧
        (s.index.filter (fun k => decide (k.2 = i))).length = 1) ∧
    (∀ k, k ∈ s.index → ∃ a, s.auc k.2 = some a ∧ a.endT = k.1) := by
  exact (runP_inv env hE ops _ (empty_inv env nextId bal h0) hops).index_facts

/-- "the end time never moves past the maximum end time", whatever the durations are changed to and when -/
theorem C06_endtime_le_max_params_change (env : Env) (hE : EnvOk env) (nextId : Nat) (bal : Bal)
    (h0 : ∀ d, bal env.M d = 0) (ops : List (Params × Int × Op)) (hops : ∀ x, x ∈ ops → OpOk env x.2.2)
    (i : Nat) (a : Auction) (ha : (runP env (emptySt nextId bal) ops).auc i = some a) : a.endT ≤ a.maxEnd :=
  ((runP_inv env hE ops _ (empty_inv env nextId bal h0) hops).awf ha).end_le_max

/-- The cap is the auction's own: once an auction has received its first bid (which fixed `maxEnd` from the
    `MaxAuctionDuration` in force at that moment), no later operation under any later parameters — in
    particular no bid after `MaxAuctionDuration` or a bid duration was shortened or lengthened — writes
    `maxEnd` again; as long as the auction is stored, its end time stays ≤ that same `maxEnd`. -/
theorem C06_max_end_fixed_under_param_changes (env : Env) (hE : EnvOk env) (s : St) (hI : Inv env s)
    (ops : List (Params × Int × Op)) (hops : ∀ x, x ∈ ops → OpOk env x.2.2)
    (i : Nat) (a a' : Auction) (ha : s.auc i = some a) (hb : a.hasBids = true)
    (ha' : (runP env s ops).auc i = some a') :
    a'.maxEnd = a.maxEnd ∧ a'.endT ≤ a.maxEnd ∧ a'.hasBids = true := by
  have hk := runP_capKept env hE ops s hI hops i a (hI.lt_nextId ha) (Or.inr ⟨a, ha, hb, rfl⟩)
  rcases hk with hn | ⟨a2, ha2, hb2, hm2⟩
  · rw [hn] at ha'; cases ha'
  · have hle := ((runP_inv env hE ops s hI hops).awf ha2).end_le_max
    rw [ha2] at ha'; cases ha'
    exact ⟨hm2, by rw [← hm2]; exact hle, hb2⟩

/-- One bid, read with the parameters in force `p` (any): the new end time is capped by the record's own
    `maxEnd`, not by `now + p.maxDur`, when the auction already has a bid. -/
theorem C06_endtime_cap_independent_of_params (env : Env) (hE : EnvOk env) (p : Params) (now : Int) (s s' : St)
    (id : Nat) (bidder : Addr) (denom : Denom) (amt : Int) (a : Auction) (ha : s.auc id = some a)
    (hI : Inv env s) (hb : a.hasBids = true) (h : placeBid env p now s id bidder denom amt = .ok s') :
    ∃ a', s'.auc id = some a' ∧ a'.maxEnd = a.maxEnd ∧ a'.endT ≤ a.maxEnd := by
  obtain ⟨a', ha', _, _, hmax, _, hle⟩ := (C06_endtime_bid env hE p now s id bidder denom amt a ha hI).2 s' h
  simp only [hb, ite_true] at hmax
  exact ⟨a', ha', hmax, by rw [← hmax]; exact hle⟩

/-! ## Non-vacuity: a concrete two-phase auction run through the model

Parties: 0 = auction module (blocked), 1 = liquidator module (minter, burner), 4/5 = bidders,
6/7/8 = depositors. Denominations: 0 = collateral, 1 = bid coin, 3 = debt coin. -/

def exEnv : Env :=
  { M := 0, nilAddr := 99, blocked := fun a => a < 4, minter := fun a => a == 1, burner := fun a => a == 1,
    distantFuture := 1000000 }

def exParams : Params :=
  { maxDur := 100, fwdDur := 50, revDur := 10, incS := ⟨50000000000000000⟩, incD := ⟨50000000000000000⟩,
    incC := ⟨50000000000000000⟩ }

def exBal : Bal := fun a d => if a = 1 then 1000 else if a = 4 ∨ a = 5 then (if d = 1 then 500 else 0) else 0

def exOps : List (Int × Op) :=
  [ (0, .startCollateral 1 0 100 1 60 [6, 7, 8] [1, 1, 1] 3 40),   -- lot 100, max bid 60, debt 40
    (1, .placeBid 1 4 1 20),                                       -- forward bid 20 by bidder 4
    (2, .placeBid 1 5 1 60),                                       -- bidder 5 hits the max bid: reverse phase
    (3, .placeBid 1 4 0 90),                                       -- reverse bid: lot 100 → 90, 10 split 4/3/3
    (13, .beginBlock) ]                                            -- end = min(3+10, 1+100) = 13: closes

example : EnvOk exEnv := by unfold EnvOk; decide
example : ∀ x, x ∈ exOps → OpOk exEnv x.2 := by
  intro x hx
  simp only [exOps, List.mem_cons, List.mem_nil_iff, or_false] at hx
  rcases hx with rfl | rfl | rfl | rfl | rfl <;> simp [OpOk, exEnv]

/-- every operation of the example succeeds, and the balances are the ones the theorems predict -/
example :
    let s := run exEnv exParams (emptySt 1 exBal) exOps
    (step exEnv exParams 0 (emptySt 1 exBal) (.startCollateral 1 0 100 1 60 [6, 7, 8] [1, 1, 1] 3 40)).isOk = true ∧
    s.auc 1 = none ∧ s.index = [] ∧ s.nextId = 2 ∧
    s.bal 0 0 = 0 ∧ s.bal 0 3 = 0 ∧            -- module account empty again
    s.bal 4 0 = 90 ∧ s.bal 4 1 = 500 - 60 ∧     -- winner: the lot; paid the max bid once (20 was refunded, then 60)
    s.bal 5 1 = 500 ∧                           -- outbid bidder 5 made whole
    s.bal 6 0 = 4 ∧ s.bal 7 0 = 3 ∧ s.bal 8 0 = 3 ∧   -- 10 returned, split 4/3/3
    s.bal 1 3 = 1000 ∧ s.bal 1 1 = 1000 + 60 := by decide +kernel

/-! ## source tie (regenerated)

    `GoFn.Auction.*` (Generated/FnAuction.lean) is regenerated on every run from the Go source of
    x/auction/keeper/auctions.go by the function translator (tools/extract/fn*.go); the theorem says that the
    regenerated definition IS the hand-written model function.  Proof: Proofs/TieFnAuction.lean. -/

/-- `earliestTime(now.Add(d), maxEnd)`, the new end time of an auction after a bid, = `endTime now d maxEnd` -/
theorem C06_source_tie_earliestTime (now d maxEnd : Int) :
    GoFn.Auction.earliestTime_translated = true ∧
    GoFn.Auction.earliestTime (now + d) maxEnd = Go.R.ok (endTime now d maxEnd) :=
  TieFn.auction_earliestTime now d maxEnd

end KV.Auc
