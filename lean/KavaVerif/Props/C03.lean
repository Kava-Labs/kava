/-
  C03 — precisebank: 18-decimal balances are exact integers fully backed by ukava.

  "Through the extended-precision bank interface a transfer of x akava lowers the sender's balance by
   exactly x and raises the recipient's by exactly x (a transfer to oneself changes nothing), and a mint
   or burn changes only the target module's balance by exactly x; … After every successful operation each
   fractional balance lies in [0,10^12), the remainder lies in [0,10^12) and is unchanged by transfers,
   the reserve's ukava times 10^12 equals the sum of all fractional balances plus the remainder …"

  The model is KavaVerif/Model/Precisebank.lean (send.go, mint.go, burn.go transcribed); `C` is the
  conversion factor regenerated from the source. The theorems rest on the net-effect specifications of the
  three extended operations in KavaVerif/Proofs/Precisebank.lean.
-/
import KavaVerif.Proofs.Precisebank
import KavaVerif.Proofs.TieFnPrecisebank
set_option linter.unusedVariables false

namespace KV.PB

/-- the generated conversion factor is the 10^12 the property names -/
theorem C03_conversion_factor : C = 10 ^ 12 := by decide

/-- Invariant preserved by every successful `SendCoins` (ukava passthrough `u` + akava `x`) between
    non-reserve parties, *including* a transfer to oneself. -/
theorem C03_inv_send (accts : List Addr) (hn : accts.Nodup) (R : Addr) (s s' : St) (frm to : Addr)
    (u x : Int) (hfR : frm ≠ R) (htR : to ≠ R) (hf : frm ∈ accts) (ht : to ∈ accts)
    (h : Inv accts R s) (hok : send R s frm to u x = .ok s') : Inv accts R s' := by
  obtain ⟨-, -, s1, h1, h2⟩ := send_eq_ok.mp hok
  obtain ⟨f1, r1, -, -, b1⟩ := sendIf_ok h1
  have i1 : Inv accts R s1 := h.of_eq f1 r1 <| by
    rw [b1]; simp only [hfR.symm, htR.symm, and_false, if_false, Int.sub_zero, Int.add_zero]
  split at h2
  · exact sendExt_inv hn hfR htR hf ht i1 h2
  · exact h2 ▸ i1

/-- A transfer moves exactly `u·C + x` akava from sender to recipient, touches nobody else
    (the reserve only changes its hidden ukava backing), and leaves remainder and supply alone. -/
theorem C03_send_exact (R : Addr) (s s' : St) (frm to : Addr) (u x : Int)
    (hne : frm ≠ to) (hfR : frm ≠ R) (htR : to ≠ R) (hu : 0 ≤ u) (hx : 0 ≤ x)
    (hfr : ∀ a, 0 ≤ s.frac a ∧ s.frac a < C)
    (hok : send R s frm to u x = .ok s') :
    ext s' frm = ext s frm - (u * C + x) ∧ ext s' to = ext s to + (u * C + x) ∧
    (∀ a, a ≠ frm → a ≠ to → a ≠ R → s'.bal a = s.bal a ∧ s'.frac a = s.frac a) ∧
    s'.rem = s.rem ∧ s'.supply = s.supply := by
  obtain ⟨-, -, s1, h1, h2⟩ := send_eq_ok.mp hok
  obtain ⟨f1, r1, u1, -, b1⟩ := sendIf_ok h1
  have hu' : (if u > 0 then u else 0) = u := by omega
  have bf := b1 frm
  have bt := b1 to
  simp only [hne, hne.symm, and_false, and_true, if_false, hu', Int.add_zero, Int.sub_zero] at bf bt
  have hoth : ∀ a, a ≠ frm → a ≠ to → s1.bal a = s.bal a := fun a h1 h2 => by
    rw [b1]; simp only [h1, h2, and_false, if_false, Int.add_zero, Int.sub_zero]
  have e1f : ext s1 frm = ext s frm - u * C := by
    unfold ext; rw [f1, bf, Int.sub_mul, Int.sub_eq_add_neg, Int.add_right_comm, ← Int.sub_eq_add_neg]
  have e1t : ext s1 to = ext s to + u * C := by unfold ext; rw [f1, bt, Int.add_mul, Int.add_right_comm]
  split at h2
  · have e := sendExt_spec hne hfR htR h2
    exact ⟨by rw [ext_sub_of (e.sender hx) (by rw [e.frac, upd_ne hne, upd_same]), e1f, Int.sub_sub],
      by rw [ext_add_of (e.recipient hx) (by rw [e.frac, upd_same]), e1t, Int.add_assoc],
      fun a h1 h2 h3 => ⟨by rw [e.others a h1 h2 h3, hoth a h1 h2], by rw [e.frac, upd_ne h2, upd_ne h1, f1]⟩,
      e.rem.trans r1, e.supply.trans u1⟩
  · subst h2
    have : x = 0 := by omega
    subst this
    exact ⟨by rw [e1f, Int.add_zero], by rw [e1t, Int.add_zero], fun a h1 h2 _ => ⟨hoth a h1 h2, by rw [f1]⟩, r1, u1⟩

/-- A successful transfer to oneself changes nothing at all. -/
theorem C03_send_self_noop (R : Addr) (s s' : St) (a : Addr) (u x : Int)
    (hok : send R s a a u x = .ok s') :
    (∀ r, s'.bal r = s.bal r) ∧ s'.frac = s.frac ∧ s'.rem = s.rem ∧ s'.supply = s.supply ∧
    s'.locked = s.locked := by
  obtain ⟨-, -, s1, h1, h2⟩ := send_eq_ok.mp hok
  obtain ⟨f1, r1, u1, l1, b1⟩ := sendIf_ok h1
  have : s' = s1 := by
    split at h2
    · exact sendExt_self h2
    · exact h2
  subst this
  exact ⟨fun r => by rw [b1]; omega, f1, r1, u1, l1⟩

/-- The reserve→recipient carry of a transfer can never fail: the `panic` in send.go is unreachable
    from states satisfying the invariant (this is also C02's precisebank obligation). -/
theorem C03_send_never_panics (accts : List Addr) (hn : accts.Nodup) (R : Addr) (s : St)
    (frm to : Addr) (x : Int) (hfR : frm ≠ R) (htR : to ≠ R) (hf : frm ∈ accts) (ht : to ∈ accts)
    (hRlock : s.locked R = 0) (h : Inv accts R s) : sendExt R s frm to x ≠ .panic := by
  fun_cases sendExt R s frm to x <;> intro hp <;> cases hp
  -- the only panicking branch: the first two bank steps passed and the reserve's carry did not
  rename_i hne _ _ _ _ _ _ _ s1 h1 s2 h2 h3
  obtain ⟨s3, h3'⟩ := sendExt_carry_ok x hn hne hfR htR hf ht hRlock h h1 h2
  cases h3'.symm.trans h3

/-- "An operation fails exactly when bank rules require it": between distinct non-reserve parties,
    from any state satisfying the invariant, an akava transfer succeeds **iff** the sender's spendable
    extended balance covers the amount (`locked ≤ balance` is x/auth's own invariant, the reserve
    holds no vesting lock). -/
theorem C03_send_succeeds_iff (accts : List Addr) (hn : accts.Nodup) (R : Addr) (s : St) (frm to : Addr)
    (x : Int) (hne : frm ≠ to) (hfR : frm ≠ R) (htR : to ≠ R) (hf : frm ∈ accts) (ht : to ∈ accts)
    (hx : 0 ≤ x) (hlock : s.locked frm ≤ s.bal frm) (hRlock : s.locked R = 0) (h : Inv accts R s) :
    (∃ s', sendExt R s frm to x = .ok s') ↔ x ≤ extSpendable R s frm := by
  obtain ⟨e, -, -, e0, -⟩ := split_amounts (b := s.frac frm - x % C < 0) (c := s.frac to + x % C ≥ C)
    Iff.rfl Iff.rfl Iff.rfl (x / C) rfl
  have hq := Int.ediv_nonneg hx (Int.le_of_lt C_pos)
  -- the sender is debited `x / C` + borrow ukava in two steps (`e`); the third step, the reserve's carry, cannot fail
  rw [le_extSpendable_iff hfR hlock (h.1 frm), borrow, ← e, ← e0 hq,
    ← sendIf_twice_isSome hne hlock (Int.zero_le_ofNat 1)]
  constructor
  · rintro ⟨s', hok⟩
    obtain ⟨s1, s2, -, h1, h2, -⟩ := (sendExt_eq_ok hne rfl).mp hok
    exact ⟨s1, s2, h1, h2⟩
  · rintro ⟨s1, s2, h1, h2⟩
    obtain ⟨s3, h3⟩ := sendExt_carry_ok x hn hne hfR htR hf ht hRlock h h1 h2
    exact ⟨_, (sendExt_eq_ok hne rfl).mpr ⟨s1, s2, s3, h1, h2, h3, rfl⟩⟩

/-- Invariant preserved by every successful `MintCoins`. -/
theorem C03_inv_mint (accts : List Addr) (hn : accts.Nodup) (R : Addr) (s s' : St) (m : Addr)
    (perm : Bool) (u x : Int) (hm : m ∈ accts) (hx : 0 ≤ x)
    (h : Inv accts R s) (hok : mint R s m perm u x = .ok s') : Inv accts R s' := by
  obtain ⟨hmR, hok⟩ := module_guard_ok (R := R) hok
  have i1 : Inv accts R (mintIf (u > 0) s m u) := h.of_eq (mintIf_frac ..) (mintIf_rem ..) <| by
    rw [mintIf_bal, if_neg fun h => hmR h.2.symm, Int.add_zero]
  split at hok
  · exact mintExt_inv hn hmR hm i1 hok
  · cases hok; exact i1

/-- A mint of `x` akava raises exactly the target module's balance by `x` and the akava in
    circulation (`supply·C − remainder`) by `x`; nobody else changes. -/
theorem C03_mint_exact (R : Addr) (s s' : St) (m : Addr) (x : Int) (hmR : m ≠ R) (hx : 0 ≤ x)
    (hfr : 0 ≤ s.frac m ∧ s.frac m < C) (hr : 0 ≤ s.rem ∧ s.rem < C)
    (hok : mintExt R s m x = .ok s') :
    ext s' m = ext s m + x ∧
    (∀ a, a ≠ m → a ≠ R → s'.bal a = s.bal a ∧ s'.frac a = s.frac a) ∧
    s'.supply * C - s'.rem = s.supply * C - s.rem + x ∧
    (s'.rem - s.rem + x) % C = 0 := by
  have e := mintExt_spec hmR hok
  refine ⟨ext_add_of (e.module hx) (by rw [e.frac, upd_same]),
    fun a h1 h2 => ⟨e.others a h1 h2, by rw [e.frac, upd_ne h1]⟩, ?_, ?_⟩
  · rw [e.supply hx, e.rem, subFrac_emod, Int.add_mul]; omega
  · rw [e.rem, subFrac_emod, show ∀ k : Int, s.rem - x + k - s.rem + x = k by omega]
    exact Int.mul_emod_left ..

/-- Invariant preserved by every successful `BurnCoins`. -/
theorem C03_inv_burn (accts : List Addr) (hn : accts.Nodup) (R : Addr) (s s' : St) (m : Addr)
    (perm : Bool) (u x : Int) (hm : m ∈ accts) (hx : 0 ≤ x)
    (h : Inv accts R s) (hok : burn R s m perm u x = .ok s') : Inv accts R s' := by
  obtain ⟨hmR, hok⟩ := module_guard_ok (R := R) hok
  split at hok
  · cases hok
  · rename_i s1 h1
    obtain ⟨f1, r1, -, b1⟩ := burnIf_ok h1
    have i1 : Inv accts R s1 := h.of_eq f1 r1 <| by
      rw [b1, if_neg fun h => hmR h.2.symm, Int.sub_zero]
    split at hok
    · exact burnExt_inv hn hmR hm i1 hok
    · cases hok; exact i1

/-- A burn of `x` akava lowers exactly the target module's balance by `x` and the akava in
    circulation by `x`; nobody else changes. -/
theorem C03_burn_exact (R : Addr) (s s' : St) (m : Addr) (x : Int) (hmR : m ≠ R) (hx : 0 ≤ x)
    (hfr : 0 ≤ s.frac m ∧ s.frac m < C) (hr : 0 ≤ s.rem ∧ s.rem < C)
    (hok : burnExt R s m x = .ok s') :
    ext s' m = ext s m - x ∧
    (∀ a, a ≠ m → a ≠ R → s'.bal a = s.bal a ∧ s'.frac a = s.frac a) ∧
    s'.supply * C - s'.rem = s.supply * C - s.rem - x ∧
    (s'.rem - s.rem - x) % C = 0 := by
  have e := burnExt_spec hmR hok
  refine ⟨ext_sub_of e.module (by rw [e.frac, upd_same]),
    fun a h1 h2 => ⟨e.others a h1 h2, by rw [e.frac, upd_ne h1]⟩, ?_, ?_⟩
  · rw [e.supply, e.rem, addFrac_emod, Int.sub_mul]; omega
  · rw [e.rem, addFrac_emod, show ∀ k : Int, s.rem + x - k - s.rem - x = -k by omega, ← Int.neg_mul]
    exact Int.mul_emod_left ..

/-- The reserve is never a legal sender of `SendCoinsFromModuleToAccount`, never a legal recipient of
    `SendCoinsFromAccountToModule`, blocked recipients are refused, and mint/burn on the reserve or
    without permission abort. -/
theorem C03_guards (R : Addr) (blocked : Addr → Bool) (s : St) (a b : Addr) (u x : Int) :
    send R s R b u x = .err ∧ send R s a R u x = .err ∧
    sendModuleToAccount R blocked s R b u x = .err ∧
    (blocked b = true → sendModuleToAccount R blocked s a b u x = .err) ∧
    sendAccountToModule R s a R u x = .err ∧
    mint R s R true u x = .panic ∧ burn R s R true u x = .panic ∧
    (a ≠ R → mint R s a false u x = .panic) ∧ (a ≠ R → burn R s a false u x = .panic) :=
  ⟨by simp [send], by simp [send], by simp [sendModuleToAccount],
    fun hb => by simp only [sendModuleToAccount, hb, if_true, ite_self], by simp [sendAccountToModule], by simp [mint],
    by simp [burn], fun h => by simp [mint, h], fun h => by simp [burn, h]⟩

/-- the five calls of the extended bank interface -/
inductive Op where
  | send (frm to : Addr) (u x : Int)
  | m2a (frm to : Addr) (u x : Int)
  | a2m (frm to : Addr) (u x : Int)
  | mint (m : Addr) (perm : Bool) (u x : Int)
  | burn (m : Addr) (perm : Bool) (u x : Int)

def Op.run (R : Addr) (blocked : Addr → Bool) (s : St) : Op → Res
  | .send f t u x => KV.PB.send R s f t u x
  | .m2a f t u x => sendModuleToAccount R blocked s f t u x
  | .a2m f t u x => sendAccountToModule R s f t u x
  | .mint m p u x => KV.PB.mint R s m p u x
  | .burn m p u x => KV.PB.burn R s m p u x

/-- well-formed call: parties are known accounts, amounts are non-negative (sdk.Coins are) -/
def Op.wf (accts : List Addr) : Op → Prop
  | .send f t u x | .m2a f t u x | .a2m f t u x => f ∈ accts ∧ t ∈ accts ∧ 0 ≤ u ∧ 0 ≤ x
  | .mint m _ u x | .burn m _ u x => m ∈ accts ∧ 0 ≤ u ∧ 0 ≤ x

/-- what baseapp leaves behind: the new state on success, the old state on error or panic -/
def Op.step (R : Addr) (blocked : Addr → Bool) (s : St) (op : Op) : St :=
  match op.run R blocked s with
  | .ok s' => s'
  | _ => s

theorem C03_inv_send_any (accts : List Addr) (hn : accts.Nodup) (R : Addr) (s s' : St) (frm to : Addr)
    (u x : Int) (hf : frm ∈ accts) (ht : to ∈ accts)
    (h : Inv accts R s) (hok : send R s frm to u x = .ok s') : Inv accts R s' :=
  have ⟨hfR, htR, _⟩ := send_eq_ok.mp hok
  C03_inv_send accts hn R s s' frm to u x hfR htR hf ht h hok

theorem C03_inv_step (accts : List Addr) (hn : accts.Nodup) (R : Addr) (blocked : Addr → Bool) (s : St) (op : Op)
    (hwf : op.wf accts) (h : Inv accts R s) : Inv accts R (op.step R blocked s) := by
  unfold Op.step
  split
  · rename_i s' hrun
    cases op with
    | send f t u x => exact C03_inv_send_any accts hn R s s' f t u x hwf.1 hwf.2.1 h hrun
    | m2a f t u x =>
      exact C03_inv_send_any accts hn R s s' f t u x hwf.1 hwf.2.1 h (sendModuleToAccount_ok hrun)
    | a2m f t u x =>
      exact C03_inv_send_any accts hn R s s' f t u x hwf.1 hwf.2.1 h (sendAccountToModule_ok hrun)
    | mint m p u x => exact C03_inv_mint accts hn R s s' m p u x hwf.1 hwf.2.2 h hrun
    | burn m p u x => exact C03_inv_burn accts hn R s s' m p u x hwf.1 hwf.2.2 h hrun
  · exact h

/-- **Every reachable state satisfies the invariant**: from any state satisfying it (genesis does),
    after any sequence of well-formed calls — successful, failed or panicking, in any order, by any
    parties — each fractional balance and the remainder are in `[0, C)` and the reserve backs them exactly. -/
theorem C03_reachable_inv (accts : List Addr) (hn : accts.Nodup) (R : Addr) (blocked : Addr → Bool)
    (ops : List Op) (s0 : St) (hwf : ∀ op ∈ ops, op.wf accts) (h0 : Inv accts R s0) :
    Inv accts R (ops.foldl (Op.step R blocked) s0) := by
  induction ops generalizing s0 with
  | nil => exact h0
  | cons op ops ih =>
    exact ih _ (fun o ho => hwf o (List.mem_cons_of_mem _ ho))
      (C03_inv_step accts hn R blocked s0 op (hwf op (List.mem_cons_self ..)) h0)

/-! Non-vacuity: a concrete state (non-zero remainder, three fractional balances) satisfying `Inv`
    on which a borrowing+carrying transfer, a mint and a burn all succeed. -/
def exSt : St :=
  { bal := fun a => if a = 0 then 2 else if a = 1 then 5 else if a = 2 then 7 else 0,
    locked := fun _ => 0,
    frac := fun a => if a = 1 then 999999999999 else if a = 2 then 400000000000 else if a = 3 then 100000000001 else 0,
    rem := 500000000000, supply := 14 }

example : Inv [1, 2, 3] 0 exSt := by
  refine ⟨fun a => ?_, by decide, by decide, by decide⟩
  unfold exSt; rw [C_val]; dsimp only; omega

example : (send 0 exSt 2 1 0 1500000000000).isOk = true := by decide
example : (send 0 exSt 3 1 0 1).isOk = true := by decide
example : (mint 0 exSt 1 true 0 700000000000).isOk = true := by decide
example : (burn 0 exSt 2 true 0 700000000000).isOk = true := by decide
example : (Op.send 2 1 0 1500000000000).wf [1, 2, 3] := by simp [Op.wf]

/-! ## source tie (regenerated)

    `GoFn.Precisebank.*` (Generated/FnPrecisebank.lean) is regenerated on every run from the Go source of
    x/precisebank/keeper/send.go by the function translator (tools/extract/fn*.go); the theorems say that the
    regenerated definitions ARE the hand-written model functions the theorems above are about.  A source edit
    re-opens the obligation of the edited function.  Proofs: Proofs/TieFnPrecisebank.lean. -/

/-- `subFromFractionalBalance` = (`subFrac`, "borrow required") whenever both operands are below the conversion
    factor (otherwise the Go function panics; `sendExtendedCoins` passes a stored fractional balance and `amt % C`) -/
theorem C03_source_tie_subFromFractionalBalance (cur amt : Int) (h1 : cur < C) (h2 : amt < C) :
    GoFn.Precisebank.subFromFractionalBalance_translated = true ∧
    GoFn.Precisebank.subFromFractionalBalance cur amt = Go.R.ok (subFrac cur amt, decide (cur - amt < 0)) :=
  TieFn.precisebank_subFromFractionalBalance cur amt h1 h2

/-- `addToFractionalBalance` = (`addFrac`, "carry required"), same domain -/
theorem C03_source_tie_addToFractionalBalance (cur amt : Int) (h1 : cur < C) (h2 : amt < C) :
    GoFn.Precisebank.addToFractionalBalance_translated = true ∧
    GoFn.Precisebank.addToFractionalBalance cur amt = Go.R.ok (addFrac cur amt, decide (cur + amt ≥ C)) :=
  TieFn.precisebank_addToFractionalBalance cur amt h1 h2

end KV.PB
