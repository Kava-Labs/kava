import KavaVerif.Props.C15
#print axioms KV.Ante.C15_blocked_types
#print axioms KV.Ante.C15_scan_shape
#print axioms KV.Ante.C15_closure
#print axioms KV.Ante.C15_closure_converse
#print axioms KV.Ante.C15_closure_wellformed
#print axioms KV.Ante.C15_gate_closure
#print axioms KV.Ante.C15_vesting_exact
#print axioms KV.Ante.C15_vesting_top_level
#print axioms KV.Ante.C15_routing_several
#print axioms KV.Ante.C15_routing_unknown
#print axioms KV.Ante.C15_routing_eth_iff
#print axioms KV.Ante.C15_routing_eth_msgs_only_on_eth_path
#print axioms KV.Ante.C15_routing_eth_path_only_eth_msgs
#print axioms KV.Ante.C15_chain_order
#print axioms KV.Ante.C15_mempool_decorator
#print axioms KV.Ante.C15_mempool
#print axioms KV.Ante.C15_mempool_block_execution_unaffected
