import KavaVerif.Props.C19
#print axioms KV.Em.C19_nanos_per_second
#print axioms KV.Em.C19_staking_rate_changes
#print axioms KV.Em.C19_staking_rate_changes_shortfall
#print axioms KV.Em.C19_staking_partition
#print axioms KV.Em.C19_staking_partition_independent
#print axioms KV.Em.C19_params_update_keeps_accrual
#print axioms KV.Em.C19_staking_rate_changes_messages
#print axioms KV.Em.C19_staking_payout
#print axioms KV.Em.C19_staking_payout_init
#print axioms KV.Em.C19_begin_blocker_order
#print axioms KV.Em.C19_disable_once
#print axioms KV.Em.C19_disable_same_block
#print axioms KV.Em.C19_begin_block_no_panic_counterexample
#print axioms KV.Em.C19_begin_block_no_panic_partial
#print axioms KV.Em.C19_kavadist_infra_same
#print axioms KV.Em.C19_kavadist_window_counterexample
#print axioms KV.Em.C19_kavadist_window_partial
#print axioms KV.Em.C19_kavadist_never_twice
#print axioms KV.Em.C19_kavadist_inactive
#print axioms KV.Em.C19_kavadist_amount_monotone
#print axioms KV.Em.Fixed.C19_kavadist_window
#print axioms KV.Em.Fixed.C19_begin_block_no_panic
#print axioms KV.Em.Fixed.C19_kavadist_fix_conservative
#print axioms KV.Em.C19_kavadist_window_live
#print axioms KV.Em.C19_begin_block_no_panic_live
#print axioms KV.Em.C19_source_tie_calculateStakingRewards
